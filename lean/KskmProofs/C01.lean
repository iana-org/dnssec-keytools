/-
  C01 — every emitted signature is a valid RRSIG over exactly the published DNSKEY set.

  Up to §3 every theorem is for EVERY token oracle `tok`, every starting state `s`, every hash function and
  software verifier (`ext`); the completion theorems of §4 / §5 are for a token described at store level.
  What is proved is what the TOOL adds on top of the primitives: which
  octets it asks to be signed, with which key and mechanism, over which key set, with which field
  values, and that nothing leaves `signBundle` without the software verifier having accepted it over
  exactly the published set.  Unforgeability of the signature scheme and collision resistance of the
  hash are assumptions outside the theorems (DESIGN §4/C01 "Limits").

    §1  one signature (`signKeys_spec`), its to-be-signed octets = RFC 4034 §3.1.8.1 (`sigSpec_rfc4034`),
        what reaches the token (`token_input_spec`); one bundle (`C01_main`), all bundles
        (`C01_all_bundles`), response-side re-validation (`C01_verified_again`)
    §2  completion under explicit well-formedness (`C01_completes_partial`)
    §3  ECDSA on the pinned tree (finding F4), and non-vacuity examples for what precedes
    §4  a store-level description of the token with RSA keys (`HealthyWorld`)
    §5  completion from a store-level description, for schemas of RSA keys, EC keys or both
        (`C01_completes_any`, `C01_slot_completes_iff`, `C01_completes_ecdsa`, and `C01_completes` for the
        world of §4); finding F4 as a theorem (`C01_ecdsa_published_key_has_prefix`)
-/
import Kskm.Signer
import KskmProofs.Lemmas.TokM
import KskmProofs.Lemmas.Base64
import KskmProofs.Lemmas.SignerKeys
import KskmProofs.Lemmas.SignerInv
import KskmProofs.Lemmas.SignerRun
import KskmProofs.Lemmas.SignerEc
import KskmProofs.C14
import KskmProofs.C15
import KskmProofs.C02
import KskmProofs.Lemmas.SignerComplete
import KskmProofs.Lemmas.SignerCompleteExample
import KskmProofs.Lemmas.C01Any
import KskmProofs.Lemmas.C01AnyExample
namespace Kskm.C01

/-! ## §1 What every emitted signature is -/

theorem ktsAdd_unique (ttl : Int) (keys : List Key) (k : Key)
    (h : keys.Pairwise (fun a b => a.publicKey ≠ b.publicKey)) :
    (ktsAdd ttl keys k).Pairwise (fun a b => a.publicKey ≠ b.publicKey) :=
  Kskm.ktsAdd_unique ttl keys k h

/-- What C01 states about one signature `σ` made by the composite key `sk` over the key set `keys`
    for a bundle with the given inception / expiration under KSK policy `pol`.  Witnesses: `dnsKey`
    the record of the signing key AS PUBLISHED in `keys`, `raw` the to-be-signed octets, `sigBytes`
    the signature octets, `pk` the public key text of the token key. -/
structure SigSpec (ext : Externals) (inception expiration : Int) (pol : KskPolicy) (keys : List Key)
    (sk : CompositeKey) (σ : Signature) (dnsKey : Key) (raw sigBytes : Bytes) (pk : String) : Prop where
  /-- the signing key is published in the set, under its identifier, exactly once -/
  published : ktsGet keys sk.dns.keyIdentifier = .ok (some dnsKey)
  pubkey : sk.p11.publicKey = some pk
  tbs : makeRawRrsig { σ with signatureData := "" } keys = .ok raw
  verified : ext.verify sk.dns.algorithm pk raw sigBytes = .valid
  sigData : σ.signatureData = Base64.encode sigBytes
  inception : σ.inception = inception
  expiration : σ.expiration = expiration
  ttl : σ.ttl = pol.ttl
  originalTtl : σ.originalTtl = pol.ttl
  signersName : σ.signersName = pol.signersName
  root : pol.signersName = "."
  labels : σ.labels = 0
  typeCovered : σ.typeCovered = 48
  algorithm : σ.algorithm = sk.dns.algorithm
  keyIdentifier : σ.keyIdentifier = sk.dns.keyIdentifier
  /-- the tag of the signing key as published: the revoked tag when it is published revoked -/
  keyTag : σ.keyTag = dnsKey.keyTag
  keysTtl : ∀ k ∈ keys, k.ttl = pol.ttl

/-- **One signature.** Whenever `_sign_keys` returns a signature — for any token — the software
    verifier accepted it over `make_raw_rrsig` of its own fields and exactly `keys`, all fields are
    the bundle's / the policy's / the published key's, and exactly ONE token operation was issued: a
    `C_Sign` on the key's private handle with mechanism and data from `_format_data_for_signing`
    over those octets. -/
theorem signKeys_spec (ext : Externals) (bundle : Bundle) (keys : List Key) (sk : CompositeKey)
    (pol : KskPolicy) (tok : Token) (s s' : TokState) (σ : Signature)
    (h : signKeys ext bundle keys sk pol tok s = (.ok σ, s')) :
    ∃ dnsKey raw sigBytes pk,
      SigSpec ext bundle.inception bundle.expiration pol keys sk σ dnsKey raw sigBytes pk ∧
      ∃ d hdl, formatDataForSigning ext.hash sk.p11 raw sk.dns.algorithm = .ok d ∧
        sk.p11.privHandle = some hdl ∧
        tok s.count (.sign sk.p11.module sk.p11.slot hdl d.mechanism d.data) = .sig sigBytes ∧
        s'.count = s.count + 1 ∧
        s'.log = (.sign sk.p11.module sk.p11.slot hdl d.mechanism d.data, .sig sigBytes) :: s.log := by
  obtain ⟨httl, dnsKey, labels, raw, sigBytes, pk, hget, hl, hraw, hsign, hpk, _, hv, rfl⟩ := signKeys_ok h
  obtain ⟨hroot, rfl⟩ := dndepth_ok hl
  obtain ⟨d, hdl, hd, hh, _, _, hans, rfl⟩ := signUsingP11_ok hsign
  exact ⟨dnsKey, raw, sigBytes, pk,
    ⟨hget, hpk, hraw, hv, rfl, rfl, rfl, rfl, rfl, rfl, hroot, rfl, rfl, rfl, rfl, rfl, httl⟩,
    d, hdl, hd, hh, hans, rfl, rfl⟩

/-- **The octets are the RFC's.** The to-be-signed octets of a `SigSpec` are the RFC 4034 §3.1.8.1
    octets — RRSIG RDATA (type covered 48, the algorithm, 0 labels, the policy TTL, the bundle's
    expiration and inception in seconds, the published key's tag), signer name root, then the DNSKEY
    RRs of exactly `keys` in canonical order (§6.3) — whatever canonical arrangement `l` an
    independent implementation picks; and every field fits its wire field. -/
theorem sigSpec_rfc4034 {ext : Externals} {inc exp : Int} {pol : KskPolicy} {keys : List Key}
    {sk : CompositeKey} {σ : Signature} {dnsKey : Key} {raw sigBytes : Bytes} {pk : String}
    (h : SigSpec ext inc exp pol keys sk σ dnsKey raw sigBytes pk) :
    ∃ rdatas, keys.mapM keyToRdata = .ok rdatas ∧
      (∀ l, C14.CanonicalOrder l rdatas →
        raw = C14.rfc4034TBS 48 sk.dns.algorithm 0 pol.ttl.toNat (tsSeconds exp).toNat
                (tsSeconds inc).toNat dnsKey.keyTag.toNat l) ∧
      sk.dns.algorithm < 256 ∧ 0 ≤ pol.ttl ∧ pol.ttl < 2 ^ 32 ∧
      0 ≤ tsSeconds exp ∧ tsSeconds exp < 2 ^ 32 ∧ 0 ≤ tsSeconds inc ∧ tsSeconds inc < 2 ^ 32 ∧
      0 ≤ dnsKey.keyTag ∧ dnsKey.keyTag < 2 ^ 16 := by
  obtain ⟨rdatas, hrd, _, _, halg, _, httl, hexp, hinc, htag, _, hraw⟩ := makeRawRrsig_ok h.tbs
  simp only [h.typeCovered, h.algorithm, h.labels, h.originalTtl, h.expiration, h.inception, h.keyTag,
    inRange, Bool.and_eq_true, decide_eq_true_eq] at halg httl hexp hinc htag hraw
  refine ⟨rdatas, hrd, ?_, halg, httl.1, by omega, hexp.1, by omega, hinc.1, by omega, htag.1, by omega⟩
  intro l hl
  rw [hraw]
  exact C14.makeRawRrsig_eq_rfc _ _ _ _ _ _ _ rdatas l hl

/-- **What reaches the token** (with C15): for host hashing and RSA (algorithms 8 and 10) the
    full-modulus-length EMSA-PKCS1-v1_5 block of the matching digest of `raw`; for host hashing and
    ECDSA the matching digest of `raw`; with hashing on the token, `raw` itself, untouched, and the
    hashing mechanism. -/
theorem token_input_spec (hash : Hasher) (key : P11Key) (raw : Bytes) (alg : Nat) (d : DataToSign)
    (h : formatDataForSigning hash key raw alg = .ok d) :
    (key.hashUsingHsm ≠ some true → (alg = 8 ∨ alg = 10) →
      ∃ pk pub digest, key.publicKey = some pk ∧ rsaDecode pk alg = .ok pub ∧
        hash (if alg = 8 then .sha256 else .sha512) raw = some digest ∧ d.mechanism = ckmRsaX509 ∧
        d.data = emsaBlock (pub.bits / 8)
          ((if alg = 8 then digestInfoSha256 else digestInfoSha512) ++ digest)) ∧
    (key.hashUsingHsm ≠ some true → (alg = 13 ∨ alg = 14) →
      d.mechanism = ckmEcdsa ∧ hash (if alg = 13 then .sha256 else .sha384) raw = some d.data) ∧
    (key.hashUsingHsm = some true → alg ∈ [5, 8, 10, 13, 14] →
      d.data = raw ∧ some d.mechanism = mechanismFor true alg) :=
  ⟨fun hk ha => C15.raw_rsa_is_emsa hash key raw alg d hk ha h,
   fun hk ha => C15.raw_ecdsa_is_digest hash key raw alg d hk ha h,
   fun hk ha => let r := C15.hash_on_token_untouched hash key raw alg d hk ha h; ⟨r.1, r.2.1⟩⟩

/-- **C01, one bundle.** Whenever `signBundle` returns a response bundle `rb` — any token, any
    state — every signature `σ` of `rb` was made by a composite key `sk` fetched for a name listed
    under `sign` of the slot's action, and satisfies `SigSpec` with `keys = rb.keys`: the software
    verifier accepted it over `make_raw_rrsig σ rb.keys`, i.e. over exactly the published set, with
    the response bundle's inception and expiration, the configured TTL, signer name root, zero labels
    and the tag of the signing key as published.  (`sigSpec_rfc4034`: those octets are the RFC's.) -/
theorem C01_main (ext : Externals) (mods : List P11Module) (cfg : SignerConfig) (slot : Nat)
    (bundle rb : Bundle) (tok : Token) (s s' : TokState)
    (h : signBundle ext mods cfg slot bundle tok s = (.ok rb, s')) :
    ∀ σ ∈ rb.signatures, ∃ act name sk dnsKey raw sigBytes pk,
      cfg.actions.lookup slot = some act ∧ name ∈ act.sign ∧ C02.KskRecord cfg name pk sk.dns ∧
      SigSpec ext rb.inception rb.expiration cfg.kskPolicy rb.keys sk σ dnsKey raw sigBytes pk ∧
      dnsKey ∈ rb.keys := by
  intro σ hσ
  obtain ⟨act, pub, rev, revoked, signing, s1, s2, s3, hact, _, _, _, hsign, _, hsigs, hfin⟩ := signBundle_ok h
  obtain ⟨_, hrb, _⟩ := finishBundle_ok hfin
  obtain ⟨new, e, h1, _, _, _⟩ := signAll_ok hsigs
  simp only [List.nil_append] at e
  rw [e] at hσ
  obtain ⟨sk, hsk, sa, sb, hrun⟩ := h1 σ hσ
  obtain ⟨dnsKey, raw, sigBytes, pk, hspec, _⟩ := signKeys_spec ext bundle rb.keys sk cfg.kskPolicy tok sa sb σ hrun
  obtain ⟨name, hn, pk', hpk', hrec⟩ := (C02.fetchedFor_of_ok hsign).2.1 sk hsk
  have : pk' = pk := by
    have := hspec.pubkey
    rw [hpk'] at this
    exact Option.some.inj this
  subst this
  have hi : rb.inception = bundle.inception := by rw [hrb]
  have he : rb.expiration = bundle.expiration := by rw [hrb]
  rw [hi, he]
  exact ⟨act, name, sk, dnsKey, raw, sigBytes, pk', hact, hn, hrec, hspec, (ktsGet_some_mem hspec.published).1⟩

/-- **C01, all bundles** — for every request, with any number of bundles: every signature of every
    response bundle is as in `C01_main`, for the slot that is the bundle's 1-based position. -/
theorem C01_all_bundles (ext : Externals) (mods : List P11Module) (cfg : SignerConfig) (req : Request)
    (rbs : List Bundle) (tok : Token) (s s' : TokState)
    (h : signBundles ext mods cfg req tok s = (.ok rbs, s')) :
    rbs.length = req.bundles.length ∧
    ∀ i rb, rbs[i]? = some rb → ∀ σ ∈ rb.signatures, ∃ act name sk dnsKey raw sigBytes pk,
      cfg.actions.lookup (i + 1) = some act ∧ name ∈ act.sign ∧ C02.KskRecord cfg name pk sk.dns ∧
      SigSpec ext rb.inception rb.expiration cfg.kskPolicy rb.keys sk σ dnsKey raw sigBytes pk ∧
      dnsKey ∈ rb.keys := by
  refine ⟨(signBundles_ok h).1, ?_⟩
  intro i rb hi
  obtain ⟨b, sa, sb, _, h2⟩ := signBundles_ok_at h hi
  exact C01_main ext mods cfg (i + 1) b rb tok sa sb h2

/-- **Verified again.** With `validate_signatures` on in the response policy, a returned bundle has
    passed `validate_signatures` (the reader-side validation: key lookup by identifier in the
    published set, public key from the PUBLISHED record, `make_raw_rrsig` over the published set). -/
theorem C01_verified_again (ext : Externals) (mods : List P11Module) (cfg : SignerConfig) (slot : Nat)
    (bundle rb : Bundle) (tok : Token) (s s' : TokState)
    (hv : cfg.responsePolicy.validateSignatures = true)
    (h : signBundle ext mods cfg slot bundle tok s = (.ok rb, s')) :
    validateSignatures ext.verify rb = .ok () := by
  obtain ⟨_, _, hc⟩ := finishBundle_ok (signBundle_finish h)
  unfold checkValidSignatures at hc
  simp only [hv, Bool.not_true, Bool.false_eq_true, ↓reduceIte] at hc
  split at hc
  · simp [violation] at hc
  · simp at hc
  · assumption

/-! ## §2 Completion

Full statement (DESIGN §4/C01 `C01_completes`):

    for a token described at store level (modules → slots → objects with attributes) on which every
    key named by the schema is configured, inside its validity window and present with parameters
    matching the configuration, a healthy signature scheme, per bundle equal ZSK / signing-key
    algorithm sets and times that pack into 32 bits,  `signBundles` returns `ok`.

It is proved in §5 for keys of either family (`C01_completes_any`, `C01_completes_ecdsa`) and, as the
instance for the RSA-only hypothesis `HealthyWorld` of §4, as `C01_completes`.

Proved here, for EVERY token: `C01_completes_partial`, which starts AFTER the three `_fetch_keys` calls of
a slot — their results are hypotheses — and shows that everything the signer itself does then goes through. -/

/-- `make_raw_rrsig` succeeds EXACTLY when type, algorithm, labels, TTL, the two times (in seconds)
    and the tag pack into their wire fields (times and TTL: 32 bits), the signer name is the root, and
    every key's RDATA is decodable and fits a 16-bit length — this is what the `makeRawRrsig … = .ok raw`
    clause of `WellFormed.ready` below amounts to. -/
theorem makeRawRrsig_succeeds_iff (sig : Signature) (keys : List Key) :
    (∃ raw, makeRawRrsig sig keys = .ok raw) ↔
      (sig.typeCovered < 65536 ∧ sig.algorithm < 256 ∧ inRange 8 sig.labels = true ∧
       inRange 32 sig.originalTtl = true ∧ inRange 32 (tsSeconds sig.expiration) = true ∧
       inRange 32 (tsSeconds sig.inception) = true ∧ inRange 16 sig.keyTag = true ∧
       sig.signersName = "." ∧
       ∃ rdatas, keys.mapM keyToRdata = .ok rdatas ∧ ∀ r ∈ rdatas, r.length < 65536) := by
  constructor
  · rintro ⟨raw, h⟩
    obtain ⟨rdatas, hrd, hroot, h1, h2, h3, h4, h5, h6, h7, hlen, _⟩ := makeRawRrsig_ok h
    exact ⟨h1, h2, h3, h4, h5, h6, h7, hroot, rdatas, hrd, hlen⟩
  · rintro ⟨h1, h2, h3, h4, h5, h6, h7, hroot, rdatas, hrd, hlen⟩
    exact ⟨_, makeRawRrsig_of h1 h2 h3 h4 h5 h6 h7 hroot hrd hlen⟩

/-- Structural well-formedness of one slot once the keys are fetched: what must hold of the fetched
    signing keys `signing` and of the assembled key set `keys` for the signer to complete. -/
structure WellFormed (ext : Externals) (cfg : SignerConfig) (bundle : Bundle) (keys : List Key)
    (signing : List CompositeKey) (tok : Token) (from_ : Nat) : Prop where
  /-- the signer name is the root (the only one `dn2wire` implements) -/
  root : cfg.kskPolicy.signersName = "."
  zsks : bundle.keys ≠ []
  algs : ∀ a, a ∈ bundle.keys.map (·.algorithm) ↔ a ∈ signing.map (·.dns.algorithm)
  /-- a label names one algorithm (two configured names for one label do not disagree) -/
  idAlg : ∀ a ∈ signing, ∀ b ∈ signing, a.dns.keyIdentifier = b.dns.keyIdentifier →
    a.dns.algorithm = b.dns.algorithm
  noDupIds : hasDupIds keys = false
  /-- per signing key (`SignerReady`): published under its identifier with its public key and algorithm;
      times, TTL and tag pack into their fields and all RDATAs are decodable (`make_raw_rrsig` succeeds);
      an asymmetric key with a private handle whose data formatting succeeds; and the scheme is
      healthy from operation `from_` on: the token answers a signature the verifier accepts -/
  ready : ∀ sk ∈ signing, SignerReady ext bundle cfg.kskPolicy keys sk tok from_

/-- **Completion (partial: from the fetched keys on).** If the slot has an action, the three fetches
    returned keys, the revoked forms exist, and the slot is `WellFormed`, then `signBundle` returns a
    bundle — including the response-side re-validation when it is switched on. -/
theorem C01_completes_partial (ext : Externals) (mods : List P11Module) (cfg : SignerConfig) (slot : Nat)
    (bundle : Bundle) (tok : Token) (s s1 s2 s3 : TokState) (act : SchemaAction)
    (pub rev signing : List CompositeKey) (revoked : List Key)
    (hact : cfg.actions.lookup slot = some act)
    (hpub : fetchKeys ext mods cfg bundle true act.publish tok s = (.ok pub, s1))
    (hrev : fetchKeys ext mods cfg bundle true act.revoke tok s1 = (.ok rev, s2))
    (hrevoked : rev.mapM (fun ck => ck.dns.asRevoked) = .ok revoked)
    (hsign : fetchKeys ext mods cfg bundle false act.sign tok s2 = (.ok signing, s3))
    (hwf : WellFormed ext cfg bundle
      (slotFold cfg.kskPolicy.ttl (pub.map (·.dns)) revoked (signing.map (·.dns)) bundle.keys)
      signing tok s3.count) :
    ∃ rb s', signBundle ext mods cfg slot bundle tok s = (.ok rb, s') := by
  obtain ⟨sigs, s4, hrun, halgs, hcv⟩ :=
    signBundle_of_ready hact hpub hrev hrevoked hsign hwf.root hwf.noDupIds hwf.ready
  have hsig_ne : signing ≠ [] := by
    rintro rfl
    obtain ⟨k, hk⟩ := List.exists_mem_of_ne_nil _ hwf.zsks
    simpa using (hwf.algs k.algorithm).mp (List.mem_map.mpr ⟨k, hk, rfl⟩)
  exact ⟨_, s4, by rw [hrun, finishBundle_of
    (fun a => (hwf.algs a).trans (halgs hwf.idAlg a).symm) (hcv hsig_ne)]⟩

/-! ## §3 ECDSA on the pinned tree (DESIGN §5 F4, known finding)

`_p11_object_to_public_key` publishes, for an EC token key, `Base64.encode point` where `point` is
the SEC 1 uncompressed point INCLUDING its leading `0x04` octet: the only size check is
`(len(point) − 1) · 8 / 2 = 256` (or 384), which forces 65 (or 97) octets.  RFC 6605 §4 wants the
bare `x ‖ y`, 64 (or 96) octets.  So the DNSKEY published for an ECDSA KSK is not an RFC 6605 key and
no independent validator accepts the RRSIG — C01 as stated fails for algorithms 13 / 14 on the
pinned tree.  What DOES hold is `C01_ecdsa_partial`. -/

theorem ec_point_length_forced (point : Bytes) :
    ((point.length - 1) * 8 / 2 = 256 → point.length = 65) ∧
    ((point.length - 1) * 8 / 2 = 384 → point.length = 97) := by
  constructor <;> intro h <;> omega

/-- the text published for a point that passes the size check decodes to the point itself
    (65 / 97 octets), never to the 64 / 96 octets RFC 6605 prescribes -/
theorem C01_ecdsa_published_key_not_rfc6605 (point : Bytes)
    (want : Nat) (hw : want = 256 ∨ want = 384) (hlen : (point.length - 1) * 8 / 2 = want) :
    ∃ decoded, Base64.decode (Base64.encode point) = some decoded ∧
      decoded.length * 8 / 2 ≠ want ∧ (decoded.length = 65 ∨ decoded.length = 97) := by
  refine ⟨point, Base64.decode_encode point, ?_, ?_⟩
  · rcases hw with rfl | rfl <;> omega
  · rcases hw with rfl | rfl
    · left; omega
    · right; omega

/-- **For every token**: whenever the token says the object is an EC key and
    `_p11_object_to_public_key` yields a key text, that text is the base64 of 65 or 97 octets — it
    decodes to a key that is NOT of the RFC 6605 size (64 / 96) for either curve. -/
theorem C01_ecdsa_published_key_general (path : String) (slot handle : Nat) (tok : Token)
    (s s' : TokState) (txt : String)
    (h : p11ObjectToPublicKey path slot handle tok s = (.ok (some txt), s'))
    (hkt : tok s.count (.getAttr path slot handle ["KEY_TYPE"]) = .attrs [.num ckkEc]) :
    ∃ decoded, Base64.decode txt = some decoded ∧ (decoded.length = 65 ∨ decoded.length = 97) ∧
      decoded.length ≠ 64 ∧ decoded.length ≠ 96 := by
  obtain ⟨point, rfl, hl⟩ := ec_published_text h hkt
  exact ⟨point, Base64.decode_encode point, hl, by omega, by omega⟩

/-- a token holding a P-256 key whose `CKA_EC_POINT` is the bare SEC 1 point `04 ‖ x ‖ y` -/
def ecWitnessToken : Token := fun _ op =>
  match op with
  | .getAttr _ _ _ ["KEY_TYPE"] => .attrs [.num ckkEc]
  | .getAttr _ _ _ ["EC_POINT"] => .attrs [.bytes (4 :: List.replicate 64 0x11)]
  | .getAttr _ _ _ ["EC_PARAMS"] => .attrs [.bytes ecOidP256]
  | _ => .other

/-- **Concrete witness.** On that token the model (as the code) publishes a 65-octet key for
    algorithm 13: `_p11_object_to_public_key` answers the base64 of the point with its `0x04`. -/
theorem C01_ecdsa_witness :
    (p11ObjectToPublicKey "m" 0 7 ecWitnessToken {}).1
      = .ok (some (Base64.encode (4 :: List.replicate 64 0x11))) ∧
    (4 :: List.replicate 64 (0x11 : UInt8)).length = 65 ∧
    Base64.decode (Base64.encode (4 :: List.replicate 64 0x11)) = some (4 :: List.replicate 64 0x11) := by
  refine ⟨?_, by simp, Base64.decode_encode _⟩
  rw [C15.derived_key_ec_bare ecWitnessToken "m" 0 7 _ ecOidP256 65 (if_pos rfl) (by simp) (by decide)
    ⟨fun _ => rfl, fun _ => rfl, fun _ => rfl⟩ {}]

/-- **What holds for ECDSA** (and every other algorithm): the tool's own verifier accepted each
    emitted signature over exactly the published set, under the key text it derived from the token
    — the same statement as `C01_main`; and with host hashing the token was handed the SHA-256 /
    SHA-384 digest of those octets with `CKM_ECDSA`. -/
theorem C01_ecdsa_partial (ext : Externals) (mods : List P11Module) (cfg : SignerConfig) (slot : Nat)
    (bundle rb : Bundle) (tok : Token) (s s' : TokState)
    (h : signBundle ext mods cfg slot bundle tok s = (.ok rb, s')) :
    ∀ σ ∈ rb.signatures, (σ.algorithm = 13 ∨ σ.algorithm = 14) →
      ∃ sk dnsKey raw sigBytes pk,
        SigSpec ext rb.inception rb.expiration cfg.kskPolicy rb.keys sk σ dnsKey raw sigBytes pk ∧
        ext.verify σ.algorithm pk raw sigBytes = .valid ∧
        (sk.p11.hashUsingHsm ≠ some true → ∀ d,
          formatDataForSigning ext.hash sk.p11 raw σ.algorithm = .ok d →
          d.mechanism = ckmEcdsa ∧
          ext.hash (if σ.algorithm = 13 then .sha256 else .sha384) raw = some d.data) := by
  intro σ hσ halg
  obtain ⟨act, name, sk, dnsKey, raw, sigBytes, pk, _, _, _, hspec, _⟩ :=
    C01_main ext mods cfg slot bundle rb tok s s' h σ hσ
  refine ⟨sk, dnsKey, raw, sigBytes, pk, hspec, by rw [hspec.algorithm]; exact hspec.verified, ?_⟩
  intro hk d hd
  exact C15.raw_ecdsa_is_digest ext.hash sk.p11 raw σ.algorithm d hk halg hd

section Examples

private def exTok : Token := fun _ op => match op with | .sign .. => .sig [1, 2, 3] | _ => .other
private def exExt : Externals :=
  { hash := fun _ d => some d, verify := fun _ _ _ sg => if sg = [1, 2, 3] then .valid else .invalid }
private def exKsk : Key := ⟨"ksk", 1, 172800, 257, 3, 8, "AwEAAQ=="⟩
private def exZsk : Key := ⟨"zsk", 2, 172800, 256, 3, 8, "AwEAAg=="⟩
private def exSk : CompositeKey :=
  { p11 := { label := "ksk", keyType := .rsa, keyClass := 3, hashUsingHsm := some true,
             publicKey := some "AwEAAQ==", module := "m", slot := 0, privHandle := some 5 },
    dns := exKsk }
private def exBundle : Bundle := ⟨"b1", 1700000000000000, 1701000000000000, [exZsk], [], none⟩

/-- `signKeys` succeeds on a concrete instance, so the hypothesis of `signKeys_spec` is satisfiable -/
example : (match signKeys exExt exBundle [exKsk, exZsk] exSk {} exTok {} with
    | (.ok σ, s') => decide (σ.keyTag = 1 ∧ σ.labels = 0 ∧ σ.signatureData = Base64.encode [1, 2, 3] ∧
        s'.count = 1)
    | _ => false) = true := by decide +kernel

example : (4 :: List.replicate 64 (0x11 : UInt8)).length = 65 ∧ (65 - 1) * 8 / 2 = 256 := by decide

private def exTok2 : Token := fun _ op =>
  match op with
  | .findObjects _ _ _ => .handles [5]
  | .getAttr _ _ _ ["KEY_TYPE"] => .attrs [.num 0]
  | .getAttr _ _ _ ["MODULUS"] => .attrs [.bytes [0x80, 1]]
  | .getAttr _ _ _ ["PUBLIC_EXPONENT"] => .attrs [.bytes [1, 0, 1]]
  | .sign .. => .sig [1, 2, 3]
  | _ => .other
private def exCfg : SignerConfig :=
  { kskKeys := [("k1", { label := "ksk", algorithm := 8, validFrom := 0, rsaSize := some 16,
                         rsaExponent := some 65537, hashUsingHsm := some true })],
    actions := [(1, { publish := ["k1"], sign := ["k1"] })] }
private def exMods : List P11Module := [{ label := "hsm", path := "m", sessions := [0] }]

/-- a whole slot runs to `ok` on a concrete instance (schema action, fetches from the token, key set,
    one signature, algorithm agreement, re-validation): the hypothesis of `C01_main`,
    `C01_verified_again` and of the C02 slot theorems is satisfiable -/
example : (match signBundle exExt exMods exCfg 1 exBundle exTok2 {} with
    | (.ok rb, s') => decide (rb.keys.length = 2 ∧ rb.signatures.length = 1 ∧ rb.id = "b1" ∧
        (∀ k ∈ rb.keys, k.ttl = 172800) ∧ 0 < s'.count)
    | _ => false) = true := by decide +kernel

/-- what `exTok2` yields for the private fetch of "k1": the token key, and (`exDns`) its DNSKEY record -/
private def exPriv : P11Key :=
  { label := "ksk", keyType := .rsa, keyClass := 3, hashUsingHsm := some true,
    publicKey := some "AwEAAYAB", module := "m", slot := 0, privHandle := some 5, pubHandle := some 5 }
private def exDns : Key := ⟨"ksk", 34572, 172800, 257, 3, 8, "AwEAAYAB"⟩
private def exKeys : List Key := slotFold 172800 [exDns] [] [exDns] [exZsk]
private def exRaw : Bytes :=
  match makeRawRrsig (sigTemplate exBundle ⟨exPriv, exDns⟩ exCfg.kskPolicy 0 34572) exKeys with
  | .ok r => r
  | _ => []

/-- the hypotheses of `C01_completes_partial` are satisfiable: `WellFormed` holds of the key that
    token returns for the example schema slot, with the key set the slot assembles -/
example : WellFormed exExt exCfg exBundle exKeys [⟨exPriv, exDns⟩] exTok2 0 where
  root := rfl
  zsks := by decide
  algs := by intro a; simp [exBundle, exZsk, exDns]
  idAlg := by decide
  noDupIds := by decide +kernel
  ready := by
    intro sk hsk
    simp only [List.mem_singleton] at hsk
    subst hsk
    have hraw : makeRawRrsig (sigTemplate exBundle ⟨exPriv, exDns⟩ exCfg.kskPolicy 0 34572) exKeys
        = .ok exRaw := by
      have hs : (makeRawRrsig (sigTemplate exBundle ⟨exPriv, exDns⟩ exCfg.kskPolicy 0 34572)
          exKeys).toOption.isSome = true := by decide +kernel
      unfold exRaw
      cases h : makeRawRrsig (sigTemplate exBundle ⟨exPriv, exDns⟩ exCfg.kskPolicy 0 34572) exKeys with
      | error e => rw [h] at hs; simp [Except.toOption] at hs
      | ok r => rfl
    unfold SignerReady
    refine ⟨exDns, "AwEAAYAB", exRaw, ⟨exRaw, 64, true⟩, 5, by decide +kernel, rfl, rfl, rfl, rfl,
      by decide +kernel, hraw, by decide, by decide, rfl, rfl, ?_⟩
    intro n _
    exact ⟨[1, 2, 3], rfl, rfl⟩

end Examples

/-! ## §4 Completion from a store-level description of the token

`C01_completes_partial` (§2) starts after the three `_fetch_keys` calls.  From here on the fetches are
derived as well, from a description of the token at store level; this section states it for RSA keys.

The token is `signingToken st ok sg` (Lemmas/SignerComplete.lean): the store-backed token
`storeToken st ok` of C15 / C04 — `findObjects` filters the objects of a slot on label and class,
`getAttr` reads the attributes of a stored object, answers independent of the operation index —
which in addition answers `C_Sign(module, slot, handle, mechanism, data)` with
`sg module slot handle mechanism data`.  `loc label` says where a label lives (`KeyLoc`: module, slot,
public and private object, modulus, exponent, RFC 3110 encoding).

Hypotheses, all explicit:

* `HealthyBase ext cfg` — signer name is the root; the KSK TTL packs into 32 bits; the hash oracle
  answers.
* per request bundle `i`, for the action `act` of slot `i + 1`, `HealthyAction … b act`:
  - `names`: every name under publish / revoke / sign is a configured KSK (`HealthyName`) whose window
    contains the bundle (`C04.InWindow`), that is on the token once (`OnToken`: in module order and
    session-slot order the first slot holding the label holds exactly one public and one private RSA
    object, both with readable modulus and exponent), with the configured algorithm family, size and
    exponent (`RsaConfigured`), and whose configured key tag / DS digest match (`identity`);
  - `labelAlg`, `distinctKeys`: a label is configured with one algorithm; different labels are
    different key material (otherwise the record published under a key text need not be the
    signer's, cf. C02 §8);
  - `zsks`, `zskIds`, `zskNotKsk`, `zskRdata`: the request bundle has keys, with pairwise different
    identifiers, none equal to a KSK label, with decodable RDATA of bounded length;
  - `algs`: ZSK algorithm set = algorithm set of the keys under `sign`;
  - `expiration`, `inception`: the two times pack into 32 bits;
  - `signs`: the scheme is healthy — the software verifier accepts what the token answers, under the
    key text derived from the private object, over the octets that were formatted.

Of the full statement of DESIGN §4/C01 this section leaves out: EC keys, and EC private objects without a
readable point (both covered in §5; finding F4 concerns them); RSA tokens whose private objects lack
readable public attributes (the second lookup of `load_pkcs11_key`; `OnToken.rsa` asks for modulus and
exponent on both objects); `create_skr`'s policy assembly after `sign_bundles` (`kskSignaturePolicy`, which
needs every published key to be RSA; `C01_create_skr_completes_rsa` at the end of §5).

`C01_completes` is an instance of `C01_completes_any` (§5): a `HealthyWorld` is an `AnyHealthyWorld` all of whose keys are
RSA key pairs (`healthyWorld_any`). -/

/-- a request all of whose bundles meet a healthy action of the schema -/
structure HealthyWorld (ext : Externals) (st : Store) (sg : String → Nat → Nat → Nat → Bytes → Bytes)
    (mods : List P11Module) (cfg : SignerConfig) (loc : String → KeyLoc) (req : Request) : Prop where
  base : HealthyBase ext cfg
  slots : ∀ i b, req.bundles[i]? = some b →
    ∃ act, cfg.actions.lookup (i + 1) = some act ∧ HealthyAction ext st sg mods cfg loc b act

/-! ## §5 Completion for EC keys and for schemas of both key families; finding F4 as a theorem

§4 describes a healthy world of RSA keys.  Here the store-level description covers EC key pairs too
(Lemmas/C01Ec.lean): P-256 / P-384, CKA_EC_POINT presented wrapped in a DER OCTET STRING or bare (`EcForm`:
both rules of the `ecUnwrapChecksLength` switch), private object with or without a readable point (the second
lookup of `load_pkcs11_key`), algorithm 13 ↔ P-256, 14 ↔ P-384 (`EcConfigured`).  `AnyLoc` says for each
label whether it is an RSA or an EC key pair; `AnyHealthyAction` is `HealthyAction` of §4 over `AnyLoc`
— same hypotheses, in the same words — with the agreement of the algorithm sets (`AlgsAgree`) stated apart, so
that BOTH outcomes of the agreement check are theorems (`C01_slot_completes_iff`).

The hypothesis on the signature scheme is the one of §4 (`signs`): the verifier parameter accepts what the
token answers, under the key text derived from the token, over the octets that were formatted.  For EC keys
that key text is the base64 of `04 ‖ X ‖ Y` (finding F4: `C01_ecdsa_published_key_has_prefix`), so the
verifier of the hypothesis is the TOOL's (which strips the octet), not an RFC 6605 validator. -/

/-- what holds of one signature of a healthy slot: made by the key configured under a name listed under
    `sign`, with that key's algorithm and label, `SigSpec` under the key text derived from the token -/
def SignedAs (ext : Externals) (cfg : SignerConfig) (loc : String → AnyLoc) (act : SchemaAction) (rb : Bundle)
    (σ : Signature) : Prop :=
  ∃ name ∈ act.sign, ∃ k, cfg.kskKeys.lookup name = some k ∧ σ.algorithm = k.algorithm ∧
    σ.keyIdentifier = k.label ∧ ∃ dnsKey raw sigBytes,
      SigSpec ext rb.inception rb.expiration cfg.kskPolicy rb.keys
        (gck cfg.kskPolicy.ttl (fun l => (loc l).raw) (anyP11 loc) k false) σ dnsKey raw sigBytes
        (Base64.encode (loc k.label).raw)

/-- **Every signature of a healthy slot is `SignedAs`**: the software verifier accepted it over exactly the
    published set under the key text DERIVED FROM THE TOKEN for the configured key. -/
theorem C01_slot_signed_as (ext : Externals) (st : Store) (ok : String → Nat → Bool)
    (sg : String → Nat → Nat → Nat → Bytes → Bytes) (mods : List P11Module) (cfg : SignerConfig)
    (loc : String → AnyLoc) (slot : Nat) (b : Bundle) (act : SchemaAction)
    (hact : cfg.actions.lookup slot = some act) (ha : AnyHealthyAction ext st sg mods cfg loc b act)
    (rb : Bundle) (s s' : TokState)
    (h : signBundle ext mods cfg slot b (signingToken st ok sg) s = (.ok rb, s')) :
    ∀ σ ∈ rb.signatures, SignedAs ext cfg loc act rb σ := by
  intro σ hσ
  obtain ⟨act', pub, rev, revoked, signing, s1, s2, s3, hact', hpub, hrev, hrevoked, hsign, _, hsigs, hfin⟩ :=
    signBundle_ok h
  rw [hact] at hact'
  cases hact'
  obtain ⟨_, hrb, _⟩ := finishBundle_ok hfin
  obtain ⟨new, e, h1, _, _, _⟩ := signAll_ok hsigs
  simp only [List.nil_append] at e
  rw [e] at hσ
  obtain ⟨sk, hsk, sa, sb, hrun⟩ := h1 σ hσ
  have hcore := anyHealthyAction_core ha
  obtain ⟨name, hname, k, hk, rfl⟩ := (gslot_of_run hcore hpub hrev hrevoked hsign).2.1.mem.1 sk hsk
  obtain ⟨dnsKey, raw, sigBytes, pk, hspec, _⟩ := signKeys_spec ext b rb.keys _ cfg.kskPolicy _ sa sb σ hrun
  have hpk : some pk = some (Base64.encode (loc k.label).raw) :=
    hspec.pubkey.symm.trans (hcore.of_lookup (SchemaAction.sign_names hname) hk).ready.text
  obtain rfl := Option.some.inj hpk
  have hi : rb.inception = b.inception := by rw [hrb]
  have he : rb.expiration = b.expiration := by rw [hrb]
  rw [SignedAs, hi, he]
  exact ⟨name, hname, k, hk, hspec.algorithm, hspec.keyIdentifier, dnsKey, raw, sigBytes, hspec⟩

/-- **Completion, one slot, keys of either family.** -/
theorem C01_completes_any_slot (ext : Externals) (st : Store) (ok : String → Nat → Bool)
    (sg : String → Nat → Nat → Nat → Bytes → Bytes) (mods : List P11Module) (cfg : SignerConfig)
    (loc : String → AnyLoc) (slot : Nat) (b : Bundle) (act : SchemaAction) (hb : HealthyBase ext cfg)
    (hact : cfg.actions.lookup slot = some act) (ha : AnyHealthyAction ext st sg mods cfg loc b act)
    (hagree : AlgsAgree cfg b act) (s : TokState) :
    ∃ rb s', signBundle ext mods cfg slot b (signingToken st ok sg) s = (.ok rb, s') := by
  obtain ⟨keys, sigs, s4, hrun, hsa, hcv⟩ :=
    gslot_run ext st ok sg mods cfg _ _ slot b act hb hact (anyHealthyAction_core ha) s
  have hsne : act.sign ≠ [] := by
    intro he
    obtain ⟨z, hz⟩ := List.exists_mem_of_ne_nil _ ha.zsks
    obtain ⟨n, hn, _⟩ := (hagree z.algorithm).mp (List.mem_map.mpr ⟨z, hz, rfl⟩)
    simp [he] at hn
  exact ⟨_, s4, by rw [hrun, finishBundle_of (fun a => (hagree a).trans (hsa a).symm) (hcv hsne)]⟩

/-- **Refusal, one slot.** An action that is healthy in every other respect but whose ZSK algorithm set is
    not the algorithm set of the keys under `sign` — e.g. a schema that signs with an RSA and an EC key while
    the request carries only RSA ZSKs — is refused by the algorithm-agreement check, AFTER the signatures
    were made: `sign_bundles` raises `CreateSignatureError`, no response bundle. -/
theorem C01_refused_without_agreement (ext : Externals) (st : Store) (ok : String → Nat → Bool)
    (sg : String → Nat → Nat → Nat → Bytes → Bytes) (mods : List P11Module) (cfg : SignerConfig)
    (loc : String → AnyLoc) (slot : Nat) (b : Bundle) (act : SchemaAction) (hb : HealthyBase ext cfg)
    (hact : cfg.actions.lookup slot = some act) (ha : AnyHealthyAction ext st sg mods cfg loc b act)
    (hnot : ¬ AlgsAgree cfg b act) (s : TokState) :
    ∃ s', signBundle ext mods cfg slot b (signingToken st ok sg) s = (.error (.error .createSignature), s') := by
  obtain ⟨keys, sigs, s4, hrun, hsa, _⟩ :=
    gslot_run ext st ok sg mods cfg _ _ slot b act hb hact (anyHealthyAction_core ha) s
  have hsame : sameSet (b.keys.map (·.algorithm)) (sigs.map (·.algorithm)) = false := by
    rw [Bool.eq_false_iff]
    intro ht
    rw [sameSet_iff] at ht
    exact hnot (fun a => by rw [ht a, hsa a])
  refine ⟨s4, ?_⟩
  rw [hrun]
  simp only [finishBundle, hsame, Bool.not_false, ↓reduceIte]
  rfl

/-- **Which schemas complete.** For an action healthy in every other respect,
    over keys of either family: `sign_bundles` returns a bundle for the slot EXACTLY when the algorithm set
    of the request's ZSKs equals the algorithm set of the keys configured under `sign`.  So a schema
    signing with an RSA key and an EC key completes iff the ZSK set has keys of both algorithms (and of no
    third one); otherwise the outcome is `CreateSignatureError` (`C01_refused_without_agreement`). -/
theorem C01_slot_completes_iff (ext : Externals) (st : Store) (ok : String → Nat → Bool)
    (sg : String → Nat → Nat → Nat → Bytes → Bytes) (mods : List P11Module) (cfg : SignerConfig)
    (loc : String → AnyLoc) (slot : Nat) (b : Bundle) (act : SchemaAction) (hb : HealthyBase ext cfg)
    (hact : cfg.actions.lookup slot = some act) (ha : AnyHealthyAction ext st sg mods cfg loc b act)
    (s : TokState) :
    (∃ rb s', signBundle ext mods cfg slot b (signingToken st ok sg) s = (.ok rb, s')) ↔
      AlgsAgree cfg b act := by
  constructor
  · rintro ⟨rb, s', h⟩
    apply Classical.byContradiction
    intro hnot
    obtain ⟨s'', h'⟩ := C01_refused_without_agreement ext st ok sg mods cfg loc slot b act hb hact ha hnot s
    rw [h] at h'
    cases h'
  · intro hagree
    exact C01_completes_any_slot ext st ok sg mods cfg loc slot b act hb hact ha hagree s

/-- the mixed case in the property's words: a healthy action that signs with a key of algorithm `a₁` and
    a key of algorithm `a₂` completes only if the request bundle has a ZSK of each -/
theorem C01_mixed_needs_both (ext : Externals) (st : Store) (ok : String → Nat → Bool)
    (sg : String → Nat → Nat → Nat → Bytes → Bytes) (mods : List P11Module) (cfg : SignerConfig)
    (loc : String → AnyLoc) (slot : Nat) (b : Bundle) (act : SchemaAction) (hb : HealthyBase ext cfg)
    (hact : cfg.actions.lookup slot = some act) (ha : AnyHealthyAction ext st sg mods cfg loc b act)
    (s : TokState) (n₁ n₂ : String) (k₁ k₂ : KskKey) (h₁ : n₁ ∈ act.sign) (h₂ : n₂ ∈ act.sign)
    (l₁ : cfg.kskKeys.lookup n₁ = some k₁) (l₂ : cfg.kskKeys.lookup n₂ = some k₂)
    (_hr : isAlgorithmRsa k₁.algorithm = true) (_he : isAlgorithmEcdsa k₂.algorithm = true)
    (h : ∃ rb s', signBundle ext mods cfg slot b (signingToken st ok sg) s = (.ok rb, s')) :
    (∃ z ∈ b.keys, z.algorithm = k₁.algorithm) ∧ (∃ z ∈ b.keys, z.algorithm = k₂.algorithm) := by
  have hagree := (C01_slot_completes_iff ext st ok sg mods cfg loc slot b act hb hact ha s).mp h
  constructor
  · have := (hagree k₁.algorithm).mpr ⟨n₁, h₁, k₁, l₁, rfl⟩
    simpa using this
  · have := (hagree k₂.algorithm).mpr ⟨n₂, h₂, k₂, l₂, rfl⟩
    simpa using this

/-- a request all of whose bundles meet a healthy action of the schema (keys of either family) whose
    algorithm sets agree -/
structure AnyHealthyWorld (ext : Externals) (st : Store) (sg : String → Nat → Nat → Nat → Bytes → Bytes)
    (mods : List P11Module) (cfg : SignerConfig) (loc : String → AnyLoc) (req : Request) : Prop where
  base : HealthyBase ext cfg
  slots : ∀ i b, req.bundles[i]? = some b →
    ∃ act, cfg.actions.lookup (i + 1) = some act ∧ AnyHealthyAction ext st sg mods cfg loc b act ∧
      AlgsAgree cfg b act

/-- **C01_completes for keys of either family (RSA, ECDSA P-256 / P-384, mixed).** In a healthy world
    `sign_bundles` returns a response for the whole request, one response bundle per request bundle, and
    every signature in it is `SignedAs`: accepted by the verifier parameter over exactly the published
    set, under the key text derived from the token for the key configured under a name the slot's action
    lists under `sign`. -/
theorem C01_completes_any (ext : Externals) (st : Store) (ok : String → Nat → Bool)
    (sg : String → Nat → Nat → Nat → Bytes → Bytes) (mods : List P11Module) (cfg : SignerConfig)
    (loc : String → AnyLoc) (req : Request) (hw : AnyHealthyWorld ext st sg mods cfg loc req) (s : TokState) :
    ∃ rbs s', signBundles ext mods cfg req (signingToken st ok sg) s = (.ok rbs, s') ∧
      rbs.length = req.bundles.length ∧
      ∀ i rb, rbs[i]? = some rb → ∃ act, cfg.actions.lookup (i + 1) = some act ∧
        ∀ σ ∈ rb.signatures, SignedAs ext cfg loc act rb σ := by
  obtain ⟨rbs, s', h⟩ := signBundles_of_each (fun i b hb s => by
    obtain ⟨act, hact, ha, hag⟩ := hw.slots i b hb
    exact C01_completes_any_slot ext st ok sg mods cfg loc (i + 1) b act hw.base hact ha hag s) s
  refine ⟨rbs, s', h, (signBundles_ok h).1, ?_⟩
  intro i rb hi
  obtain ⟨b, sa, sb, hb, h2⟩ := signBundles_ok_at h hi
  obtain ⟨act, hact, ha, _⟩ := hw.slots i b hb
  exact ⟨act, hact, C01_slot_signed_as ext st ok sg mods cfg loc (i + 1) b act hact ha rb sa sb h2⟩

/-- **C01_completes_ecdsa.** In a healthy world all of whose keys are EC key pairs (`eloc`: P-256 / P-384,
    point wrapped or bare, private object with or without a readable point), with a schema and a
    well-formed request: `sign_bundles` returns `ok` with one response bundle per request bundle, and for
    every signature `σ` of every response bundle there is a name under `sign` of the slot's action,
    configured as a key `k` of algorithm 13 or 14, such that
    * `σ` has that algorithm and `SigSpec` holds — in particular the verifier parameter accepted the
      signature octets over `make_raw_rrsig σ rb.keys` under the key text derived from the token, which is
      the base64 of `04 ‖ X ‖ Y`;
    * `_format_data_for_signing` handed the token, with hashing on the token, those octets untouched with
      `CKM_ECDSA_SHA256` (13) / `CKM_ECDSA_SHA384` (14), and with hashing on the host their SHA-256 / SHA-384
      digest with `CKM_ECDSA` (the rows of C15 `mechanism_table`). -/
theorem C01_completes_ecdsa (ext : Externals) (st : Store) (ok : String → Nat → Bool)
    (sg : String → Nat → Nat → Nat → Bytes → Bytes) (mods : List P11Module) (cfg : SignerConfig)
    (eloc : String → EcLoc) (req : Request)
    (hw : AnyHealthyWorld ext st sg mods cfg (fun l => .ec (eloc l)) req) (s : TokState) :
    ∃ rbs s', signBundles ext mods cfg req (signingToken st ok sg) s = (.ok rbs, s') ∧
      rbs.length = req.bundles.length ∧
      ∀ i rb, rbs[i]? = some rb → ∀ σ ∈ rb.signatures, ∃ act name k sk dnsKey raw sigBytes d,
        cfg.actions.lookup (i + 1) = some act ∧ name ∈ act.sign ∧ cfg.kskKeys.lookup name = some k ∧
        (k.algorithm = 13 ∨ k.algorithm = 14) ∧ σ.algorithm = k.algorithm ∧
        sk.p11 = ecP11 k.label k.hashUsingHsm (eloc k.label) false ∧
        SigSpec ext rb.inception rb.expiration cfg.kskPolicy rb.keys sk σ dnsKey raw sigBytes
          (Base64.encode (4 :: (eloc k.label).xy)) ∧
        ext.verify k.algorithm (Base64.encode (4 :: (eloc k.label).xy)) raw sigBytes = .valid ∧
        formatDataForSigning ext.hash sk.p11 raw k.algorithm = .ok d ∧
        (k.hashUsingHsm = some true → d.data = raw ∧
          d.mechanism = if k.algorithm = 13 then ckmEcdsaSha256 else ckmEcdsaSha384) ∧
        (k.hashUsingHsm ≠ some true → d.mechanism = ckmEcdsa ∧
          ext.hash (if k.algorithm = 13 then .sha256 else .sha384) raw = some d.data) := by
  obtain ⟨rbs, s', h, hlen, hsig⟩ := C01_completes_any ext st ok sg mods cfg _ req hw s
  refine ⟨rbs, s', h, hlen, ?_⟩
  intro i rb hi σ hσ
  obtain ⟨act, hact, hall⟩ := hsig i rb hi
  obtain ⟨name, hname, k, hk, halg, _, dnsKey, raw, sigBytes, hspec⟩ := hall σ hσ
  obtain ⟨b, _, _, hb, _⟩ := signBundles_ok_at h hi
  obtain ⟨act', hact', ha, _⟩ := hw.slots i b hb
  obtain rfl := Option.some.inj (hact.symm.trans hact')
  have hc : EcConfigured k (eloc k.label) :=
    (ha.of_lookup (SchemaAction.sign_names hname) hk).onToken.2
  have h1314 := hc.alg_cases
  obtain ⟨d, hd⟩ := formatDataForSigning_ecdsa ext.hash
    (ecP11 k.label k.hashUsingHsm (eloc k.label) false) raw k.algorithm h1314 hw.base.hashes
  obtain ⟨_, hhost, htoken⟩ := token_input_spec ext.hash _ raw k.algorithm d hd
  refine ⟨act, name, k, _, dnsKey, raw, sigBytes, d, hact, hname, hk, h1314, halg, rfl, hspec,
    hspec.verified, hd, ?_, ?_⟩
  · intro hh
    obtain ⟨hdata, hmech⟩ := htoken hh (by rcases h1314 with h | h <;> simp [h])
    refine ⟨hdata, ?_⟩
    rcases h1314 with h | h <;> rw [h] at hmech ⊢
    · have : mechanismFor true 13 = some ckmEcdsaSha256 := by decide
      rw [this] at hmech
      simpa using hmech
    · have : mechanismFor true 14 = some ckmEcdsaSha384 := by decide
      rw [this] at hmech
      simpa using hmech
  · intro hh
    exact hhost hh h1314

/-- **Finding F4 as a theorem about the model.**  For every EC key pair that is on the token (P-256 or P-384, point wrapped or bare, private object with
    or without a readable point) under the label of a KSK configured with the curve's algorithm, inside its
    window: `load_pkcs11_key` (public and private lookup, from any state) returns a key whose token key text
    AND whose DNSKEY `publicKey` are the base64 of `0x04 ‖ X ‖ Y` — 65 octets for algorithm 13, 97 for
    algorithm 14 — not RFC 6605 §4's `X ‖ Y` (64 / 96 octets). -/
theorem C01_ecdsa_published_key_has_prefix (st : Store) (ok : String → Nat → Bool) (mods : List P11Module)
    (ksk : KskKey) (pol : KskPolicy) (b : Bundle) (L : EcLoc) (hw : C04.InWindow ksk b)
    (h : EcOnToken st mods ksk.label L) (hc : EcConfigured ksk L) (isPublic : Bool) (s : TokState) :
    ∃ ck s', loadPkcs11Key mods ksk pol b isPublic (storeToken st ok) s = (.ok (some ck), s') ∧
      ck.p11.publicKey = some (Base64.encode (4 :: L.xy)) ∧
      ck.dns.publicKey = Base64.encode (4 :: L.xy) ∧
      Base64.decode ck.dns.publicKey = some (4 :: L.xy) ∧
      ((ksk.algorithm = 13 ∧ (4 :: L.xy).length = 65 ∧ L.xy.length = 64) ∨
       (ksk.algorithm = 14 ∧ (4 :: L.xy).length = 97 ∧ L.xy.length = 96)) ∧
      ck.dns.publicKey ≠ Base64.encode L.xy := by
  obtain ⟨s', hl⟩ := loadPkcs11Key_ecOnToken st ok mods ksk pol b L hw h hc isPublic s
  refine ⟨_, s', hl, rfl, rfl, Base64.decode_encode _, ?_, ?_⟩
  · rcases hc.size h with ⟨ha, hl⟩ | ⟨ha, hl⟩
    · exact Or.inl ⟨ha, by simp [hl], hl⟩
    · exact Or.inr ⟨ha, by simp [hl], hl⟩
  · intro he
    have he' : Base64.encode (4 :: L.xy) = Base64.encode L.xy := he
    have := congrArg List.length (base64_encode_inj he')
    simp only [List.length_cons] at this
    omega

/-- … and that text is what the response PUBLISHES: in every bundle a healthy EC slot returns, each name
    under `publish` or `sign` has a record in `rb.keys` whose key text is the base64 of `04 ‖ X ‖ Y`
    (65 / 97 octets, first octet 4). -/
theorem C01_ecdsa_bundle_publishes_prefixed (ext : Externals) (st : Store) (ok : String → Nat → Bool)
    (sg : String → Nat → Nat → Nat → Bytes → Bytes) (mods : List P11Module) (cfg : SignerConfig)
    (eloc : String → EcLoc) (slot : Nat) (b : Bundle) (act : SchemaAction)
    (hact : cfg.actions.lookup slot = some act)
    (ha : AnyHealthyAction ext st sg mods cfg (fun l => .ec (eloc l)) b act) (rb : Bundle) (s s' : TokState)
    (h : signBundle ext mods cfg slot b (signingToken st ok sg) s = (.ok rb, s')) :
    ∀ name, name ∈ act.publish ∨ name ∈ act.sign → ∀ k, cfg.kskKeys.lookup name = some k →
      ∃ x ∈ rb.keys, x.publicKey = Base64.encode (4 :: (eloc k.label).xy) ∧
        Base64.decode x.publicKey = some (4 :: (eloc k.label).xy) ∧
        ((4 :: (eloc k.label).xy).length = 65 ∨ (4 :: (eloc k.label).xy).length = 97) := by
  intro name hname k hk
  obtain ⟨act', pub, rev, revoked, signing, s1, s2, s3, hact', hpub, hrev, hrevoked, hsign, hkeys, _, _⟩ :=
    signBundle_ok h
  rw [hact] at hact'
  cases hact'
  obtain ⟨epub, esign, _⟩ := gslot_of_run (anyHealthyAction_core ha) hpub hrev hrevoked hsign
  have hspec := C02.slotFold_spec cfg.kskPolicy.ttl (pub.map (·.dns)) revoked (signing.map (·.dns)) b.keys
  have hmem : dnsOf k cfg.kskPolicy.ttl (4 :: (eloc k.label).xy) ∈
      pub.map (·.dns) ++ revoked ++ signing.map (·.dns) ++ b.keys := by
    rcases hname with hn | hn
    · obtain ⟨k', hk', hm⟩ := epub.mem.2 name hn
      obtain rfl := Option.some.inj (hk.symm.trans hk')
      exact List.mem_append_left _ (List.mem_append_left _ (List.mem_append_left _
        (List.mem_map.mpr ⟨_, hm, rfl⟩)))
    · obtain ⟨k', hk', hm⟩ := esign.mem.2 name hn
      obtain rfl := Option.some.inj (hk.symm.trans hk')
      exact List.mem_append_left _ (List.mem_append_right _ (List.mem_map.mpr ⟨_, hm, rfl⟩))
  obtain ⟨x, hx, hxpk⟩ := hspec.complete _ hmem
  have hxpk' : x.publicKey = Base64.encode (4 :: (eloc k.label).xy) := hxpk
  refine ⟨x, by rw [hkeys]; exact hx, hxpk', by rw [hxpk']; exact Base64.decode_encode _, ?_⟩
  have hon : EcOnToken st mods k.label (eloc k.label) := (ha.of_lookup (SchemaAction.mem_names.mpr
    (hname.elim .inl (.inr ∘ .inr))) hk).onToken.1
  exact hon.raw_length.imp And.right And.right

theorem healthyAction_any {ext : Externals} {st : Store} {sg : String → Nat → Nat → Nat → Bytes → Bytes}
    {mods : List P11Module} {cfg : SignerConfig} {loc : String → KeyLoc} {b : Bundle} {act : SchemaAction}
    (h : HealthyAction ext st sg mods cfg loc b act) :
    AnyHealthyAction ext st sg mods cfg (fun l => .rsa (loc l)) b act ∧ AlgsAgree cfg b act := by
  refine ⟨⟨?_, h.labelAlg, h.distinctKeys, h.zsks, h.zskIds, h.zskNotKsk, h.zskRdata, h.expiration,
    h.inception, h.signs⟩, h.algs⟩
  intro name hn
  obtain ⟨ksk, hk⟩ := h.names name hn
  exact ⟨ksk, hk.configured, hk.window, ⟨hk.onToken, hk.rsa⟩, hk.identity⟩

/-- a `HealthyWorld` of §4 is an `AnyHealthyWorld`: `C01_completes` is the RSA instance of
    `C01_completes_any`, which adds that every signature is `SignedAs` -/
theorem healthyWorld_any {ext : Externals} {st : Store} {sg : String → Nat → Nat → Nat → Bytes → Bytes}
    {mods : List P11Module} {cfg : SignerConfig} {loc : String → KeyLoc} {req : Request}
    (hw : HealthyWorld ext st sg mods cfg loc req) :
    AnyHealthyWorld ext st sg mods cfg (fun l => .rsa (loc l)) req where
  base := hw.base
  slots := by
    intro i b hb
    obtain ⟨act, hact, ha⟩ := hw.slots i b hb
    exact ⟨act, hact, (healthyAction_any ha).1, (healthyAction_any ha).2⟩

/-- **C01_completes.** In a healthy world `sign_bundles` returns a response for the whole request —
    any number of bundles, from any token state — with one response bundle per request bundle; by
    `C01_all_bundles` every signature in it meets `SigSpec`. -/
theorem C01_completes (ext : Externals) (st : Store) (ok : String → Nat → Bool)
    (sg : String → Nat → Nat → Nat → Bytes → Bytes) (mods : List P11Module) (cfg : SignerConfig)
    (loc : String → KeyLoc) (req : Request) (hw : HealthyWorld ext st sg mods cfg loc req) (s : TokState) :
    ∃ rbs s', signBundles ext mods cfg req (signingToken st ok sg) s = (.ok rbs, s') ∧
      rbs.length = req.bundles.length :=
  let ⟨rbs, s', h, hl, _⟩ := C01_completes_any ext st ok sg mods cfg _ req (healthyWorld_any hw) s
  ⟨rbs, s', h, hl⟩

/-! ### Non-vacuity of §4

The world of Lemmas/SignerCompleteExample.lean: two modules (the first holds nothing), three session
slots (slot 0 a foreign key, slot 1 the RSA key pairs "KA" and "KB", slot 2 another "KA" object that
is never reached); KSK "a" with window, size, exponent and key tag configured and hashing on the
token, KSK "b" hashing on the host; schema slot 1 = publish a b / sign a / revoke b, slot 2 =
publish a / sign a a; a request with two bundles of two and one ZSKs. -/

section WorldExample
open HealthyExample

/-- the hypotheses of `C01_completes` are satisfiable -/
theorem healthyWorld_example : HealthyWorld ext store sg mods cfg loc req where
  base := base
  slots := by
    intro i b hb
    match i, hb with
    | 0, hb =>
      simp only [req, List.getElem?_cons_zero, Option.some.injEq] at hb
      subst hb
      exact ⟨act1, by decide, healthyAction1⟩
    | 1, hb =>
      simp only [req, List.getElem?_cons_succ, List.getElem?_cons_zero, Option.some.injEq] at hb
      subst hb
      exact ⟨act2, by decide, healthyAction2⟩
    | i + 2, hb => simp [req] at hb

example : ∃ rbs s', signBundles ext mods cfg req (signingToken store (fun _ _ => true) sg) {} = (.ok rbs, s') ∧
    rbs.length = 2 :=
  C01_completes ext store (fun _ _ => true) sg mods cfg loc req healthyWorld_example {}

/-- cross-check by evaluation of the model: slot 1 publishes "KA", "KB" revoked and the two ZSKs with
    one signature, slot 2 publishes "KA" and the ZSK with one signature (the repeated name signs once) -/
example : (signBundles ext mods cfg req (signingToken store (fun _ _ => true) sg) {}).1.map
    (·.map fun b => (b.keys.length, b.signatures.length)) = .ok [(4, 1), (2, 1)] := by decide +kernel

end WorldExample

/-! ### `create_skr` with RSA keys completes

The counterpart of `C01_ecdsa_create_skr_not_implemented` below, for the world of §4: in a healthy
RSA world whose ZSKs are keys `to_algorithm_policy()` accepts (RSA keys with a decodable RFC 3110 text),
`create_skr` returns the response — `_ksk_signature_policy` succeeds on every published key. -/

theorem C01_create_skr_completes_rsa (ext : Externals) (st : Store) (ok : String → Nat → Bool)
    (sg : String → Nat → Nat → Nat → Bytes → Bytes) (mods : List P11Module) (cfg : SignerConfig)
    (loc : String → KeyLoc) (req : Request) (hw : HealthyWorld ext st sg mods cfg loc req)
    (hz : ∀ b ∈ req.bundles, ∀ z ∈ b.keys, ∃ p, algorithmPolicyOfKey z = .ok p) (s : TokState) :
    ∃ resp s', createSkr ext mods cfg req (signingToken st ok sg) s = (.ok resp, s') ∧
      signBundles ext mods cfg req (signingToken st ok sg) s = (.ok resp.bundles, s') ∧
      resp.bundles.length = req.bundles.length := by
  have hw' := healthyWorld_any hw
  obtain ⟨rbs, s', h, hlen, _⟩ := C01_completes_any ext st ok sg mods cfg _ req hw' s
  have hall : ∀ (i : Nat) (rb : Bundle), rbs[i]? = some rb →
      ∀ x ∈ rb.keys, ∃ p, algorithmPolicyOfKey x = .ok p := by
    intro i rb hi
    obtain ⟨b, sa, sb, hb, h2⟩ := signBundles_ok_at h hi
    obtain ⟨act, hact, ha0⟩ := hw.slots i b hb
    obtain ⟨ha, _⟩ := healthyAction_any ha0
    obtain ⟨act', pub, rev, revoked, signing, s1, s2, s3, hact', hpub, hrev, hrevoked, hsign, hkeys, _, _⟩ :=
      signBundle_ok h2
    obtain rfl := Option.some.inj (hact.symm.trans hact')
    obtain ⟨_, _, hclass⟩ := gslot_of_run (anyHealthyAction_core ha) hpub hrev hrevoked hsign
    intro x hx
    rw [hkeys] at hx
    rcases hclass x hx with ⟨name, hname, k, hk, r⟩ | ⟨z, hzm, rfl, _⟩
    · obtain ⟨hon, hrsa⟩ : OnToken st mods k.label (loc k.label) ∧ RsaConfigured k (loc k.label) :=
        (ha.of_lookup hname hk).onToken
      have hdec := rsaDecode_raw hon k.algorithm hrsa.family
      have hpk : x.publicKey = Base64.encode (loc k.label).raw := r.pk
      unfold algorithmPolicyOfKey
      rw [r.alg, hrsa.family, hpk]
      simp only [↓reduceIte, hdec, bind, Except.bind, pure, Except.pure]
      exact ⟨_, rfl⟩
    · -- `to_algorithm_policy()` does not read the TTL
      exact hz _ (List.mem_of_getElem? hb) z hzm
  obtain ⟨kp, hkp⟩ := (kskSignaturePolicy_isOk_iff cfg.kskPolicy rbs).mpr (fun rb hrb x hx =>
    let ⟨i, hi⟩ := List.getElem?_of_mem hrb; hall i rb hi x hx)
  refine ⟨{ id := req.id, serial := req.serial, domain := req.domain, timestamp := none,
            zskPolicy := req.zskPolicy, kskPolicy := kp, bundles := rbs }, s', ?_, h, hlen⟩
  unfold createSkr
  rw [bind_run_ok _ _ _ _ _ _ h, bind_run, TokM.lift_run, hkp]
  rfl

/-! ### `create_skr` with EC keys: signing completes, the response does not

`create_skr` calls `sign_bundles` and then `_ksk_signature_policy`, which asks EVERY published key for
`to_algorithm_policy()`; `KSKM_PublicKey_ECDSA.to_algorithm_policy` raises
`RuntimeError("Creating ECDSA AlgorithmPolicy not implemented")`.  So in a healthy EC world all signatures are
made (and verified, `C01_completes_ecdsa`) — and then `create_skr` raises: no SKR is ever emitted for a
schema whose bundles publish ECDSA keys.  (C01's "emitted signatures" are therefore those of `sign_bundles`;
finding F4 is about them.) -/

theorem keyToRdata_decodes {k : Key} {r : Bytes} (h : keyToRdata k = .ok r) :
    ∃ b, Base64.decode k.publicKey = some b := by
  unfold keyToRdata at h
  split at h
  · simp [err] at h
  · cases hd : Base64.decode k.publicKey with
    | none => rw [hd] at h; simp [unsupported] at h
    | some b => exact ⟨b, rfl⟩

theorem algorithmPolicyOfKey_ecdsa (x : Key) (ha : x.algorithm = 13 ∨ x.algorithm = 14)
    (hd : ∃ b, Base64.decode x.publicKey = some b) :
    algorithmPolicyOfKey x = .error (.error .runtime) := by
  obtain ⟨b, hb⟩ := hd
  unfold algorithmPolicyOfKey
  rcases ha with h | h <;> (rw [h, hb]; rfl)

theorem ec_slot_keys_policy (ext : Externals) (st : Store) (ok : String → Nat → Bool)
    (sg : String → Nat → Nat → Nat → Bytes → Bytes) (mods : List P11Module) (cfg : SignerConfig)
    (eloc : String → EcLoc) (slot : Nat) (b : Bundle) (act : SchemaAction)
    (hact : cfg.actions.lookup slot = some act)
    (ha : AnyHealthyAction ext st sg mods cfg (fun l => .ec (eloc l)) b act) (hagree : AlgsAgree cfg b act)
    (rb : Bundle) (s s' : TokState)
    (h : signBundle ext mods cfg slot b (signingToken st ok sg) s = (.ok rb, s')) :
    rb.keys ≠ [] ∧ ∀ x ∈ rb.keys, algorithmPolicyOfKey x = .error (.error .runtime) := by
  obtain ⟨act', pub, rev, revoked, signing, s1, s2, s3, hact', hpub, hrev, hrevoked, hsign, hkeys, _, _⟩ :=
    signBundle_ok h
  rw [hact] at hact'
  cases hact'
  obtain ⟨_, _, hclass⟩ := gslot_of_run (anyHealthyAction_core ha) hpub hrev hrevoked hsign
  have hspec := C02.slotFold_spec cfg.kskPolicy.ttl (pub.map (·.dns)) revoked (signing.map (·.dns)) b.keys
  have h1314 : ∀ name ∈ act.names, ∀ k, cfg.kskKeys.lookup name = some k →
      k.algorithm = 13 ∨ k.algorithm = 14 := fun name hname k hk =>
    EcConfigured.alg_cases (L := eloc k.label) (ha.of_lookup hname hk).onToken.2
  constructor
  · obtain ⟨z, hz⟩ := List.exists_mem_of_ne_nil _ ha.zsks
    obtain ⟨x, hx, _⟩ := hspec.complete z (List.mem_append_right _ hz)
    rw [hkeys]
    exact List.ne_nil_of_mem hx
  · intro x hx
    rw [hkeys] at hx
    rcases hclass x hx with ⟨name, hname, k, hk, r⟩ | ⟨z, hz, rfl, _⟩
    · refine algorithmPolicyOfKey_ecdsa x ?_ ⟨_, by rw [r.pk]; exact Base64.decode_encode _⟩
      rw [r.alg]
      exact h1314 name hname k hk
    · obtain ⟨rd, hrd, _⟩ := ha.zskRdata z hz
      refine algorithmPolicyOfKey_ecdsa _ ?_ (keyToRdata_decodes hrd)
      obtain ⟨name, hname, k, hk, hka⟩ := (hagree z.algorithm).mp (List.mem_map.mpr ⟨z, hz, rfl⟩)
      exact hka ▸ h1314 name (SchemaAction.sign_names hname) k hk

/-- **`create_skr` never completes with EC keys** (model of the code as it is: "Creating ECDSA
    AlgorithmPolicy not implemented").  In a healthy EC world with at least one bundle — where
    `sign_bundles` DOES complete with verified signatures (`C01_completes_ecdsa`) — `create_skr` ends in
    RuntimeError, after all the `C_Sign` operations were issued. -/
theorem C01_ecdsa_create_skr_not_implemented (ext : Externals) (st : Store) (ok : String → Nat → Bool)
    (sg : String → Nat → Nat → Nat → Bytes → Bytes) (mods : List P11Module) (cfg : SignerConfig)
    (eloc : String → EcLoc) (req : Request)
    (hw : AnyHealthyWorld ext st sg mods cfg (fun l => .ec (eloc l)) req) (hne : req.bundles ≠ [])
    (s : TokState) :
    ∃ rbs s', signBundles ext mods cfg req (signingToken st ok sg) s = (.ok rbs, s') ∧
      createSkr ext mods cfg req (signingToken st ok sg) s = (.error (.error .runtime), s') := by
  obtain ⟨rbs, s', h, hlen, _⟩ := C01_completes_any ext st ok sg mods cfg _ req hw s
  refine ⟨rbs, s', h, ?_⟩
  have hall : ∀ (i : Nat) (rb : Bundle), rbs[i]? = some rb →
      rb.keys ≠ [] ∧ ∀ x ∈ rb.keys, algorithmPolicyOfKey x = .error (.error .runtime) := by
    intro i rb hi
    obtain ⟨b, sa, sb, hb, h2⟩ := signBundles_ok_at h hi
    obtain ⟨act, hact, ha, hag⟩ := hw.slots i b hb
    exact ec_slot_keys_policy ext st ok sg mods cfg eloc (i + 1) b act hact ha hag rb sa sb h2
  have hmap : ((rbs.map (·.keys)).flatten).mapM algorithmPolicyOfKey = .error (.error .runtime) := by
    apply mapM_all_error
    · cases hr : rbs with
      | nil =>
        rw [hr] at hlen
        exact absurd (List.length_eq_zero_iff.mp hlen.symm) hne
      | cons rb0 rest =>
        have h0 : rbs[0]? = some rb0 := by rw [hr]; rfl
        obtain ⟨hk0, _⟩ := hall 0 rb0 h0
        cases hk : rb0.keys with
        | nil => exact absurd hk hk0
        | cons x t => simp [hk]
    · intro x hx
      obtain ⟨l, hl, hxl⟩ := List.mem_flatten.mp hx
      obtain ⟨rb, hrb, rfl⟩ := List.mem_map.mp hl
      obtain ⟨i, hi⟩ := List.getElem?_of_mem hrb
      exact (hall i rb hi).2 x hxl
  have hpol : kskSignaturePolicy cfg.kskPolicy rbs = .error (.error .runtime) := by
    unfold kskSignaturePolicy
    rw [hmap]
    rfl
  unfold createSkr
  rw [bind_run_ok _ _ _ _ _ _ h, bind_run, TokM.lift_run, hpol]

/-- the hypotheses of `C01_create_skr_completes_rsa` are satisfiable: the RSA world of §4, whose ZSKs are
    RSA keys with decodable texts -/
example : ∃ resp s', createSkr HealthyExample.ext HealthyExample.mods HealthyExample.cfg HealthyExample.req
      (signingToken HealthyExample.store (fun _ _ => true) HealthyExample.sg) {} = (.ok resp, s') ∧
    resp.bundles.length = 2 := by
  obtain ⟨resp, s', h, _, hl⟩ := C01_create_skr_completes_rsa HealthyExample.ext HealthyExample.store
    (fun _ _ => true) HealthyExample.sg HealthyExample.mods HealthyExample.cfg HealthyExample.loc
    HealthyExample.req healthyWorld_example (by
      have key : ∀ z, z = HealthyExample.z1 ∨ z = HealthyExample.z2 → ∃ p, algorithmPolicyOfKey z = .ok p := by
        rintro z (rfl | rfl)
        · exact ⟨_, eq_okOr default (by decide +kernel)⟩
        · exact ⟨_, eq_okOr default (by decide +kernel)⟩
      intro b hb z hz
      simp only [HealthyExample.req, List.mem_cons, List.not_mem_nil, or_false] at hb
      rcases hb with rfl | rfl
      · exact key z (by simpa [HealthyExample.b1] using hz)
      · exact key z (by right; simpa [HealthyExample.b2] using hz)) {}
  exact ⟨resp, s', h, hl⟩

/-- **For every token: a response that publishes an ECDSA key is never returned by `create_skr`.**  Whenever
    `sign_bundles` returned bundles one of which publishes a key of algorithm 13 / 14 (a KSK of either
    world above, or a ZSK), `create_skr` ends in an error (`to_algorithm_policy` is not implemented for
    ECDSA) — so the mixed worlds of `C01_completes_any` complete at `sign_bundles` only. -/
theorem C01_create_skr_refuses_ecdsa (ext : Externals) (mods : List P11Module) (cfg : SignerConfig)
    (req : Request) (tok : Token) (s s' : TokState) (rbs : List Bundle)
    (h : signBundles ext mods cfg req tok s = (.ok rbs, s'))
    (hx : ∃ rb ∈ rbs, ∃ x ∈ rb.keys, isAlgorithmEcdsa x.algorithm = true) :
    ∃ e, createSkr ext mods cfg req tok s = (.error e, s') := by
  obtain ⟨rb, hrb, x, hxk, hxa⟩ := hx
  have hxe : ∃ e, algorithmPolicyOfKey x = .error e := by
    have hnr : isAlgorithmRsa x.algorithm = false := by
      simp only [isAlgorithmEcdsa, algECDSAP256, algECDSAP384, Bool.or_eq_true, beq_iff_eq] at hxa
      rcases hxa with h | h <;> rw [h] <;> decide
    unfold algorithmPolicyOfKey
    simp only [hnr, hxa, Bool.false_eq_true, ↓reduceIte]
    cases Base64.decode x.publicKey with
    | none => exact ⟨_, rfl⟩
    | some b => exact ⟨_, rfl⟩
  have hpol : ∃ e, kskSignaturePolicy cfg.kskPolicy rbs = .error e := by
    cases hk : kskSignaturePolicy cfg.kskPolicy rbs with
    | error e => exact ⟨e, rfl⟩
    | ok sp =>
      obtain ⟨p, hp⟩ := (kskSignaturePolicy_isOk_iff _ _).mp ⟨sp, hk⟩ rb hrb x hxk
      obtain ⟨e, he⟩ := hxe
      rw [he] at hp
      cases hp
  obtain ⟨e, he⟩ := hpol
  refine ⟨e, ?_⟩
  unfold createSkr
  rw [bind_run_ok _ _ _ _ _ _ h, bind_run, TokM.lift_run, he]

/-! ### Non-vacuity of §5

The world of Lemmas/C01AnyExample.lean: one module, session slots 0 (a foreign RSA key) and 1 holding "EA"
(P-256, point WRAPPED, private object WITHOUT a readable point, algorithm 13, hashing on the token), "EB"
(P-384, BARE point on both objects, algorithm 14, hashing on the host, validity window configured) and the
RSA pair "KA" (algorithm 8); schema slot 1 = publish e f / sign e f, slot 2 = publish a e / sign a e /
revoke f. -/

section EcWorldExample
open EcExample

/-- the hypotheses of `C01_completes_ecdsa` are satisfiable (EC keys only, one bundle with ZSKs of
    algorithms 13 and 14) -/
theorem ecWorld_example : AnyHealthyWorld ext store sg mods cfg (fun l => .ec (eloc l)) reqE where
  base := base
  slots := by
    intro i b hb
    match i, hb with
    | 0, hb =>
      simp only [reqE, List.getElem?_cons_zero, Option.some.injEq] at hb
      subst hb
      exact ⟨actE, by decide, healthyActionE describes_locE, agreeE⟩
    | i + 1, hb => simp [reqE] at hb

example : ∃ rbs s', signBundles ext mods cfg reqE (signingToken store (fun _ _ => true) sg) {} = (.ok rbs, s') ∧
    rbs.length = 1 := by
  obtain ⟨rbs, s', h, hl, _⟩ :=
    C01_completes_ecdsa ext store (fun _ _ => true) sg mods cfg eloc reqE ecWorld_example {}
  exact ⟨rbs, s', h, hl⟩

/-- on that world `create_skr` ends in the RuntimeError of `to_algorithm_policy` -/
example : ∃ rbs s', signBundles ext mods cfg reqE (signingToken store (fun _ _ => true) sg) {} = (.ok rbs, s') ∧
    createSkr ext mods cfg reqE (signingToken store (fun _ _ => true) sg) {} = (.error (.error .runtime), s') :=
  C01_ecdsa_create_skr_not_implemented ext store (fun _ _ => true) sg mods cfg eloc reqE ecWorld_example
    (by decide) {}

/-- evaluating the model shows the two `C_Sign` operations in the token log of that run -/
example : (createSkr ext mods cfg reqE (signingToken store (fun _ _ => true) sg) {}).1.toOption.isSome = false ∧
    ((createSkr ext mods cfg reqE (signingToken store (fun _ _ => true) sg) {}).2.log.filter
      (fun p => match p.1 with | .sign .. => true | _ => false)).length = 2 := by
  obtain ⟨_, s', _, h⟩ := C01_ecdsa_create_skr_not_implemented ext store (fun _ _ => true) sg mods cfg eloc reqE
    ecWorld_example (by decide) {}
  exact ⟨by rw [h]; rfl, by decide +kernel⟩

/-- the hypotheses of `C01_completes_any` are satisfiable with keys of both families: bundle 1 under the
    EC-only action, bundle 2 (ZSKs of algorithms 8 and 13) under the action that signs with "KA" and "EA" -/
theorem mixedWorld_example : AnyHealthyWorld ext store sg mods cfg loc reqM where
  base := base
  slots := by
    intro i b hb
    match i, hb with
    | 0, hb =>
      simp only [reqM, List.getElem?_cons_zero, Option.some.injEq] at hb
      subst hb
      exact ⟨actE, by decide, healthyActionE describes_loc, agreeE⟩
    | 1, hb =>
      simp only [reqM, List.getElem?_cons_succ, List.getElem?_cons_zero, Option.some.injEq] at hb
      subst hb
      exact ⟨actM, by decide, healthyActionM_bM, agreeM⟩
    | i + 2, hb => simp [reqM] at hb

example : ∃ rbs s', signBundles ext mods cfg reqM (signingToken store (fun _ _ => true) sg) {} = (.ok rbs, s') ∧
    rbs.length = 2 := by
  obtain ⟨rbs, s', h, hl, _⟩ :=
    C01_completes_any ext store (fun _ _ => true) sg mods cfg loc reqM mixedWorld_example {}
  exact ⟨rbs, s', h, hl⟩

/-- the mixed world by evaluation of the model: bundle 1 publishes "EA", "EB" and two ZSKs with signatures of
    algorithms 13 and 14; bundle 2 publishes "KA", "EA", "EB" revoked and two ZSKs with signatures of
    algorithms 8 and 13 (per bundle: number of keys, algorithms of the signatures, algorithms of the keys) -/
theorem mixedWorld_run :
    (signBundles ext mods cfg reqM (signingToken store (fun _ _ => true) sg) {}).1.map
      (·.map fun b => (b.keys.length, b.signatures.map (·.algorithm), b.keys.map (·.algorithm))) =
      .ok [(4, [13, 14], [13, 14, 13, 14]), (5, [8, 13], [8, 13, 14, 8, 13])] := by decide +kernel

/-- `C01_create_skr_refuses_ecdsa` on the mixed world: `sign_bundles` returns both bundles, the first with an
    ECDSA key in it, so `create_skr` ends in the RuntimeError -/
example : (createSkr ext mods cfg reqM (signingToken store (fun _ _ => true) sg) {}).1.toOption.isSome = false ∧
    ((signBundles ext mods cfg reqM (signingToken store (fun _ _ => true) sg) {}).1.toOption.isSome = true) := by
  obtain ⟨rbs, s', h, _⟩ :=
    C01_completes_any ext store (fun _ _ => true) sg mods cfg loc reqM mixedWorld_example {}
  have ev := mixedWorld_run
  rw [h] at ev
  simp only [Except.map, Except.ok.injEq] at ev
  obtain ⟨r1, _, rfl, h1, _⟩ := List.map_eq_cons_iff.mp ev
  obtain ⟨x, _, hx, ha, _⟩ := List.map_eq_cons_iff.mp (Prod.mk.inj (Prod.mk.inj h1).2).2
  obtain ⟨e, he⟩ := C01_create_skr_refuses_ecdsa ext mods cfg reqM _ {} s' _ h
    ⟨r1, List.mem_cons_self, x, by rw [hx]; exact List.mem_cons_self, by rw [ha]; decide⟩
  exact ⟨by rw [he]; rfl, by rw [h]; rfl⟩

/-- the hypotheses of `C01_refused_without_agreement` are satisfiable: the mixed action with a bundle that
    has only the RSA ZSK is refused -/
example : ∃ s', signBundle ext mods cfg 2 bR (signingToken store (fun _ _ => true) sg) {} =
    (.error (.error .createSignature), s') :=
  C01_refused_without_agreement ext store (fun _ _ => true) sg mods cfg loc 2 bR actM base (by decide)
    healthyActionM_bR not_agreeR {}

example : (signBundles ext mods cfg reqM (signingToken store (fun _ _ => true) sg) {}).1.map
    (·.map fun b => (b.keys.length, b.signatures.map (·.algorithm))) =
      .ok [(4, [13, 14]), (5, [8, 13])] := by
  have ev := mixedWorld_run
  cases hr : (signBundles ext mods cfg reqM (signingToken store (fun _ _ => true) sg) {}).1 with
  | error e => rw [hr] at ev; cases ev
  | ok rbs =>
    rw [hr] at ev
    simp only [Except.map, Except.ok.injEq] at ev ⊢
    have := congrArg (List.map fun t => (t.1, t.2.1)) ev
    rwa [List.map_map] at this

example : (signBundle ext mods cfg 2 bR (signingToken store (fun _ _ => true) sg) {}).1 =
    .error (.error .createSignature) := by
  obtain ⟨_, h⟩ := C01_refused_without_agreement ext store (fun _ _ => true) sg mods cfg loc 2 bR actM base
    (by decide) healthyActionM_bR not_agreeR {}
  rw [h]

/-- F4 on that world (`C01_ecdsa_published_key_has_prefix` at its two EC keys): the DNSKEY text `load_pkcs11_key`
    builds for "EA" (private lookup: the point comes from the second, public lookup and is unwrapped) decodes to
    65 octets starting `04`; for "EB" (bare point) to 97 octets starting `04` -/
example : (loadPkcs11Key mods kE {} bE false (storeToken store (fun _ _ => true)) {}).1.map
      (·.map fun ck => (Base64.decode ck.dns.publicKey).map fun d => (d.length, d.take 1)) =
        .ok (some (some (65, [4]))) ∧
    (loadPkcs11Key mods kF {} bE true (storeToken store (fun _ _ => true)) {}).1.map
      (·.map fun ck => (Base64.decode ck.dns.publicKey).map fun d => (d.length, d.take 1)) =
        .ok (some (some (97, [4]))) := by
  have hE := healthyE describes_loc bE (by decide)
  have hF := healthyF describes_loc bE (by decide) (by decide)
  obtain ⟨_, _, hlE, _, _, hdE, _, _⟩ := C01_ecdsa_published_key_has_prefix store (fun _ _ => true) mods kE {} bE
    (eloc "EA") hE.window hE.onToken.1 hE.onToken.2 false {}
  obtain ⟨_, _, hlF, _, _, hdF, _, _⟩ := C01_ecdsa_published_key_has_prefix store (fun _ _ => true) mods kF {} bE
    (eloc "EB") hF.window hF.onToken.1 hF.onToken.2 true {}
  rw [hlE, hlF]
  simp only [Except.map, Option.map, hdE, hdF]
  exact ⟨by decide, by decide⟩

end EcWorldExample

end Kskm.C01
