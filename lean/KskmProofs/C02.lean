/-
  C02 — the SKR contains exactly what the KSR and the signing schema dictate.

  Every theorem is for EVERY token oracle `tok`, every starting state `s`, every hash function and
  software verifier (`ext`): the token may answer anything, at any operation.  The one exception is the
  run-level order independence of §8, which needs a token whose answers do not depend on the operation
  index (`IndexFree`).
-/
import Kskm.Signer
import KskmProofs.Lemmas.TokM
import KskmProofs.Lemmas.SignerKeys
import KskmProofs.Lemmas.SignerInv
import KskmProofs.Lemmas.SignerPerm
import KskmProofs.C14
namespace Kskm.C02

/-! ## §1 Key-set algebra -/

theorem ktsAdd_ttl (ttl : Int) (keys : List Key) (k : Key) (h : ∀ x ∈ keys, x.ttl = ttl) :
    ∀ x ∈ ktsAdd ttl keys k, x.ttl = ttl :=
  Kskm.ktsAdd_ttl ttl keys k h

/-- **`add`.** The set after `add k` is the old set, plus — only when no record had `k`'s public key
    text — `k` with the TTL replaced (`{k with ttl := ttl} = k` when the TTL was already right). -/
theorem mem_ktsAdd (ttl : Int) (keys : List Key) (k x : Key) :
    x ∈ ktsAdd ttl keys k ↔
      x ∈ keys ∨ ((∀ y ∈ keys, y.publicKey ≠ k.publicKey) ∧ x = { k with ttl := ttl }) :=
  Kskm.mem_ktsAdd ttl keys k x

theorem ktsAdd_unique (ttl : Int) (keys : List Key) (k : Key)
    (h : keys.Pairwise (fun a b => a.publicKey ≠ b.publicKey)) :
    (ktsAdd ttl keys k).Pairwise (fun a b => a.publicKey ≠ b.publicKey) :=
  Kskm.ktsAdd_unique ttl keys k h

/-- **`update`.** On a set without repeated public keys, `update k` REPLACES: every record with
    another public key stays, the record with `k`'s public key (if any) goes, `k` (TTL set) enters. -/
theorem mem_ktsUpdate (ttl : Int) (keys : List Key) (k x : Key)
    (hu : keys.Pairwise (fun a b => a.publicKey ≠ b.publicKey)) :
    x ∈ ktsUpdate ttl keys k ↔
      (x ∈ keys ∧ x.publicKey ≠ k.publicKey) ∨ x = { k with ttl := ttl } :=
  Kskm.mem_ktsUpdate ttl keys k x hu

theorem ktsUpdate_unique (ttl : Int) (keys : List Key) (k : Key)
    (h : keys.Pairwise (fun a b => a.publicKey ≠ b.publicKey)) :
    (ktsUpdate ttl keys k).Pairwise (fun a b => a.publicKey ≠ b.publicKey) :=
  Kskm.ktsUpdate_unique ttl keys k h

theorem ktsUpdate_ttl (ttl : Int) (keys : List Key) (k : Key) (h : ∀ x ∈ keys, x.ttl = ttl) :
    ∀ x ∈ ktsUpdate ttl keys k, x.ttl = ttl :=
  Kskm.ktsUpdate_ttl ttl keys k h

def firstWithPk (l : List Key) (p : String) : Option Key := l.find? (fun k => k.publicKey = p)
def lastWithPk (l : List Key) (p : String) : Option Key := l.reverse.find? (fun k => k.publicKey = p)

/-- **fold of `add`** over any list, any starting set: for each public key text, what was there
    wins, otherwise the FIRST record of the list with that text enters (TTL set). -/
theorem foldl_ktsAdd_pick (ttl : Int) (l acc : List Key) (p : String) :
    firstWithPk (l.foldl (fun acc k => ktsAdd ttl acc k) acc) p
      = (firstWithPk acc p).or ((firstWithPk l p).map fun k => { k with ttl := ttl }) :=
  lookupPk_foldl_ktsAdd ttl l acc p

/-- **fold of `update`** over any list: the LAST record of the list with that text wins (TTL set),
    otherwise what was there stays. -/
theorem foldl_ktsUpdate_pick (ttl : Int) (l acc : List Key) (p : String)
    (hu : acc.Pairwise (fun a b => a.publicKey ≠ b.publicKey)) :
    firstWithPk (l.foldl (fun acc k => ktsUpdate ttl acc k) acc) p
      = ((lastWithPk l p).map fun k => { k with ttl := ttl }).or (firstWithPk acc p) :=
  lookupPk_foldl_ktsUpdate ttl l acc p hu

/-! ## §2 The key set of one slot

`P` are the DNSKEY records of the KSKs fetched for `publish`, `R` those fetched for `revoke` in their
revoked form, `S` those fetched for `sign`, `Z` the keys of the request bundle.

Property text: the key set is `{z with ttl | z ∈ Z} ∪ {k ∈ P ∪ S | no r ∈ R has k's public key} ∪ R`,
everything with the configured TTL, deduplicated by public key text.  Deduplication needs a
precedence, and the precedence is part of the specification: for each public key text `p`

    the last record of `R` with text `p`,  else the first of `P`,  else the first of `S`,
    else the first of `Z`

(`slotPick`).  In particular — the caveat of DESIGN §4/C02, not idealised away — a request key whose
public key text equals that of a KSK record is DROPPED in favour of the KSK record
(`request_key_with_ksk_pk_dropped`). -/

/-- the record chosen for public key text `p` -/
def slotPick (P R S Z : List Key) (p : String) : Option Key :=
  (lastWithPk R p).or ((firstWithPk P p).or ((firstWithPk S p).or (firstWithPk Z p)))

/-- `out` is the key set the property prescribes for a slot (up to order) -/
structure SlotKeys (ttl : Int) (P R S Z out : List Key) : Prop where
  /-- membership: exactly the chosen record of every public key text, TTL set -/
  mem : ∀ x, x ∈ out ↔ ∃ p k, slotPick P R S Z p = some k ∧ x = { k with ttl := ttl }
  /-- every key carries the configured TTL -/
  ttl : ∀ x ∈ out, x.ttl = ttl
  /-- no two entries share a public key text -/
  unique : out.Pairwise (fun a b => a.publicKey ≠ b.publicKey)

theorem slotPick_pk {P R S Z : List Key} {p : String} {k : Key} (h : slotPick P R S Z p = some k) :
    k.publicKey = p := by
  simp only [slotPick, Option.or_eq_some_iff] at h
  rcases h with h | ⟨_, h | ⟨_, h | ⟨_, h⟩⟩⟩ <;> exact lookupPk_some_pk h

theorem lookupPk_slotFold (ttl : Int) (P R S Z : List Key) (p : String) :
    lookupPk (slotFold ttl P R S Z) p = (slotPick P R S Z p).map fun k => { k with ttl := ttl } := by
  have hu : UniquePk (P.foldl (fun acc k => ktsAdd ttl acc k) []) :=
    foldl_ktsAdd_unique ttl P [] List.Pairwise.nil
  unfold slotFold slotPick lastWithPk firstWithPk
  rw [lookupPk_foldl_ktsAdd, lookupPk_foldl_ktsAdd, lookupPk_foldl_ktsUpdate _ _ _ _ hu,
    lookupPk_foldl_ktsAdd]
  simp only [lookupPk_nil, Option.none_or, Option.map_or, Option.or_assoc]
  rfl

/-- the fold that `sign_bundles` runs meets the specification, for all four lists -/
theorem slotFold_spec (ttl : Int) (P R S Z : List Key) : SlotKeys ttl P R S Z (slotFold ttl P R S Z) := by
  have hu1 : UniquePk (P.foldl (fun acc k => ktsAdd ttl acc k) []) :=
    foldl_ktsAdd_unique ttl P [] List.Pairwise.nil
  have ht1 : ∀ x ∈ P.foldl (fun acc k => ktsAdd ttl acc k) [], x.ttl = ttl :=
    foldl_ktsAdd_ttl ttl P [] (by simp)
  have hu : UniquePk (slotFold ttl P R S Z) :=
    foldl_ktsAdd_unique ttl Z _ (foldl_ktsAdd_unique ttl S _ (foldl_ktsUpdate_unique ttl R _ hu1))
  have ht : ∀ x ∈ slotFold ttl P R S Z, x.ttl = ttl :=
    foldl_ktsAdd_ttl ttl Z _ (foldl_ktsAdd_ttl ttl S _ (foldl_ktsUpdate_ttl ttl R _ ht1))
  refine ⟨?_, ht, hu⟩
  intro x
  rw [mem_iff_lookupPk hu, lookupPk_slotFold]
  constructor
  · intro h
    cases hp : slotPick P R S Z x.publicKey with
    | none => simp [hp] at h
    | some k =>
      simp only [hp, Option.map_some, Option.some.injEq] at h
      exact ⟨x.publicKey, k, hp, h.symm⟩
  · rintro ⟨p, k, hp, rfl⟩
    have : k.publicKey = p := slotPick_pk hp
    simp only [this, hp, Option.map_some]

/-! ### consequences of `SlotKeys` in the vocabulary of the property text -/

/-- nothing else slipped in: every published record is a revoked record, or a publish/sign record
    whose public key is not revoked, or a request key whose public key is no KSK's — with the TTL set -/
theorem SlotKeys.sound {ttl : Int} {P R S Z out : List Key} (h : SlotKeys ttl P R S Z out) (x : Key)
    (hx : x ∈ out) :
    (∃ r ∈ R, x = { r with ttl := ttl }) ∨
    (∃ k ∈ P ++ S, x = { k with ttl := ttl } ∧ ∀ r ∈ R, r.publicKey ≠ k.publicKey) ∨
    (∃ z ∈ Z, x = { z with ttl := ttl } ∧ ∀ k ∈ P ++ R ++ S, k.publicKey ≠ z.publicKey) := by
  obtain ⟨p, k, hp, rfl⟩ := (h.mem x).mp hx
  have hkp := slotPick_pk hp
  simp only [slotPick, lastWithPk, firstWithPk, Option.or_eq_some_iff] at hp
  have hR : ∀ {l : List Key}, l.reverse.find? (fun k => decide (k.publicKey = p)) = none →
      ∀ r ∈ l, r.publicKey ≠ p := by
    intro l hl r hr
    exact (lookupPk_eq_none (l := l.reverse)).mp hl r (List.mem_reverse.mpr hr)
  rcases hp with h1 | ⟨hr, h2 | ⟨hpn, h3 | ⟨hsn, h4⟩⟩⟩
  · exact Or.inl ⟨k, List.mem_reverse.mp (lookupPk_some_mem h1), rfl⟩
  · refine Or.inr (Or.inl ⟨k, List.mem_append_left _ (lookupPk_some_mem h2), rfl, ?_⟩)
    intro r hr'; rw [hkp]; exact hR hr r hr'
  · refine Or.inr (Or.inl ⟨k, List.mem_append_right _ (lookupPk_some_mem h3), rfl, ?_⟩)
    intro r hr'; rw [hkp]; exact hR hr r hr'
  · refine Or.inr (Or.inr ⟨k, lookupPk_some_mem h4, rfl, ?_⟩)
    intro y hy
    rw [hkp]
    simp only [List.mem_append] at hy
    rcases hy with (hy | hy) | hy
    · exact lookupPk_eq_none.mp hpn y hy
    · exact hR hr y hy
    · exact lookupPk_eq_none.mp hsn y hy

/-- nothing is missing: every public key text occurring in `P`, `R`, `S` or `Z` is represented -/
theorem SlotKeys.complete {ttl : Int} {P R S Z out : List Key} (h : SlotKeys ttl P R S Z out) (k : Key)
    (hk : k ∈ P ++ R ++ S ++ Z) : ∃ x ∈ out, x.publicKey = k.publicKey := by
  have inl : ∀ {a b : Option Key}, (∃ k', a = some k') → ∃ k', a.or b = some k' := by
    rintro _ b ⟨k', rfl⟩; exact ⟨k', rfl⟩
  have inr : ∀ {a b : Option Key}, (∃ k', b = some k') → ∃ k', a.or b = some k' := by
    rintro (_ | a) _ ⟨k', rfl⟩ <;> exact ⟨_, rfl⟩
  have : ∃ k', slotPick P R S Z k.publicKey = some k' := by
    simp only [List.mem_append] at hk
    rcases hk with ((hk | hk) | hk) | hk
    · exact inr (inl (lookupPk_isSome_of_mem hk))
    · exact inl (lookupPk_isSome_of_mem (List.mem_reverse.mpr hk))
    · exact inr (inr (inl (lookupPk_isSome_of_mem hk)))
    · exact inr (inr (inr (lookupPk_isSome_of_mem hk)))
  obtain ⟨k', hk'⟩ := this
  exact ⟨{ k' with ttl := ttl }, (h.mem _).mpr ⟨_, k', hk', rfl⟩, (slotPick_pk hk' : k'.publicKey = _)⟩

/-- a revoked record is published as such (the last one of `R` per public key text): `revoke`
    REPLACES whatever `publish` put there and is not displaced by `sign` or by a request key -/
theorem SlotKeys.revoked_in {ttl : Int} {P R S Z out : List Key} (h : SlotKeys ttl P R S Z out) (r : Key)
    (hr : r ∈ R) : ∃ x ∈ out, x.publicKey = r.publicKey ∧ ∃ r' ∈ R, x = { r' with ttl := ttl } := by
  obtain ⟨r', hr'⟩ := lookupPk_isSome_of_mem (List.mem_reverse.mpr hr)
  have hp : slotPick P R S Z r.publicKey = some r' := by
    unfold slotPick lastWithPk
    unfold lookupPk at hr'
    simp [hr']
  exact ⟨{ r' with ttl := ttl }, (h.mem _).mpr ⟨_, r', hp, rfl⟩, (slotPick_pk hp : r'.publicKey = _), r',
    List.mem_reverse.mp (lookupPk_some_mem hr'), rfl⟩

/-- **The dedupe caveat, explicitly.** A request key whose public key text equals that of a KSK
    record (publish, revoke or sign) does not appear: the entry with that public key text is the
    KSK record. -/
theorem SlotKeys.request_key_with_ksk_pk_dropped {ttl : Int} {P R S Z out : List Key}
    (h : SlotKeys ttl P R S Z out) (z k : Key) (hk : k ∈ P ++ R ++ S)
    (hpk : k.publicKey = z.publicKey) :
    ∀ x ∈ out, x.publicKey = z.publicKey → ∃ k' ∈ P ++ R ++ S, x = { k' with ttl := ttl } := by
  intro x hx hxz
  rcases h.sound x hx with ⟨r, hr, rfl⟩ | ⟨k', hk', rfl, _⟩ | ⟨z', _, rfl, hno⟩
  · exact ⟨r, by simp [hr], rfl⟩
  · refine ⟨k', ?_, rfl⟩
    simp only [List.mem_append] at hk' ⊢
    rcases hk' with h1 | h1
    · exact Or.inl (Or.inl h1)
    · exact Or.inr h1
  · exact absurd (hpk.trans hxz.symm) (hno k hk)

/-- no two records of `l` share a public key text unless they are the same record -/
def PkFunctional (l : List Key) : Prop := ∀ a ∈ l, ∀ b ∈ l, a.publicKey = b.publicKey → a = b

/-- **Exactly the set of the property text**, when a public key text names one record within the
    revoked records, within the publish/sign records and within the request keys: -/
theorem SlotKeys.exact {ttl : Int} {P R S Z out : List Key} (h : SlotKeys ttl P R S Z out)
    (hR : PkFunctional R) (hPS : PkFunctional (P ++ S)) (hZ : PkFunctional Z) (x : Key) :
    x ∈ out ↔
      (∃ r ∈ R, x = { r with ttl := ttl }) ∨
      (∃ k ∈ P ++ S, x = { k with ttl := ttl } ∧ ∀ r ∈ R, r.publicKey ≠ k.publicKey) ∨
      (∃ z ∈ Z, x = { z with ttl := ttl } ∧ ∀ k ∈ P ++ R ++ S, k.publicKey ≠ z.publicKey) := by
  constructor
  · exact h.sound x
  · have none_of : ∀ (l : List Key) (p : String), (∀ y ∈ l, y.publicKey ≠ p) →
        l.find? (fun k => decide (k.publicKey = p)) = none := by
      intro l p hl
      exact lookupPk_eq_none.mpr hl
    have some_of : ∀ (l : List Key), PkFunctional l → ∀ k ∈ l,
        l.find? (fun y => decide (y.publicKey = k.publicKey)) = some k := by
      intro l hl k hk
      obtain ⟨k', hk'⟩ := lookupPk_isSome_of_mem hk
      have := hl k' (lookupPk_some_mem hk') k hk (lookupPk_some_pk hk')
      unfold lookupPk at hk'
      rw [hk', this]
    rintro (⟨r, hr, rfl⟩ | ⟨k, hk, rfl, hno⟩ | ⟨z, hz, rfl, hno⟩)
    · obtain ⟨x, hx, hpk, r', hr', rfl⟩ := h.revoked_in r hr
      have : r' = r := hR r' hr' r hr hpk
      rw [← this]; exact hx
    · refine (h.mem _).mpr ⟨k.publicKey, k, ?_, rfl⟩
      unfold slotPick lastWithPk firstWithPk
      rw [none_of R.reverse k.publicKey (fun y hy => hno y (List.mem_reverse.mp hy)), Option.none_or,
        ← Option.or_assoc, ← List.find?_append, some_of (P ++ S) hPS k hk, Option.some_or]
    · refine (h.mem _).mpr ⟨z.publicKey, z, ?_, rfl⟩
      unfold slotPick lastWithPk firstWithPk
      rw [none_of R.reverse z.publicKey
          (fun y hy => hno y (by simp [List.mem_reverse.mp hy])),
        none_of P z.publicKey (fun y hy => hno y (by simp [hy])),
        none_of S z.publicKey (fun y hy => hno y (by simp [hy])), some_of Z hZ z hz]
      rfl

/-! ### what `_fetch_keys` returns: KSK records in the form the property states -/

/-- `k` is the DNSKEY record of the KSK configured under `name`, as built from the public key text
    `pk` the token attributes encode: flags 257, protocol 3, configured algorithm and TTL, label as
    identifier, RFC 4034 App. B tag over its own RDATA. -/
structure KskRecord (cfg : SignerConfig) (name : String) (pk : String) (k : Key) : Prop where
  configured : ∃ ksk, cfg.kskKeys.lookup name = some ksk ∧ k.keyIdentifier = ksk.label ∧
    k.algorithm = ksk.algorithm
  flags : k.flags = 257
  protocol : k.protocol = 3
  ttl : k.ttl = cfg.kskPolicy.ttl
  publicKey : k.publicKey = pk
  tag : ∃ rd, keyToRdata k = .ok rd ∧ k.keyTag = (C14.rfc4034KeyTag rd : Nat)

theorem kskRecord_of_fetched {cfg : SignerConfig} {name : String} {ck : CompositeKey}
    (h : FetchedAs cfg name ck) :
    ∃ pk, ck.p11.publicKey = some pk ∧ KskRecord cfg name pk ck.dns := by
  obtain ⟨ksk, pk, hl, hpk, hk⟩ := h
  obtain ⟨h1, h2, h3, h4, h5, h6, rd, h7, h8⟩ := publicKeyToDnssecKey_ok hk
  exact ⟨pk, hpk, ⟨ksk, hl, h1, h5⟩, h3, h4, h2, h6, rd, h7, by rw [h8, C14.keyTag_eq_rfc4034]⟩

/-- the fetched keys of one schema list: one per name, each a `KskRecord` of a listed name with the
    public key text the token answered -/
def FetchedFor (cfg : SignerConfig) (names : List String) (cks : List CompositeKey) : Prop :=
  cks.length = names.length ∧
  (∀ ck ∈ cks, ∃ name ∈ names, ∃ pk, ck.p11.publicKey = some pk ∧ KskRecord cfg name pk ck.dns) ∧
  (∀ name ∈ names, ∃ ck ∈ cks, ∃ pk, ck.p11.publicKey = some pk ∧ KskRecord cfg name pk ck.dns)

theorem fetchedFor_of_ok {ext : Externals} {mods : List P11Module} {cfg : SignerConfig} {bundle : Bundle}
    {isPublic : Bool} {names : List String} {t : Token} {s s' : TokState} {cks : List CompositeKey}
    (h : fetchKeys ext mods cfg bundle isPublic names t s = (.ok cks, s')) :
    FetchedFor cfg names cks := by
  obtain ⟨h1, h2, h3⟩ := fetchKeys_ok h
  refine ⟨h3, ?_, ?_⟩
  · intro ck hck
    obtain ⟨n, hn, hf⟩ := h1 ck hck
    exact ⟨n, hn, kskRecord_of_fetched hf⟩
  · intro n hn
    obtain ⟨ck, hck, hf⟩ := h2 n hn
    exact ⟨ck, hck, kskRecord_of_fetched hf⟩

/-- **C02, key set of a slot.** Whenever `signBundle` succeeds — any token, any state — there are
    the schema action of the slot and the keys the three fetches returned such that the response key
    set is `SlotKeys` of them and of the request keys (membership by precedence, all with the
    configured TTL, no public key text twice), and id / inception / expiration are the request's.
    Caveat carried by `SlotKeys.mem` (see `SlotKeys.request_key_with_ksk_pk_dropped`): a request key
    whose public key text equals that of a fetched KSK record is NOT in the set — the KSK record is. -/
theorem signBundle_keys_spec (ext : Externals) (mods : List P11Module) (cfg : SignerConfig) (slot : Nat)
    (bundle rb : Bundle) (tok : Token) (s s' : TokState)
    (h : signBundle ext mods cfg slot bundle tok s = (.ok rb, s')) :
    ∃ act pub rev signing revoked,
      cfg.actions.lookup slot = some act ∧
      FetchedFor cfg act.publish pub ∧ FetchedFor cfg act.revoke rev ∧ FetchedFor cfg act.sign signing ∧
      rev.mapM (fun ck => ck.dns.asRevoked) = .ok revoked ∧
      SlotKeys cfg.kskPolicy.ttl (pub.map (·.dns)) revoked (signing.map (·.dns)) bundle.keys rb.keys ∧
      (∀ x ∈ rb.keys, x.ttl = cfg.kskPolicy.ttl) ∧
      rb.keys.Pairwise (fun a b => a.publicKey ≠ b.publicKey) ∧
      rb.id = bundle.id ∧ rb.inception = bundle.inception ∧ rb.expiration = bundle.expiration := by
  obtain ⟨act, pub, rev, revoked, signing, s1, s2, s3, hact, hpub, hrev, hrevoked, hsign, hkeys, _, hfin⟩ :=
    signBundle_ok h
  obtain ⟨_, hrb, _⟩ := finishBundle_ok hfin
  have hspec := slotFold_spec cfg.kskPolicy.ttl (pub.map (·.dns)) revoked (signing.map (·.dns)) bundle.keys
  rw [← hkeys] at hspec
  refine ⟨act, pub, rev, signing, revoked, hact, fetchedFor_of_ok hpub, fetchedFor_of_ok hrev,
    fetchedFor_of_ok hsign, hrevoked, hspec, hspec.ttl, hspec.unique, ?_, ?_, ?_⟩ <;> rw [hrb]

/-! ## §3 Signatures: exactly one per KSK listed under `sign` -/

/-- **C02, signatures of a slot.** The identifiers of the response signatures are exactly the key
    identifiers (= configured labels) of the keys fetched for `sign`, as a set, and pairwise
    distinct: one signature per KSK even when a name is repeated under `sign`. -/
theorem signBundle_signatures_spec (ext : Externals) (mods : List P11Module) (cfg : SignerConfig)
    (slot : Nat) (bundle rb : Bundle) (tok : Token) (s s' : TokState)
    (h : signBundle ext mods cfg slot bundle tok s = (.ok rb, s')) :
    ∃ act signing, cfg.actions.lookup slot = some act ∧ FetchedFor cfg act.sign signing ∧
      (∀ id, (∃ σ ∈ rb.signatures, σ.keyIdentifier = id) ↔ (∃ ck ∈ signing, ck.dns.keyIdentifier = id)) ∧
      (∀ id, (∃ σ ∈ rb.signatures, σ.keyIdentifier = id) ↔
        (∃ name ∈ act.sign, ∃ ksk, cfg.kskKeys.lookup name = some ksk ∧ ksk.label = id)) ∧
      rb.signatures.Pairwise (fun a b => a.keyIdentifier ≠ b.keyIdentifier) := by
  obtain ⟨act, pub, rev, revoked, signing, s1, s2, s3, hact, _, _, _, hsign, _, hsigs, _⟩ := signBundle_ok h
  obtain ⟨new, e, h1, h2, h3, _⟩ := signAll_ok hsigs
  simp only [List.nil_append] at e
  subst e
  have hff := fetchedFor_of_ok hsign
  have hset : ∀ id, (∃ σ ∈ rb.signatures, σ.keyIdentifier = id) ↔ (∃ ck ∈ signing, ck.dns.keyIdentifier = id) := by
    intro id
    constructor
    · rintro ⟨σ, hσ, rfl⟩
      obtain ⟨sk, hsk, sa, sb, hrun⟩ := h1 σ hσ
      exact ⟨sk, hsk, (signKeys_ok_id hrun).1.symm⟩
    · rintro ⟨ck, hck, rfl⟩
      exact h2 ck hck
  refine ⟨act, signing, hact, hff, hset, ?_, h3 List.Pairwise.nil⟩
  intro id
  rw [hset id]
  constructor
  · rintro ⟨ck, hck, rfl⟩
    obtain ⟨name, hn, pk, _, hrec⟩ := hff.2.1 ck hck
    obtain ⟨ksk, hl, hid, _⟩ := hrec.configured
    exact ⟨name, hn, ksk, hl, hid.symm⟩
  · rintro ⟨name, hn, ksk, hl, rfl⟩
    obtain ⟨ck, hck, pk, _, hrec⟩ := hff.2.2 name hn
    obtain ⟨ksk', hl', hid, _⟩ := hrec.configured
    rw [hl] at hl'
    cases hl'
    exact ⟨ck, hck, hid⟩

/-! ## §4 Algorithm sets -/

/-- **Refusal.** Once the fetches and the signing loop have answered (whatever the token answered),
    if the set of algorithm numbers of the request keys differs from that of the signatures made,
    the outcome is `CreateSignatureError` — no bundle is returned. -/
theorem alg_mismatch_refused (ext : Externals) (mods : List P11Module) (cfg : SignerConfig) (slot : Nat)
    (bundle : Bundle) (tok : Token) (s s1 s2 s3 s4 : TokState) (act : SchemaAction)
    (pub rev signing : List CompositeKey) (revoked : List Key) (sigs : List Signature)
    (hact : cfg.actions.lookup slot = some act)
    (hpub : fetchKeys ext mods cfg bundle true act.publish tok s = (.ok pub, s1))
    (hrev : fetchKeys ext mods cfg bundle true act.revoke tok s1 = (.ok rev, s2))
    (hrevoked : rev.mapM (fun ck => ck.dns.asRevoked) = .ok revoked)
    (hsign : fetchKeys ext mods cfg bundle false act.sign tok s2 = (.ok signing, s3))
    (hsigs : signAll ext bundle
      (slotFold cfg.kskPolicy.ttl (pub.map (·.dns)) revoked (signing.map (·.dns)) bundle.keys)
      cfg.kskPolicy signing [] tok s3 = (.ok sigs, s4))
    (hne : ¬ ∀ a, a ∈ bundle.keys.map (·.algorithm) ↔ a ∈ sigs.map (·.algorithm)) :
    signBundle ext mods cfg slot bundle tok s = (.error (.error .createSignature), s4) := by
  rw [signBundle_run hact hpub hrev hrevoked hsign hsigs]
  have : sameSet (bundle.keys.map (·.algorithm)) (sigs.map (·.algorithm)) = false := by
    rw [Bool.eq_false_iff]
    intro hs
    exact hne ((sameSet_iff _ _).mp hs)
  simp [finishBundle, this, err]

/-- **Agreement.** A returned bundle has the same set of algorithm numbers among the request keys and
    among its signatures. -/
theorem signBundle_ok_algs (ext : Externals) (mods : List P11Module) (cfg : SignerConfig) (slot : Nat)
    (bundle rb : Bundle) (tok : Token) (s s' : TokState)
    (h : signBundle ext mods cfg slot bundle tok s = (.ok rb, s')) :
    ∀ a, a ∈ bundle.keys.map (·.algorithm) ↔ a ∈ rb.signatures.map (·.algorithm) := by
  exact (sameSet_iff _ _).mp (finishBundle_ok (signBundle_finish h)).1

/-! ## §5 Header, slot numbering, KSK policy -/

/-- **C02, response assembly.** For every request (any number of bundles): the header echoes the
    request, no timestamp, as many bundles as requested, bundle `i` is the result of `signBundle` for
    slot `i + 1` on request bundle `i` (so §2–§4 apply to it), the six KSK policy durations are the
    configured ones, and the stated algorithm set is exactly the set of algorithm policies of all
    published keys (each listed once). -/
theorem createSkr_header (ext : Externals) (mods : List P11Module) (cfg : SignerConfig) (req : Request)
    (resp : Response) (tok : Token) (s s' : TokState)
    (h : createSkr ext mods cfg req tok s = (.ok resp, s')) :
    resp.id = req.id ∧ resp.serial = req.serial ∧ resp.domain = req.domain ∧
    resp.zskPolicy = req.zskPolicy ∧ resp.timestamp = none ∧
    resp.bundles.length = req.bundles.length ∧
    (∀ i b, req.bundles[i]? = some b → ∃ rb s1 s2, resp.bundles[i]? = some rb ∧
      signBundle ext mods cfg (i + 1) b tok s1 = (.ok rb, s2)) ∧
    resp.kskPolicy.publishSafety = cfg.kskPolicy.signaturePolicy.publishSafety ∧
    resp.kskPolicy.retireSafety = cfg.kskPolicy.signaturePolicy.retireSafety ∧
    resp.kskPolicy.maxSignatureValidity = cfg.kskPolicy.signaturePolicy.maxSignatureValidity ∧
    resp.kskPolicy.minSignatureValidity = cfg.kskPolicy.signaturePolicy.minSignatureValidity ∧
    resp.kskPolicy.maxValidityOverlap = cfg.kskPolicy.signaturePolicy.maxValidityOverlap ∧
    resp.kskPolicy.minValidityOverlap = cfg.kskPolicy.signaturePolicy.minValidityOverlap ∧
    (∀ a, a ∈ resp.kskPolicy.algorithms ↔
      ∃ b ∈ resp.bundles, ∃ k ∈ b.keys, algorithmPolicyOfKey k = .ok a) ∧
    resp.kskPolicy.algorithms.Nodup := by
  unfold createSkr at h
  obtain ⟨bundles, s1, hb, h⟩ := TokM.bind_ok h
  obtain ⟨kp, hkp, h⟩ := TokM.lift_bind_ok_iff.mp h
  simp only [TokM.pure_run, Prod.mk.injEq, Except.ok.injEq] at h
  obtain ⟨rfl, rfl⟩ := h
  obtain ⟨hlen, hpos⟩ := signBundles_ok hb
  obtain ⟨k1, k2, k3, k4, k5, k6, k7, k8, _⟩ := kskSignaturePolicy_ok hkp
  exact ⟨rfl, rfl, rfl, rfl, rfl, hlen, hpos, k1, k2, k3, k4, k5, k6, k7, k8⟩

/-! ## §6 The form of a revoked key -/

/-- **Revoked form.** A KSK record listed under `revoke` enters the set with flags
    `setRevokeBit 257 = 385`, the RFC 4034 App. B tag recomputed over its own (new) RDATA, and label,
    TTL, protocol, algorithm and public key text unchanged. -/
theorem revoked_key_form (cfg : SignerConfig) (name pk : String) (k r : Key)
    (hk : KskRecord cfg name pk k) (hr : k.asRevoked = .ok r) :
    r.flags = 385 ∧ setRevokeBit 257 = 385 ∧
    r.keyIdentifier = k.keyIdentifier ∧ r.ttl = cfg.kskPolicy.ttl ∧ r.protocol = 3 ∧
    r.algorithm = k.algorithm ∧ r.publicKey = pk ∧
    ∃ rd, keyToRdata r = .ok rd ∧ r.keyTag = (C14.rfc4034KeyTag rd : Nat) := by
  obtain ⟨rd, h1, _, h3, h4, h5, h6, h7, h8, h9⟩ := C14.revoke_sets_only_bit_and_retags k r hr
  refine ⟨?_, by decide, h3, by rw [h4, hk.ttl], by rw [h5, hk.protocol], h6, by rw [h7, hk.publicKey],
    rd, h8, h9⟩
  rw [h1, hk.flags]
  decide

/-- every record of the revoked list of a successful slot has that form, for a name listed under
    `revoke`, and is published (last one per public key text) -/
theorem signBundle_revoked_published (ext : Externals) (mods : List P11Module) (cfg : SignerConfig)
    (slot : Nat) (bundle rb : Bundle) (tok : Token) (s s' : TokState)
    (h : signBundle ext mods cfg slot bundle tok s = (.ok rb, s')) :
    ∃ act, ∃ revoked : List Key, cfg.actions.lookup slot = some act ∧
      (∀ r ∈ revoked, ∃ name ∈ act.revoke, ∃ pk k, KskRecord cfg name pk k ∧ k.asRevoked = .ok r) ∧
      (∀ name ∈ act.revoke, ∃ r ∈ revoked, ∃ pk k, KskRecord cfg name pk k ∧ k.asRevoked = .ok r) ∧
      (∀ r ∈ revoked, ∃ x ∈ rb.keys, x ∈ revoked ∧ x.publicKey = r.publicKey) := by
  obtain ⟨act, pub, rev, signing, revoked, hact, _, hrev, _, hrevoked, hspec, _⟩ :=
    signBundle_keys_spec ext mods cfg slot bundle rb tok s s' h
  obtain ⟨hm, _, hall⟩ := mapM_ok_mem _ _ _ hrevoked
  have hform : ∀ r ∈ revoked, ∃ name ∈ act.revoke, ∃ pk k, KskRecord cfg name pk k ∧ k.asRevoked = .ok r := by
    intro r hr
    obtain ⟨ck, hck, hrk⟩ := (hm r).mp hr
    obtain ⟨name, hn, pk, _, hrec⟩ := hrev.2.1 ck hck
    exact ⟨name, hn, pk, ck.dns, hrec, hrk⟩
  refine ⟨act, revoked, hact, hform, ?_, ?_⟩
  · intro name hn
    obtain ⟨ck, hck, pk, _, hrec⟩ := hrev.2.2 name hn
    obtain ⟨r, hrk⟩ := hall ck hck
    exact ⟨r, (hm r).mpr ⟨ck, hck, hrk⟩, pk, ck.dns, hrec, hrk⟩
  · intro r hr
    obtain ⟨x, hx, hpk, r', hr', rfl⟩ := hspec.revoked_in r hr
    obtain ⟨name, _, pk, k, hrec, hrk⟩ := hform r' hr'
    have httl : r'.ttl = cfg.kskPolicy.ttl := (revoked_key_form cfg name pk k r' hrec hrk).2.2.2.1
    rw [withTtl_self _ _ httl] at hx
    exact ⟨r', hx, hr', hpk⟩

/-! ## §7 One concrete slot (non-vacuity of §2–§6) -/

section Examples

private def kP : Key := ⟨"ksk-next", 1, 172800, 257, 3, 8, "AAAA"⟩
private def kC : Key := ⟨"ksk-current", 2, 172800, 257, 3, 8, "BBBB"⟩
private def kCrev : Key := ⟨"ksk-current", 130, 172800, 385, 3, 8, "BBBB"⟩
private def z1 : Key := ⟨"zsk-1", 3, 3600, 256, 3, 8, "CCCC"⟩
private def zClash : Key := ⟨"zsk-clash", 4, 3600, 256, 3, 8, "AAAA"⟩

/-- the `revoke` schema slot of the example configuration: publish next + current, revoke current,
    sign with current and next; one honest ZSK and one request key clashing with a KSK -/
example : slotFold 172800 [kP, kC] [kCrev] [kC, kP] [z1, zClash]
    = [kP, kCrev, { z1 with ttl := 172800 }] := by decide

example : slotPick [kP, kC] [kCrev] [kC, kP] [z1, zClash] "BBBB" = some kCrev := by decide
example : slotPick [kP, kC] [kCrev] [kC, kP] [z1, zClash] "AAAA" = some kP := by decide
example : PkFunctional [kCrev] ∧ PkFunctional ([kP, kC] ++ [kC, kP]) ∧ PkFunctional [z1] := by
  refine ⟨?_, ?_, ?_⟩ <;> unfold PkFunctional <;> decide

example : sameSet [8, 8] [8] = true ∧ sameSet [8, 13] [8] = false := by decide

end Examples

/-! ## §8 Order independence

Python iterates `set[Key]` (the request bundle's keys), and the schema's `publish` / `sign` /
`revoke` lists, in some order.  The property says the response is *exactly* what KSR and schema
dictate, so nothing observable may depend on that order, nor on a name being listed twice.

`SameElems l l'` (Lemmas/SignerPerm.lean): the two lists have the same elements — every
permutation (`SameElems.of_perm`), and every re-listing with repetitions.

* **Specification level, every token**: `slotPick`, hence `SlotKeys`, depends on its four list
  arguments only as SETS, provided a public key text names one record within each list
  (`PkFunctional`); any two lists meeting one `SlotKeys` specification are permutations of each other
  (`SlotKeys.unique_up_to_perm`); so the fold `sign_bundles` runs yields the same key set
  (`slotFold_order_free`).  `PkFunctional` cannot be dropped (`pkFunctional_needed`): with two
  request keys that share a public key text but differ elsewhere, the survivor is whichever the set
  iteration meets first.  For fetched KSK records `PkFunctional` holds exactly when two records with
  one public key text also agree in label and algorithm (`fetched_pkFunctional_iff`); it fails for
  two configured names that reach the same key material under different labels, or under one label
  with different algorithm numbers.
* **Run level**: the token is an oracle indexed by the operation number, and a permuted schema list
  asks its questions at other indices, so for an arbitrary token (say, one with a fault planted at
  operation 7) the outcome legitimately depends on the order.  On a token whose answers do not
  depend on the operation index (`IndexFree`: a store-backed token, a healthy HSM)
  `signBundle_order_free`: the permuted slot succeeds as well, with a permutation of the keys and a
  permutation of the signatures (identical records), and the same header.
* **Signature identifiers, every token**: `signature_ids_order_free`. -/

theorem firstWithPk_order_free {l l' : List Key} (h : SameElems l l') (hf : PkFunctional l) (p : String) :
    firstWithPk l p = firstWithPk l' p := lookupPk_same h hf p

theorem lastWithPk_order_free {l l' : List Key} (h : SameElems l l') (hf : PkFunctional l) (p : String) :
    lastWithPk l p = lastWithPk l' p :=
  lookupPk_same h.reverse
    (fun a ha b hb e => hf a (List.mem_reverse.mp ha) b (List.mem_reverse.mp hb) e) p

/-- **The record chosen for a public key text depends on the four lists only as sets.** -/
theorem slotPick_order_free {P P' R R' S S' Z Z' : List Key}
    (hP : SameElems P P') (hR : SameElems R R') (hS : SameElems S S') (hZ : SameElems Z Z')
    (fP : PkFunctional P) (fR : PkFunctional R) (fS : PkFunctional S) (fZ : PkFunctional Z) (p : String) :
    slotPick P R S Z p = slotPick P' R' S' Z' p := by
  unfold slotPick
  rw [lastWithPk_order_free hR fR, firstWithPk_order_free hP fP, firstWithPk_order_free hS fS,
    firstWithPk_order_free hZ fZ]

theorem SlotKeys.of_perm {ttl : Int} {P R S Z out out' : List Key} (h : SlotKeys ttl P R S Z out)
    (hp : out.Perm out') : SlotKeys ttl P R S Z out' :=
  ⟨fun x => by rw [← hp.mem_iff]; exact h.mem x, fun x hx => h.ttl x (hp.mem_iff.mpr hx),
    (hp.pairwise_iff (fun hne e => hne e.symm)).mp h.unique⟩

/-- The specification of a slot's key set is invariant under reordering (and
    repetition) within each of its four input lists, given `PkFunctional` of each. -/
theorem SlotKeys_order_free {ttl : Int} {P P' R R' S S' Z Z' out : List Key}
    (hP : SameElems P P') (hR : SameElems R R') (hS : SameElems S S') (hZ : SameElems Z Z')
    (fP : PkFunctional P) (fR : PkFunctional R) (fS : PkFunctional S) (fZ : PkFunctional Z) :
    SlotKeys ttl P R S Z out ↔ SlotKeys ttl P' R' S' Z' out := by
  have hpick := slotPick_order_free hP hR hS hZ fP fR fS fZ
  constructor
  · intro h
    exact ⟨fun x => by rw [h.mem x]; simp only [hpick], h.ttl, h.unique⟩
  · intro h
    exact ⟨fun x => by rw [h.mem x]; simp only [hpick], h.ttl, h.unique⟩

theorem SlotKeys_perm {ttl : Int} {P P' R R' S S' Z Z' out out' : List Key}
    (hP : P.Perm P') (hR : R.Perm R') (hS : S.Perm S') (hZ : Z.Perm Z') (ho : out.Perm out')
    (fP : PkFunctional P) (fR : PkFunctional R) (fS : PkFunctional S) (fZ : PkFunctional Z)
    (h : SlotKeys ttl P R S Z out) : SlotKeys ttl P' R' S' Z' out' :=
  ((SlotKeys_order_free (SameElems.of_perm hP) (SameElems.of_perm hR) (SameElems.of_perm hS)
    (SameElems.of_perm hZ) fP fR fS fZ).mp h).of_perm ho

/-- **The specification determines the key set up to order**: two lists meeting `SlotKeys` of the
    same inputs are permutations of each other. -/
theorem SlotKeys.unique_up_to_perm {ttl : Int} {P R S Z out out' : List Key}
    (h : SlotKeys ttl P R S Z out) (h' : SlotKeys ttl P R S Z out') : out.Perm out' :=
  SameElems.perm_of_nodup (fun x => by rw [h.mem x, h'.mem x]) (uniquePk_nodup h.unique)
    (uniquePk_nodup h'.unique)

/-- **The key set `sign_bundles` assembles does not depend on the order (or repetition) within the
    fetched publish / revoke / sign records and the request keys.** -/
theorem slotFold_order_free (ttl : Int) {P P' R R' S S' Z Z' : List Key}
    (hP : SameElems P P') (hR : SameElems R R') (hS : SameElems S S') (hZ : SameElems Z Z')
    (fP : PkFunctional P) (fR : PkFunctional R) (fS : PkFunctional S) (fZ : PkFunctional Z) :
    (slotFold ttl P R S Z).Perm (slotFold ttl P' R' S' Z') :=
  ((SlotKeys_order_free hP hR hS hZ fP fR fS fZ).mp (slotFold_spec ttl P R S Z)).unique_up_to_perm
    (slotFold_spec ttl P' R' S' Z')

/-- **`PkFunctional` is needed.** Two request keys with one public key text but different flags:
    the two iteration orders of the request's key SET give different responses. -/
theorem pkFunctional_needed :
    ∃ Z Z' : List Key, Z.Perm Z' ∧ ¬ PkFunctional Z ∧
      ¬ (slotFold 172800 [] [] [] Z).Perm (slotFold 172800 [] [] [] Z') := by
  refine ⟨[⟨"a", 1, 172800, 256, 3, 8, "AAAA"⟩, ⟨"b", 2, 172800, 257, 3, 8, "AAAA"⟩],
    [⟨"b", 2, 172800, 257, 3, 8, "AAAA"⟩, ⟨"a", 1, 172800, 256, 3, 8, "AAAA"⟩],
    List.Perm.swap _ _ _, ?_, ?_⟩
  · intro h
    have := h ⟨"a", 1, 172800, 256, 3, 8, "AAAA"⟩ (by simp) ⟨"b", 2, 172800, 257, 3, 8, "AAAA"⟩ (by simp) rfl
    simp at this
  · have e1 : slotFold 172800 [] [] [] [⟨"a", 1, 172800, 256, 3, 8, "AAAA"⟩, ⟨"b", 2, 172800, 257, 3, 8, "AAAA"⟩]
        = [⟨"a", 1, 172800, 256, 3, 8, "AAAA"⟩] := by decide
    have e2 : slotFold 172800 [] [] [] [⟨"b", 2, 172800, 257, 3, 8, "AAAA"⟩, ⟨"a", 1, 172800, 256, 3, 8, "AAAA"⟩]
        = [⟨"b", 2, 172800, 257, 3, 8, "AAAA"⟩] := by decide
    rw [e1, e2]
    intro h
    have := List.singleton_perm.mp h
    simp at this

/-! ### `PkFunctional` of fetched KSK records -/

/-- a KSK record is determined by label, algorithm and public key text (flags, protocol, TTL are
    fixed, the tag is computed from the RDATA) -/
theorem kskRecord_determined {cfg : SignerConfig} {n₁ n₂ pk : String} {a b : Key}
    (ha : KskRecord cfg n₁ pk a) (hb : KskRecord cfg n₂ pk b)
    (hid : a.keyIdentifier = b.keyIdentifier) (halg : a.algorithm = b.algorithm) : a = b := by
  have hrd : keyToRdata a = keyToRdata b := by
    unfold keyToRdata
    rw [ha.flags, hb.flags, ha.protocol, hb.protocol, halg, ha.publicKey, hb.publicKey]
  obtain ⟨ra, hra, hta⟩ := ha.tag
  obtain ⟨rb, hrb, htb⟩ := hb.tag
  rw [hrd, hrb] at hra
  cases hra
  exact key_ext hid (by rw [hta, htb]) (by rw [ha.ttl, hb.ttl]) (by rw [ha.flags, hb.flags])
    (by rw [ha.protocol, hb.protocol]) halg (by rw [ha.publicKey, hb.publicKey])

/-- **When is a public key text one record among the fetched KSK records?**  Exactly when two
    fetched records with one public key text also carry one label and one algorithm number.  So
    `PkFunctional` holds unless two names of the list reach the same key material under different
    labels, or under one label configured with different algorithms — then the record published is
    whichever name the schema list has first, and `PkFunctional` states precisely that this does not
    happen. -/
theorem fetched_pkFunctional_iff {cfg : SignerConfig} {names : List String} {cks : List CompositeKey}
    (h : FetchedFor cfg names cks) :
    PkFunctional (cks.map (·.dns)) ↔
      ∀ a ∈ cks, ∀ b ∈ cks, a.dns.publicKey = b.dns.publicKey →
        a.dns.keyIdentifier = b.dns.keyIdentifier ∧ a.dns.algorithm = b.dns.algorithm := by
  constructor
  · intro hf a ha b hb e
    have := hf a.dns (List.mem_map.mpr ⟨a, ha, rfl⟩) b.dns (List.mem_map.mpr ⟨b, hb, rfl⟩) e
    rw [this]; exact ⟨rfl, rfl⟩
  · intro hc x hx y hy e
    obtain ⟨a, ha, rfl⟩ := List.mem_map.mp hx
    obtain ⟨b, hb, rfl⟩ := List.mem_map.mp hy
    obtain ⟨n₁, _, pk₁, _, r₁⟩ := h.2.1 a ha
    obtain ⟨n₂, _, pk₂, _, r₂⟩ := h.2.1 b hb
    have hpk : pk₁ = pk₂ := by rw [← r₁.publicKey, ← r₂.publicKey]; exact e
    subst hpk
    exact kskRecord_determined r₁ r₂ (hc a ha b hb e).1 (hc a ha b hb e).2

/-- split into a configuration part and a token part: a label is configured with one algorithm
    number (configuration), and different labels are different key material (token) -/
theorem fetched_pkFunctional_of_config {cfg : SignerConfig} {names : List String} {cks : List CompositeKey}
    (h : FetchedFor cfg names cks)
    (hcfg : ∀ n₁ ∈ names, ∀ n₂ ∈ names, ∀ k₁ k₂, cfg.kskKeys.lookup n₁ = some k₁ →
      cfg.kskKeys.lookup n₂ = some k₂ → k₁.label = k₂.label → k₁.algorithm = k₂.algorithm)
    (htok : ∀ a ∈ cks, ∀ b ∈ cks, a.dns.publicKey = b.dns.publicKey →
      a.dns.keyIdentifier = b.dns.keyIdentifier) :
    PkFunctional (cks.map (·.dns)) := by
  rw [fetched_pkFunctional_iff h]
  intro a ha b hb e
  have hid := htok a ha b hb e
  refine ⟨hid, ?_⟩
  obtain ⟨n₁, hn₁, pk₁, _, r₁⟩ := h.2.1 a ha
  obtain ⟨n₂, hn₂, pk₂, _, r₂⟩ := h.2.1 b hb
  obtain ⟨k₁, hl₁, hi₁, ha₁⟩ := r₁.configured
  obtain ⟨k₂, hl₂, hi₂, ha₂⟩ := r₂.configured
  rw [ha₁, ha₂]
  exact hcfg n₁ hn₁ n₂ hn₂ k₁ k₂ hl₁ hl₂ (by rw [← hi₁, ← hi₂]; exact hid)

/-- **an identifier names one signing key** (hypothesis `IdFun` of `signBundle_order_free`), in
    configuration terms, on an index-free token: names with one label have one configured entry -/
theorem fetched_idFun_of_config (ext : Externals) (mods : List P11Module) (cfg : SignerConfig) (b : Bundle)
    (isPublic : Bool) (tok : Token) (ht : IndexFree tok) (names : List String) (cks : List CompositeKey)
    (s s1 : TokState) (h : fetchKeys ext mods cfg b isPublic names tok s = (.ok cks, s1))
    (hcfg : ∀ n₁ ∈ names, ∀ n₂ ∈ names, ∀ k₁ k₂, cfg.kskKeys.lookup n₁ = some k₁ →
      cfg.kskKeys.lookup n₂ = some k₂ → k₁.label = k₂.label → k₁ = k₂) :
    IdFun cks := by
  have h1 := fetchKeys_indexFree ext mods cfg b isPublic ht names s
  rw [h] at h1
  obtain ⟨hm, _, _⟩ := mapM_ok_mem _ _ _ h1.symm
  intro x hx y hy e
  obtain ⟨n₁, hn₁, f₁⟩ := (hm x).mp hx
  obtain ⟨n₂, hn₂, f₂⟩ := (hm y).mp hy
  obtain ⟨k₁, l₁, i₁⟩ := fetchedOf_ok f₁
  obtain ⟨k₂, l₂, i₂⟩ := fetchedOf_ok f₂
  have hk : k₁ = k₂ := hcfg n₁ hn₁ n₂ hn₂ k₁ k₂ l₁ l₂ (by rw [← i₁, ← i₂]; exact e)
  rw [fetchedOf_congr ext mods cfg b isPublic tok (l₁.trans (hk ▸ l₂.symm))] at f₁
  rw [f₁] at f₂
  exact Except.ok.inj f₂

/-- revoking keeps `PkFunctional`: the revoked form is a function of the record and keeps the
    public key text -/
theorem revoked_pkFunctional {l : List Key} {revoked : List Key} (hf : PkFunctional l)
    (hr : l.mapM (fun k => k.asRevoked) = .ok revoked) : PkFunctional revoked := by
  obtain ⟨hm, _, _⟩ := mapM_ok_mem _ _ _ hr
  intro a ha b hb e
  obtain ⟨x, hx, hxa⟩ := (hm a).mp ha
  obtain ⟨y, hy, hyb⟩ := (hm b).mp hb
  obtain ⟨_, _, _, _, _, _, _, hpa, _⟩ := C14.revoke_sets_only_bit_and_retags x a hxa
  obtain ⟨_, _, _, _, _, _, _, hpb, _⟩ := C14.revoke_sets_only_bit_and_retags y b hyb
  have : x = y := hf x hx y hy (by rw [← hpa, ← hpb]; exact e)
  subst this
  rw [hxa] at hyb
  exact Except.ok.inj hyb

/-! ### the run on an index-free token -/

/-- **C02, order independence of one slot on an index-free token.**  `tok` answers every operation
    the same at whatever index.  The slot `slot` was signed successfully (`h`) under configuration
    `cfg` for request bundle `bundle`; `pub`, `rev`, `signing` are what the three fetches returned.
    `cfg'` differs from `cfg` in the schema only, its action for the slot lists the same names under
    `publish`, `revoke`, `sign` — in any order, any name any number of times; `bundle'` is `bundle`
    with its key set in any order.  Provided a public key text names one record within each of the
    four lists and an identifier names one signing key, then — from ANY token state `s'` — the slot
    is signed successfully again, and the response bundle has a permutation of the same keys, a
    permutation of the same signatures (identical records: same octets signed, same signature data),
    and the same id / inception / expiration. -/
theorem signBundle_order_free (ext : Externals) (mods : List P11Module) (cfg cfg' : SignerConfig)
    (slot : Nat) (bundle bundle' rb : Bundle) (tok : Token) (s s1 s2 s3 s4 s' : TokState)
    (act act' : SchemaAction) (pub rev signing : List CompositeKey)
    (ht : IndexFree tok)
    (hk : cfg'.kskKeys = cfg.kskKeys) (hp : cfg'.kskPolicy = cfg.kskPolicy)
    (hrp : cfg'.responsePolicy = cfg.responsePolicy)
    (hact : cfg.actions.lookup slot = some act) (hact' : cfg'.actions.lookup slot = some act')
    (hlp : SameElems act.publish act'.publish) (hlr : SameElems act.revoke act'.revoke)
    (hls : SameElems act.sign act'.sign)
    (hid : bundle'.id = bundle.id) (hinc : bundle'.inception = bundle.inception)
    (hexp : bundle'.expiration = bundle.expiration) (hz : SameElems bundle.keys bundle'.keys)
    (hpub : fetchKeys ext mods cfg bundle true act.publish tok s = (.ok pub, s1))
    (hrev : fetchKeys ext mods cfg bundle true act.revoke tok s1 = (.ok rev, s2))
    (hsign : fetchKeys ext mods cfg bundle false act.sign tok s2 = (.ok signing, s3))
    (h : signBundle ext mods cfg slot bundle tok s = (.ok rb, s4))
    (fP : PkFunctional (pub.map (·.dns))) (fR : PkFunctional (rev.map (·.dns)))
    (fS : PkFunctional (signing.map (·.dns))) (fZ : PkFunctional bundle.keys) (fI : IdFun signing) :
    ∃ rb' s'', signBundle ext mods cfg' slot bundle' tok s' = (.ok rb', s'') ∧
      rb'.keys.Perm rb.keys ∧ rb'.signatures.Perm rb.signatures ∧
      rb'.id = rb.id ∧ rb'.inception = rb.inception ∧ rb'.expiration = rb.expiration := by
  -- the original run, step by step
  obtain ⟨act0, pub0, rev0, revoked, signing0, t1, t2, t3, hact0, hpub0, hrev0, hrevoked, hsign0, hkeys,
    hsigs, hfin⟩ := signBundle_ok h
  rw [hact] at hact0; cases hact0
  rw [hpub] at hpub0; cases hpub0
  rw [hrev] at hrev0; cases hrev0
  rw [hsign] at hsign0; cases hsign0
  -- the three fetches of the reordered slot
  obtain ⟨pub', u1, hpub', sP⟩ := fetchKeys_same ext mods cfg bundle true ht hlp hpub s'
  obtain ⟨rev', u2, hrev', sR⟩ := fetchKeys_same ext mods cfg bundle true ht hlr hrev u1
  obtain ⟨signing', u3, hsign', sS⟩ := fetchKeys_same ext mods cfg bundle false ht hls hsign u2
  rw [← fetchKeys_congr ext mods cfg cfg' bundle bundle' _ hk hp hinc hexp] at hpub' hrev' hsign'
  -- revoked forms
  have hrevoked0 : (rev.map (·.dns)).mapM (fun k => k.asRevoked) = .ok revoked := by
    rw [List.mapM_map]; exact hrevoked
  obtain ⟨revoked', hrevoked'0, sRv⟩ := mapM_same (fun k : Key => k.asRevoked) (sR.map (·.dns)) hrevoked0
  have hrevoked' : rev'.mapM (fun ck => ck.dns.asRevoked) = .ok revoked' := by
    rw [List.mapM_map] at hrevoked'0; exact hrevoked'0
  -- the key sets
  have hperm : (slotFold cfg.kskPolicy.ttl (pub.map (·.dns)) revoked (signing.map (·.dns)) bundle.keys).Perm
      (slotFold cfg'.kskPolicy.ttl (pub'.map (·.dns)) revoked' (signing'.map (·.dns)) bundle'.keys) := by
    rw [hp]
    exact slotFold_order_free _ (sP.map _) sRv (sS.map _) hz fP (revoked_pkFunctional fR hrevoked0) fS fZ
  -- the signing loop
  have hpure := signAll_indexFree ext bundle rb.keys cfg.kskPolicy ht signing [] s3
  rw [hsigs] at hpure
  have hidf : ∀ sk σ, signedBy ext bundle rb.keys cfg.kskPolicy tok sk = .ok σ →
      σ.keyIdentifier = sk.dns.keyIdentifier := by
    intro sk σ hσ
    have : signKeys ext bundle rb.keys sk cfg.kskPolicy tok {} =
        (.ok σ, (signKeys ext bundle rb.keys sk cfg.kskPolicy tok {}).2) := Prod.ext hσ rfl
    exact (signKeys_ok_id this).1
  obtain ⟨sigs', hpure', sSig⟩ := signAllPure_same _
    (signedBy ext bundle'
      (slotFold cfg'.kskPolicy.ttl (pub'.map (·.dns)) revoked' (signing'.map (·.dns)) bundle'.keys)
      cfg'.kskPolicy tok) sS fI hidf (by
      intro sk _ σ hσ
      have h0 : signKeys ext bundle rb.keys sk cfg.kskPolicy tok {} =
          (.ok σ, (signKeys ext bundle rb.keys sk cfg.kskPolicy tok {}).2) := Prod.ext hσ rfl
      rw [hkeys] at h0
      have h1 := signKeys_perm hperm h0
      unfold signedBy
      rw [hp] at h1
      rw [signKeys_bundle_congr ext bundle bundle' _ sk _ hinc hexp, hp, h1]) hpure.symm
  have hsigs' : signAll ext bundle'
      (slotFold cfg'.kskPolicy.ttl (pub'.map (·.dns)) revoked' (signing'.map (·.dns)) bundle'.keys)
      cfg'.kskPolicy signing' [] tok u3 = (.ok sigs', (signAll ext bundle'
      (slotFold cfg'.kskPolicy.ttl (pub'.map (·.dns)) revoked' (signing'.map (·.dns)) bundle'.keys)
      cfg'.kskPolicy signing' [] tok u3).2) := by
    refine Prod.ext ?_ rfl
    rw [signAll_indexFree ext bundle' _ cfg'.kskPolicy ht signing' [] u3]
    exact hpure'
  -- the tail
  rw [signBundle_run hact' hpub' hrev' hrevoked' hsign' hsigs']
  have hfin' := finishBundle_same (cfg' := cfg') hrp hid hinc hexp hz (hkeys ▸ hperm) sSig hfin
  obtain ⟨_, hrb, _⟩ := finishBundle_ok hfin
  refine ⟨_, _, by rw [hfin'], ?_, (sSig.symm.perm_of_nodup (signAll_nodup hsigs') (signAll_nodup hsigs)), ?_, ?_, ?_⟩
  · rw [hkeys]; exact hperm.symm
  · rw [hrb]
  · rw [hrb]
  · rw [hrb]

/-- **Signature identifiers, every token.** Two successful runs of a slot — any two tokens, any
    states, any two configurations with the same configured keys — whose actions list the same names
    under `sign` (any order, any repetition) return signatures with the same set of key identifiers. -/
theorem signature_ids_order_free (ext : Externals) (mods : List P11Module) (cfg cfg' : SignerConfig)
    (slot : Nat) (bundle bundle' rb rb' : Bundle) (tok tok' : Token) (s s1 s' s1' : TokState)
    (act act' : SchemaAction) (hk : cfg'.kskKeys = cfg.kskKeys)
    (hact : cfg.actions.lookup slot = some act) (hact' : cfg'.actions.lookup slot = some act')
    (hls : SameElems act.sign act'.sign)
    (h : signBundle ext mods cfg slot bundle tok s = (.ok rb, s1))
    (h' : signBundle ext mods cfg' slot bundle' tok' s' = (.ok rb', s1')) :
    ∀ id, (∃ σ ∈ rb.signatures, σ.keyIdentifier = id) ↔ (∃ σ ∈ rb'.signatures, σ.keyIdentifier = id) := by
  obtain ⟨a, _, ha, _, _, h2, _⟩ := signBundle_signatures_spec ext mods cfg slot bundle rb tok s s1 h
  obtain ⟨a', _, ha', _, _, h2', _⟩ := signBundle_signatures_spec ext mods cfg' slot bundle' rb' tok' s' s1' h'
  rw [hact] at ha; cases ha
  rw [hact'] at ha'; cases ha'
  intro id
  rw [h2 id, h2' id, hk]
  constructor
  · rintro ⟨n, hn, r⟩; exact ⟨n, (hls n).mp hn, r⟩
  · rintro ⟨n, hn, r⟩; exact ⟨n, (hls n).mpr hn, r⟩

/-! ### Non-vacuity of `signBundle_order_free` -/

section OrderExample

/-- an index-free token with two RSA key pairs (labels "kskA" / "kskB", handles 5 / 6, moduli `80 01` /
    `80 03`, e = 65537) that signs everything with `[1, 2, 3]` -/
private def ofTok : Token := fun _ op =>
  match op with
  | .findObjects _ _ [("LABEL", .str "kskA"), _] => .handles [5]
  | .findObjects _ _ [("LABEL", .str "kskB"), _] => .handles [6]
  | .getAttr _ _ _ ["KEY_TYPE"] => .attrs [.num 0]
  | .getAttr _ _ 5 ["MODULUS"] => .attrs [.bytes [0x80, 1]]
  | .getAttr _ _ 6 ["MODULUS"] => .attrs [.bytes [0x80, 3]]
  | .getAttr _ _ _ ["PUBLIC_EXPONENT"] => .attrs [.bytes [1, 0, 1]]
  | .sign .. => .sig [1, 2, 3]
  | _ => .other
private def ofExt : Externals :=
  { hash := fun _ d => some d, verify := fun _ _ _ sg => if sg = [1, 2, 3] then .valid else .invalid }
private def ofKsk (l : String) : KskKey :=
  { label := l, algorithm := 8, validFrom := 0, rsaSize := some 16, rsaExponent := some 65537,
    hashUsingHsm := some true }
private def ofCfg (acts : List (Nat × SchemaAction)) : SignerConfig :=
  { kskKeys := [("a", ofKsk "kskA"), ("b", ofKsk "kskB")], actions := acts }
private def ofMods : List P11Module := [{ label := "hsm", path := "m", sessions := [0] }]
private def oz1 : Key := ⟨"zsk1", 2, 3600, 256, 3, 8, "AwEAAg=="⟩
private def oz2 : Key := ⟨"zsk2", 3, 3600, 256, 3, 8, "AwEAAw=="⟩
private def ofBundle (ks : List Key) : Bundle := ⟨"b1", 1700000000000000, 1701000000000000, ks, [], none⟩
private def ofAct : SchemaAction := { publish := ["a", "b"], sign := ["a", "b"], revoke := ["b"] }
private def ofAct' : SchemaAction := { publish := ["b", "a", "b"], sign := ["b", "a"], revoke := ["b", "b"] }

private def os1 : TokState :=
  (fetchKeys ofExt ofMods (ofCfg [(1, ofAct)]) (ofBundle [oz1, oz2]) true ofAct.publish ofTok {}).2
private def os2 : TokState :=
  (fetchKeys ofExt ofMods (ofCfg [(1, ofAct)]) (ofBundle [oz1, oz2]) true ofAct.revoke ofTok os1).2

/-- the hypotheses of `signBundle_order_free` are satisfiable, with a non-trivial reordering: names
    swapped and repeated in all three schema lists, request keys swapped, `revoke` non-empty -/
example : ∃ rb rb' s4 s'',
    signBundle ofExt ofMods (ofCfg [(1, ofAct)]) 1 (ofBundle [oz1, oz2]) ofTok {} = (.ok rb, s4) ∧
    signBundle ofExt ofMods (ofCfg [(1, ofAct')]) 1 (ofBundle [oz2, oz1]) ofTok {} = (.ok rb', s'') ∧
    rb'.keys.Perm rb.keys ∧ rb'.signatures.Perm rb.signatures ∧ rb.keys.length = 4 ∧
    rb.signatures.length = 2 := by
  have ht : IndexFree ofTok := fun _ _ _ => rfl
  have hpub : fetchKeys ofExt ofMods (ofCfg [(1, ofAct)]) (ofBundle [oz1, oz2]) true ofAct.publish ofTok {}
      = (.ok _, os1) := Prod.ext (eq_okOr [] (by decide +kernel)) rfl
  have hrev : fetchKeys ofExt ofMods (ofCfg [(1, ofAct)]) (ofBundle [oz1, oz2]) true ofAct.revoke ofTok os1
      = (.ok _, os2) := Prod.ext (eq_okOr [] (by decide +kernel)) rfl
  have hsign : fetchKeys ofExt ofMods (ofCfg [(1, ofAct)]) (ofBundle [oz1, oz2]) false ofAct.sign ofTok os2
      = (.ok _, _) := Prod.ext (eq_okOr [] (by decide +kernel)) rfl
  have h : signBundle ofExt ofMods (ofCfg [(1, ofAct)]) 1 (ofBundle [oz1, oz2]) ofTok {}
      = (.ok _, _) := Prod.ext (eq_okOr default (by decide +kernel)) rfl
  obtain ⟨rb', s'', h', hk, hs, _⟩ := signBundle_order_free ofExt ofMods (ofCfg [(1, ofAct)])
    (ofCfg [(1, ofAct')]) 1 (ofBundle [oz1, oz2]) (ofBundle [oz2, oz1]) _ ofTok {} _ _ _ _ {} ofAct ofAct'
    _ _ _ ht rfl rfl rfl rfl rfl (SameElems.of_subsets (by decide) (by decide))
    (SameElems.of_subsets (by decide) (by decide)) (SameElems.of_subsets (by decide) (by decide))
    rfl rfl rfl (SameElems.of_subsets (by decide) (by decide))
    hpub hrev hsign h (by unfold PkFunctional; decide +kernel) (by unfold PkFunctional; decide +kernel)
    (by unfold PkFunctional; decide +kernel) (by unfold PkFunctional; decide +kernel)
    (by unfold IdFun; decide +kernel)
  exact ⟨_, rb', _, s'', h, h', hk, hs, by decide +kernel, by decide +kernel⟩

end OrderExample

end Kskm.C02
