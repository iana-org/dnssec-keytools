/-
  C03 — all-or-nothing: a failed check, a token fault or a declined confirmation yields no SKR.

  The theorems are about `ksrsigner` of Kskm/Ceremony.lean and are quantified over EVERY token
  oracle `tok` — hence over every fault position and every fault kind at once — and over every
  verifier, hash function, configuration, request, previous SKR and confirmation answer.

  `Does t R m Q`: against token `t`, every run of `m` leaves a state `R`-related to the one it started in
  (however the run ends), and a value it returns satisfies `Q`.  Each stage is walked once: `R` gives the
  effect facts (no write, no `C_Sign`), `Q` the gate facts.
-/
import Kskm.Ceremony
import KskmProofs.Lemmas.TokM
import KskmProofs.Lemmas.NoSign
import KskmProofs.Lemmas.Res
namespace Kskm.C03

/-! ## Events -/

def isWrite : Event → Bool
  | .write _ => true
  | _ => false

/-- newest first -/
def writes (s : CerState) : List Event := s.events.filter isWrite

/-! ## What a run does: a relation on the state, a predicate on the value -/

/-- against token `t`: every run of `m` leaves a state `R`-related to the one it started in, however it
    ends; a value it returns satisfies `Q` (`Q` may speak of `t`: it is fixed) -/
def Does {α} (t : Token) (R : CerState → CerState → Prop) (m : CerM α) (Q : α → Prop) : Prop :=
  ∀ s, R s (m t s).2 ∧ ∀ a, (m t s).1 = .ok a → Q a

/-- `R` is reflexive and transitive: what `pure` and `>>=` need -/
structure ReflTrans (R : CerState → CerState → Prop) : Prop where
  refl : ∀ s, R s s
  trans : ∀ {a b c}, R a b → R b c → R a c

namespace ReflTrans
variable {α β : Type} {t : Token} {R : CerState → CerState → Prop} (hR : ReflTrans R)
include hR

theorem pure {Q : α → Prop} {a : α} (h : Q a) : Does t R (Pure.pure a) Q :=
  fun s => ⟨hR.refl s, fun _ e => by cases e; exact h⟩

/-- returning `none` promises nothing -/
theorem none {Q : α → Prop} : Does t R (Pure.pure none : CerM (Option α)) fun o => ∀ p, o = some p → Q p :=
  hR.pure nofun

theorem some {Q : α → Prop} {a : α} (h : Q a) :
    Does t R (Pure.pure (some a) : CerM (Option α)) fun o => ∀ p, o = some p → Q p :=
  hR.pure fun _ e => Option.some.inj e ▸ h

theorem lift (r : Res α) : Does t R (CerM.lift r) (r = .ok ·) := fun s => ⟨hR.refl s, fun _ e => e⟩

/-- the rule of consequence is built in: what `m` returns may be assumed of the argument of `f` -/
theorem bind {m : CerM α} {f : α → CerM β} {P : α → Prop} {Q : β → Prop}
    (hm : Does t R m P) (hf : ∀ a, P a → Does t R (f a) Q) : Does t R (m >>= f) Q := by
  intro s
  obtain ⟨h1, h2⟩ := hm s
  simp only [Bind.bind]
  cases hr : m t s with
  | mk r s1 =>
    rw [hr] at h1 h2
    cases r with
    | error e => exact ⟨h1, nofun⟩
    | ok a =>
      obtain ⟨h3, h4⟩ := hf a (h2 a rfl) s1
      exact ⟨hR.trans h1 h3, h4⟩

end ReflTrans

namespace Does
variable {α : Type} {t : Token} {R : CerState → CerState → Prop}

/-- a step that cannot fail in a way that matters: only what it does to the state is recorded -/
theorem ofState {m : CerM α} (h : ∀ s, R s (m t s).2) : Does t R m fun _ => True := fun s => ⟨h s, fun _ _ => trivial⟩

/-- token work: the value returned is one the token action returns against `t` -/
theorem liftTok {m : TokM α} (h : ∀ s, R s (CerM.liftTok m t s).2) :
    Does t R (CerM.liftTok m) fun a => ∃ ts ts', m t ts = (.ok a, ts') :=
  fun s => ⟨h s, fun _ e => ⟨s.tok, _, Prod.ext e rfl⟩⟩

/-- a caught exception changes the outcome, not the state -/
theorem catchAll {m : CerM α} {P : α → Prop} (d : α) (hm : Does t R m P) :
    Does t R (CerM.catchAll m d) fun _ => True := by
  refine ofState fun s => ?_
  have h1 := (hm s).1
  unfold CerM.catchAll
  cases hr : m t s with
  | mk r s1 =>
    rw [hr] at h1
    cases r with
    | ok a => exact h1
    | error e => cases e <;> exact h1

end Does

/-! ## The stages, walked once -/

/-- the shape of `loadKsrGate` and `loadSkrGate`: `ok` only when the validation said so -/
theorem gate_ok {r : Res Unit}
    (h : (match r with | .error (.violation _) => err .runtime | r => r) = .ok ()) : r = .ok () := by
  split at h
  · simp [err] at h
  · exact h

/-- a configured previous SKR was read and validated, and it is the one the later stages are given -/
theorem stagePrev_ok {ext : Externals} {a : CeremonyArgs} {o : Option Response}
    (h : stagePrev ext a = .ok o) {r : Res Response} (hr : a.prev = some r) :
    ∃ last, r = .ok last ∧ o = some last ∧ validateResponse ext.verify last a.responsePolicy = .ok () := by
  unfold stagePrev at h
  rw [hr] at h
  obtain ⟨last, rfl, h1⟩ := Res.bind_ok h
  obtain ⟨_, hg, ⟨⟩⟩ := Res.bind_ok h1
  exact ⟨last, rfl, rfl, gate_ok hg⟩

theorem stageKsr_ok {ext : Externals} {a : CeremonyArgs} {r : Res Request} {req : Request}
    (h : stageKsr ext a r = .ok req) :
    r = .ok req ∧ validateRequest ext.verify a.now req a.requestPolicy = .ok () := by
  unfold stageKsr at h
  obtain ⟨q, rfl, h1⟩ := Res.bind_ok h
  obtain ⟨_, hg, h2⟩ := Res.bind_ok h1
  cases h2
  exact ⟨rfl, gate_ok hg⟩

theorem stageChain_ok {a : CeremonyArgs} {req : Request} {last : Response} {mods : List P11Module}
    {t : Token} {s s' : TokState} (h : stageChain a req (some last) mods t s = (.ok (), s')) :
    checkUniqueRequest req last = .ok () ∧ checkUniqueBundleIds req last = .ok () ∧
    checkChainKeys req last a.requestPolicy = .ok () ∧
    checkChainOverlap req last a.requestPolicy = .ok () := by
  unfold stageChain at h
  obtain ⟨⟨⟩, h1, h⟩ := TokM.lift_bind_ok_iff.mp h
  obtain ⟨⟨⟩, h2, h⟩ := TokM.lift_bind_ok_iff.mp h
  obtain ⟨⟨⟩, h3, h⟩ := TokM.lift_bind_ok_iff.mp h
  obtain ⟨⟨⟩, h4, _⟩ := TokM.lift_bind_ok_iff.mp h
  exact ⟨h1, h2, h3, h4⟩

/-- how the state may change before the last step: `R` survives the display, the prompt, and token work
    that asks only `P`-operations -/
structure Frame (P : TokOp → Prop) (R : CerState → CerState → Prop) : Prop extends ReflTrans R where
  emit : ∀ e, isWrite e = false → ∀ t s, R s (CerM.emit e t s).2
  tok : ∀ {α} (m : TokM α), Emits P m → ∀ t s, R s (CerM.liftTok m t s).2

/-- what the stages before signing hand over, and under which conditions -/
structure Handed (ext : Externals) (a : CeremonyArgs) (t : Token) (p : PreSign) : Prop where
  actions : a.actions = some p.actions
  ksr : a.ksr = some (.ok p.req)
  valid : validateRequest ext.verify a.now p.req a.requestPolicy = .ok ()
  prev : stagePrev ext a = .ok p.skr
  chain : ∃ ts ts', stageChain a p.req p.skr p.mods t ts = (.ok (), ts')
  confirmed : a.force = true ∨ confirmed a.answer = true

theorem stageConfirm_does {R : CerState → CerState → Prop} (hR : Frame NotSign R) (a : CeremonyArgs) (t : Token) :
    Does t R (stageConfirm a) fun go => go = true → a.force = true ∨ confirmed a.answer = true := by
  unfold stageConfirm
  split
  · exact hR.pure fun _ => .inl ‹_›
  · exact hR.bind (.ofState (hR.emit _ rfl t)) fun _ _ => hR.pure .inr

/-- **The stages before signing**: display, prompt, set-up and lookups on the token (no `C_Sign`) are all
    they do to the state; they hand over only when every gate before signing has passed. -/
theorem preSign_does {R : CerState → CerState → Prop} (hR : Frame NotSign R)
    (ext : Externals) (a : CeremonyArgs) (t : Token) :
    Does t R (preSign ext a) fun o => ∀ p, o = some p → Handed ext a t p := by
  unfold preSign
  split
  · exact hR.none
  next actions hact =>
  refine hR.bind (hR.lift _) fun skr hskr => ?_
  split
  · exact hR.none
  next r hksr =>
  refine hR.bind (hR.lift _) fun req hreq => hR.bind (.catchAll _ (hR.bind
    (.liftTok (hR.tok _ (initPkcs11Modules_emits _ _ _ _) t)) fun _ _ => hR.pure (Q := fun _ => True) trivial)) fun mods? _ => ?_
  split
  · exact hR.none
  next mods =>
  refine hR.bind (.liftTok (hR.tok _ (stageChain_emits _ _ _ _) t)) fun ⟨⟩ hchain =>
    hR.bind (.ofState (hR.emit _ rfl t)) fun _ _ => hR.bind (stageConfirm_does hR a t) fun go hgo => ?_
  cases go
  · exact hR.none
  · obtain ⟨rfl, hval⟩ := stageKsr_ok hreq
    exact hR.some ⟨hact, hksr, hval, hskr, hchain, hgo rfl⟩

/-! ## Nothing before the last step writes -/

def SameWrites (s s' : CerState) : Prop := writes s' = writes s

theorem SameWrites.frame (P : TokOp → Prop) : Frame P SameWrites where
  refl _ := rfl
  trans h1 h2 := h2.trans h1
  emit e h _ s := by simp [SameWrites, CerM.emit, writes, h]
  tok _ _ _ _ := rfl

/-- The gates, in the vocabulary of the property. -/
structure Gates (ext : Externals) (a : CeremonyArgs) (t : Token) (skr : Response) : Prop where
  /-- the schema exists, the KSR was read, parsed, and passed every enabled policy check -/
  ksr_valid : ∃ actions req, a.actions = some actions ∧ a.ksr = some (.ok req) ∧
      validateRequest ext.verify a.now req a.requestPolicy = .ok ()
  /-- a configured previous SKR was read, parsed and passed its own validation -/
  prev_valid : ∀ r, a.prev = some r → ∃ last, r = .ok last ∧
      validateResponse ext.verify last a.responsePolicy = .ok ()
  /-- the chain checks that need no token passed -/
  chain_valid : ∀ last req, a.prev = some (.ok last) → a.ksr = some (.ok req) →
      checkUniqueRequest req last = .ok () ∧ checkUniqueBundleIds req last = .ok () ∧
      checkChainKeys req last a.requestPolicy = .ok () ∧
      checkChainOverlap req last a.requestPolicy = .ok ()
  /-- the operator confirmed with exactly "Yes", unless forced -/
  confirmed : a.force = true ∨ confirmed a.answer = true
  /-- the publish / retire checks on the new SKR passed -/
  safety_valid : ∀ last, a.prev = some (.ok last) →
      checkLastSkrAndNewSkr last skr a.requestPolicy = .ok ()
  /-- the SKR could be serialised (this is decided before the output file is opened) -/
  serialisable : skrSerialisable skr = .ok ()
  /-- the SKR is what `create_skr` returned against this very token (so the C01 / C02 theorems about
      `createSkr` apply to it) -/
  signed : ∃ actions req mods ts ts', a.actions = some actions ∧ a.ksr = some (.ok req) ∧
      createSkr ext mods (signerConfigOf a actions) req t ts = (.ok skr, ts')

/-- the gates of the property, from what was handed over and what the signing stage checked -/
theorem Handed.gates {ext : Externals} {a : CeremonyArgs} {t : Token} {p : PreSign} {skr : Response}
    (h : Handed ext a t p)
    (hcreate : ∃ ts ts', createSkr ext p.mods (signerConfigOf a p.actions) p.req t ts = (.ok skr, ts'))
    (hpost : stagePost a p.skr skr = .ok ()) (hser : skrSerialisable skr = .ok ()) : Gates ext a t skr := by
  obtain ⟨ts, ts', hchain⟩ := h.chain
  obtain ⟨cs, cs', hcreate⟩ := hcreate
  refine ⟨⟨_, _, h.actions, h.ksr, h.valid⟩, fun r hr => ?_, fun last req' hl hk' => ?_, h.confirmed,
    fun last hl => ?_, hser, ⟨_, _, _, _, _, h.actions, h.ksr, hcreate⟩⟩
  · obtain ⟨last, e, _, hv⟩ := stagePrev_ok h.prev hr
    exact ⟨last, e, hv⟩
  · obtain ⟨_, ⟨⟩, ho, _⟩ := stagePrev_ok h.prev hl
    cases h.ksr.symm.trans hk'
    exact stageChain_ok (ho ▸ hchain)
  · obtain ⟨_, ⟨⟩, ho, _⟩ := stagePrev_ok h.prev hl
    rw [ho] at hpost
    exact hpost

/-- **Everything before the last step is write-free, and hands an SKR to the write only if every gate
    passed** — for every token and every outcome. -/
theorem core_does (ext : Externals) (a : CeremonyArgs) (t : Token) :
    Does t SameWrites (ksrsignerCore ext a) fun o => ∀ skr, o = some skr → Gates ext a t skr := by
  have W := SameWrites.frame NotSign
  unfold ksrsignerCore
  refine W.bind (preSign_does W ext a t) fun o ho => ?_
  split
  · exact W.none
  next p =>
  unfold signStage
  exact W.bind (W.bind (.liftTok fun _ => rfl) fun skr hcreate => W.bind (W.lift _) fun ⟨⟩ hpost =>
    W.bind (W.lift _) fun ⟨⟩ hser => W.pure ((ho p rfl).gates hcreate hpost hser)) fun skr g =>
      W.some g

theorem core_writeFree (ext : Externals) (a : CeremonyArgs) (t : Token) (s : CerState) :
    writes (ksrsignerCore ext a t s).2 = writes s := (core_does ext a t s).1

/-- **A write implies every gate.** -/
theorem core_some_implies_gates {ext : Externals} {a : CeremonyArgs} {t : Token} {s s' : CerState}
    {skr : Response} (h : ksrsignerCore ext a t s = (.ok (some skr), s')) : Gates ext a t skr :=
  (core_does ext a t s).2 _ (congrArg Prod.fst h) skr rfl

theorem preSign_some {ext : Externals} {a : CeremonyArgs} {t : Token} {s : CerState} {p : PreSign}
    (h : (preSign ext a t s).1 = .ok (some p)) : Handed ext a t p :=
  (preSign_does (SameWrites.frame NotSign) ext a t s).2 _ h p rfl

/-! ## The write happens exactly on success, after every gate -/

/-- **C03 in one statement.** For every token (every fault position and kind) and every starting state, a
    run of `ksrsigner` either returns `True`, having written — as its only write — an SKR for which every
    gate held, or does not return `True` and has written nothing. -/
theorem ksrsigner_spec (ext : Externals) (a : CeremonyArgs) (t : Token) (s : CerState) :
    ((ksrsigner ext a t s).1 = .ok true ∧
      ∃ skr, writes (ksrsigner ext a t s).2 = .write skr :: writes s ∧ Gates ext a t skr) ∨
    ((ksrsigner ext a t s).1 ≠ .ok true ∧ writes (ksrsigner ext a t s).2 = writes s) := by
  obtain ⟨hw, hg⟩ := core_does ext a t s
  unfold ksrsigner
  simp only [bind]
  cases hc : ksrsignerCore ext a t s with
  | mk r s1 =>
    rw [hc] at hw hg
    rcases r with e | _ | skr
    · exact .inr ⟨nofun, hw⟩
    · exact .inr ⟨nofun, hw⟩
    · exact .inl ⟨rfl, skr, congrArg (Event.write skr :: ·) hw, hg _ rfl skr rfl⟩

/-- **An unsuccessful run writes nothing.** For every token (every fault position and kind), if
    `ksrsigner` does not return `True` — it returns `False` or raises — then no write event was
    emitted: the bytes at the output path are untouched. -/
theorem unsuccessful_writes_nothing (ext : Externals) (a : CeremonyArgs) (t : Token) (s : CerState)
    (h : (ksrsigner ext a t s).1 ≠ .ok true) : writes (ksrsigner ext a t s).2 = writes s :=
  (ksrsigner_spec ext a t s).elim (fun h' => absurd h'.1 h) (·.2)

/-- **Fault anywhere** (the property's own quantifier, as a corollary): `t'` is ANY token — in particular a
    healthy one corrupted arbitrarily from some position of the operation sequence on; whatever `t'`
    answers, the run either ends unsuccessfully having written nothing, or every gate held. -/
theorem fault_anywhere (ext : Externals) (a : CeremonyArgs) (t' : Token) (s : CerState) (hs : writes s = []) :
    ((ksrsigner ext a t' s).1 ≠ .ok true ∧ writes (ksrsigner ext a t' s).2 = []) ∨
    ((ksrsigner ext a t' s).1 = .ok true ∧
      ∃ skr, writes (ksrsigner ext a t' s).2 = [.write skr] ∧ Gates ext a t' skr) :=
  (ksrsigner_spec ext a t' s).symm.imp (fun h => ⟨h.1, hs ▸ h.2⟩) (hs ▸ ·)

/-- **C03, main statement.** For every token oracle — i.e. whatever fault is injected at whatever
    position of the token-operation sequence — every verifier and hash function, every request,
    previous SKR, configuration and confirmation answer: if a write of an SKR is among the effects of
    a run that started with none, then the run returned `True`, it is the only write, and every gate
    held for the written SKR. -/
theorem write_only_if_gates (ext : Externals) (a : CeremonyArgs) (t : Token) (s : CerState)
    (hs : writes s = []) (hw : writes (ksrsigner ext a t s).2 ≠ []) :
    (ksrsigner ext a t s).1 = .ok true ∧
    ∃ skr, writes (ksrsigner ext a t s).2 = [.write skr] ∧ Gates ext a t skr :=
  (fault_anywhere ext a t s hs).elim (fun h => absurd h.2 hw) id

/-! ## Failure before the signing stage: no private-key operation at all -/

/-- the token operations between the two states all satisfy `P` -/
def Asked (P : TokOp → Prop) (s s' : CerState) : Prop :=
  ∃ l : List (TokOp × TokAns), s'.tok.log = l ++ s.tok.log ∧ ∀ e ∈ l, P e.1

theorem Asked.frame (P : TokOp → Prop) : Frame P (Asked P) where
  refl _ := ⟨[], rfl, fun _ h => absurd h List.not_mem_nil⟩
  trans := fun ⟨l1, e1, p1⟩ ⟨l2, e2, p2⟩ =>
    ⟨l2 ++ l1, by rw [e2, e1, List.append_assoc], fun e he => (List.mem_append.mp he).elim (p2 e) (p1 e)⟩
  emit _ _ _ _ := ⟨[], rfl, fun _ h => absurd h List.not_mem_nil⟩
  tok m h t s := let ⟨l, e, _, p⟩ := h t s.tok; ⟨l, e, p⟩

/-- **The stages before signing never issue a `C_Sign`** — for every token, whatever they answer
    and however the stages end. -/
theorem preSign_no_sign (ext : Externals) (a : CeremonyArgs) (t : Token) (s : CerState) :
    Asked NotSign s (preSign ext a t s).2 := (preSign_does (Asked.frame NotSign) ext a t s).1


/-- when the stages before signing do not hand over to the signing stage, the run ends right
    there: same outcome class, same final state -/
theorem ends_before_signing (ext : Externals) (a : CeremonyArgs) (t : Token) (s : CerState)
    (h : ∀ p, (preSign ext a t s).1 ≠ .ok (some p)) :
    (ksrsigner ext a t s).2 = (preSign ext a t s).2 ∧ (ksrsigner ext a t s).1 ≠ .ok true := by
  unfold ksrsigner ksrsignerCore
  simp only [bind]
  cases hp : preSign ext a t s with
  | mk r s1 =>
    cases r with
    | error e => simp
    | ok o =>
      cases o with
      | none => simp [pure]
      | some p => exact absurd (by rw [hp]) (h p)

/-- **C03, early failure.** For every token: if the failure precedes the signing stage — unknown
    schema, unreadable or invalid previous SKR, missing / unparsable / invalid KSR, token
    initialisation failure, failed chain check, declined confirmation — then no private-key
    operation was performed at all: no `C_Sign` is among the token operations of the run. -/
theorem early_failure_no_private_op (ext : Externals) (a : CeremonyArgs) (t : Token) (s : CerState)
    (h : ∀ p, (preSign ext a t s).1 ≠ .ok (some p)) :
    ∃ l : List (TokOp × TokAns), (ksrsigner ext a t s).2.tok.log = l ++ s.tok.log ∧
      ∀ e ∈ l, isSignOp e.1 = false := by
  rw [(ends_before_signing ext a t s h).1]
  exact preSign_no_sign ext a t s

/-- gates that fail whatever the token answers: each of these makes `preSign` end without handing over
    (a token initialisation failure and a failed chain check, which depend on the token's answers, meet
    the hypothesis of `early_failure_no_private_op` directly) -/
theorem early_failures (ext : Externals) (a : CeremonyArgs) (t : Token) (s : CerState)
    (h : a.actions = none ∨ a.ksr = none ∨ (∃ e, a.ksr = some (.error e)) ∨
      (∃ req, a.ksr = some (.ok req) ∧ validateRequest ext.verify a.now req a.requestPolicy ≠ .ok ()) ∨
      (∃ e, stagePrev ext a = .error e) ∨ (a.force = false ∧ confirmed a.answer = false)) :
    ∀ p, (preSign ext a t s).1 ≠ .ok (some p) := by
  intro p hp
  obtain ⟨hact, hksr, hval, hprev, _, hconf⟩ := preSign_some hp
  rcases h with h | h | ⟨e, h⟩ | ⟨req, h, hv⟩ | ⟨e, h⟩ | ⟨hf, hc⟩
  · rw [h] at hact; simp at hact
  · rw [h] at hksr; simp at hksr
  · rw [h] at hksr; simp at hksr
  · rw [h] at hksr
    simp only [Option.some.injEq, Except.ok.injEq] at hksr
    subst hksr; exact hv hval
  · rw [h] at hprev; simp at hprev
  · rcases hconf with hc' | hc'
    · rw [hf] at hc'; simp at hc'
    · rw [hc] at hc'; simp at hc'

/-! ## The confirmation is exact; exit statuses -/

/-- **The confirmation is exact.** Only answers equal to "Yes" after stripping leading and trailing
    newline characters are accepted. -/
theorem confirmation_exact (answer : String) :
    confirmed answer = true ↔
      String.ofList ((answer.toList.dropWhile (· = '\n')).reverse.dropWhile (· = '\n')).reverse = "Yes" := by
  simp only [confirmed, stripNewlines]
  exact decide_eq_true_iff

/-- a declined (and not forced) confirmation makes the run return False -/
theorem declined_returns_false (a : CeremonyArgs) (t : Token) (s : CerState)
    (hf : a.force = false) (hc : confirmed a.answer = false) :
    (stageConfirm a t s).1 = .ok false := by
  simp [stageConfirm, hf, bind, CerM.emit, pure, hc]

/-- **Exit status.** Only a run that returned `True` exits 0. -/
theorem exit_zero_iff (r : Res Bool) : exitStatus r = 0 ↔ r = .ok true := by
  unfold exitStatus
  split <;> simp_all

/-- … so an unsuccessful run's exit status is not 0. -/
theorem unsuccessful_exit_nonzero (r : Res Bool) (h : r ≠ .ok true) : exitStatus r ≠ 0 :=
  fun h0 => h ((exit_zero_iff r).mp h0)

theorem exit_config (r : Res Bool) (h : r = .error (.error .configuration)) : exitStatus r = 2 := by
  subst h; rfl

/-! ## Non-vacuity -/

example : confirmed "Yes" = true ∧ confirmed "Yes\n" = true ∧ confirmed "\nYes\n\n" = true := by decide
example : confirmed "yes" = false ∧ confirmed "YES" = false ∧ confirmed "Yes " = false ∧
    confirmed " Yes" = false ∧ confirmed "" = false ∧ confirmed "Yes\r" = false ∧ confirmed "Y" = false := by
  decide

end Kskm.C03
