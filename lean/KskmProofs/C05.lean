/-
  C05 — KSR timing rules accept exactly the documented region, bounds inclusive.

  `TimingRegion` is written from the property text; the theorems say that each rule of the model
  (which mirrors /repo's loops and comparison operators) accepts exactly its clause, for every
  timeline of every length, every policy and every clock value — and that the composite verdict is
  the plain conjunction of the clauses of the *enabled* rules, i.e. a switched-off rule never
  rejects and never masks another.
-/
import Kskm.KsrPolicy
import KskmGen.Tables
import KskmProofs.Lemmas.Res
namespace Kskm.C05

/-- every bundle's validity lies within the declared [min, max] -/
def ValidityClause (req : Request) : Prop :=
  ∀ b ∈ req.bundles,
    req.zskPolicy.minSignatureValidity ≤ b.expiration - b.inception ∧
    b.expiration - b.inception ≤ req.zskPolicy.maxSignatureValidity

/-- consecutive bundles never leave a gap and overlap by an amount within the declared [min, max] -/
def OverlapClause (req : Request) : Prop :=
  ∀ i p t, req.bundles[i]? = some p → req.bundles[i + 1]? = some t →
    t.inception ≤ p.expiration ∧
    req.zskPolicy.minValidityOverlap ≤ p.expiration - t.inception ∧
    p.expiration - t.inception ≤ req.zskPolicy.maxValidityOverlap

/-- consecutive inceptions are spaced within the operator's [min, max] interval -/
def IntervalClause (req : Request) (pol : RequestPolicy) : Prop :=
  ∀ i p t, req.bundles[i]? = some p → req.bundles[i + 1]? = some t →
    pol.minBundleInterval ≤ t.inception - p.inception ∧
    t.inception - p.inception ≤ pol.maxBundleInterval

/-- first-to-last inception spans within the operator's [min, max] cycle length -/
def CycleClause (req : Request) (pol : RequestPolicy) : Prop :=
  ∀ f l, req.bundles.head? = some f → req.bundles.getLast? = some l →
    pol.minCycleInceptionLength ≤ l.inception - f.inception ∧
    l.inception - f.inception ≤ pol.maxCycleInceptionLength

/-- the number of bundles equals the configured count -/
def CountClause (req : Request) (pol : RequestPolicy) : Prop :=
  (req.bundles.length : Int) = pol.numBundles

/-- no bundle has already expired, none expires more than `H` whole days ahead:
    `now ≤ exp` and `exp − now < (H + 1) days` -/
def HorizonClause (now : Int) (req : Request) (pol : RequestPolicy) : Prop :=
  ∀ b ∈ req.bundles,
    now ≤ b.expiration ∧ b.expiration - now < (pol.signatureHorizonDays + 1) * usPerDay

/-- The documented timing region under a given assignment of the enable flags. -/
def TimingRegion (now : Int) (req : Request) (pol : RequestPolicy) : Prop :=
  CountClause req pol ∧
  (pol.checkCycleLength = true → CycleClause req pol) ∧
  (pol.checkBundleOverlap = true → OverlapClause req) ∧
  (pol.signatureValidityMatchZskPolicy = true → ValidityClause req) ∧
  (pol.signatureCheckExpireHorizon = true → HorizonClause now req pol) ∧
  (pol.checkBundleIntervals = true → IntervalClause req pol)

theorem validity_iff (req : Request) (pol : RequestPolicy) :
    checkSignatureValidity req pol = .ok () ↔
      (pol.signatureValidityMatchZskPolicy = true → ValidityClause req) := by
  unfold checkSignatureValidity ValidityClause
  rw [guarded_ok_iff, forEach_ok_iff]
  exact imp_congr_right fun _ => forall_congr' fun b => imp_congr_right fun _ => window_ok_iff _ _ _ _

theorem overlap_iff (req : Request) (pol : RequestPolicy) :
    checkBundleOverlaps req pol = .ok () ↔ (pol.checkBundleOverlap = true → OverlapClause req) := by
  unfold checkBundleOverlaps OverlapClause
  rw [guarded_ok_iff]
  refine imp_congr_right fun _ => forEach_adjacent_ok_iff _ _ _ fun p t => ?_
  show (if t.inception > p.expiration then violation .policySigOverlap else _) = _ ↔ _
  rw [ite_viol_iff, window_ok_iff]; dsimp only; omega

theorem interval_iff (req : Request) (pol : RequestPolicy) :
    checkBundleIntervals req pol = .ok () ↔ (pol.checkBundleIntervals = true → IntervalClause req pol) := by
  unfold checkBundleIntervals IntervalClause
  rw [guarded_ok_iff]
  exact imp_congr_right fun _ => forEach_adjacent_ok_iff _ _ _ fun p t => window_ok_iff _ _ _ _

theorem cycle_iff (req : Request) (pol : RequestPolicy) :
    checkCycleDurations req pol = .ok () ↔ (pol.checkCycleLength = true → CycleClause req pol) := by
  unfold checkCycleDurations CycleClause
  rw [guarded_ok_iff]
  refine imp_congr_right fun _ => ?_
  cases hh : req.bundles.head? with
  | none => simp
  | some f =>
    cases hl : req.bundles.getLast? with
    | none => simp
    | some l =>
      simp only [Option.some.injEq]
      rw [window_ok_iff]
      exact ⟨fun h _ _ hf hl => hf ▸ hl ▸ h, fun h => h f l rfl rfl⟩

theorem count_iff (req : Request) (pol : RequestPolicy) :
    checkBundleCount req pol = .ok () ↔ CountClause req pol := by
  unfold checkBundleCount CountClause
  by_cases h : (req.bundles.length : Int) = pol.numBundles <;> simp [h]

/-- floor-division fact behind the horizon rule: whole days ahead ≤ H ⇔ less than H+1 days ahead -/
theorem tdDays_le_iff (d H : Int) : tdDays d ≤ H ↔ d < (H + 1) * usPerDay := by
  unfold tdDays usPerDay
  constructor
  · intro h
    have := Int.lt_ediv_add_one_mul_self d (show (0 : Int) < 86400000000 by decide)
    have h2 : (d / 86400000000 + 1) * 86400000000 ≤ (H + 1) * 86400000000 :=
      Int.mul_le_mul_of_nonneg_right (by omega) (by decide)
    omega
  · intro h
    have h1 := Int.ediv_mul_le d (show (86400000000 : Int) ≠ 0 by decide)
    apply Decidable.byContradiction
    intro hc
    have hc : H + 1 ≤ d / 86400000000 := by omega
    have h2 : (H + 1) * 86400000000 ≤ d / 86400000000 * 86400000000 :=
      Int.mul_le_mul_of_nonneg_right hc (by decide)
    omega

theorem tdDays_nonneg_iff (d : Int) : 0 ≤ tdDays d ↔ 0 ≤ d := by
  unfold tdDays usPerDay
  constructor
  · intro h
    have h1 := Int.ediv_mul_le d (show (86400000000 : Int) ≠ 0 by decide)
    have h2 : 0 ≤ d / 86400000000 * 86400000000 := Int.mul_nonneg h (by decide)
    omega
  · intro h; exact Int.ediv_nonneg h (by decide)

/-- The horizon rule, for every positive horizon `H` (the only values a loaded configuration can
    have): accepted ⇔ not yet expired and expiring less than `H + 1` days ahead. -/
theorem horizon_iff (now : Int) (req : Request) (pol : RequestPolicy) (hH : 1 ≤ pol.signatureHorizonDays) :
    checkSignatureHorizon now req pol = .ok () ↔
      (pol.signatureCheckExpireHorizon = true → HorizonClause now req pol) := by
  unfold checkSignatureHorizon HorizonClause
  rw [guarded_ok_iff, forEach_ok_iff]
  refine imp_congr_right fun _ => forall_congr' fun b => imp_congr_right fun _ => ?_
  unfold checkHorizonOne
  have hne : (pol.signatureHorizonDays != 0) = true := by simp; omega
  have hpos : decide (pol.signatureHorizonDays > 0) = true := by simp; omega
  have e1 := tdDays_le_iff (b.expiration - now) pol.signatureHorizonDays
  have e2 := tdDays_nonneg_iff (b.expiration - now)
  simp only [hne, hpos, Bool.true_and, decide_eq_true_eq]
  rw [ite_viol_iff, ite_viol_ok_iff]; omega

/-- the timing rules in the order `validate_request` runs them (other rules run in between) -/
def timingChecks (now : Int) (req : Request) (pol : RequestPolicy) : Res Unit := do
  checkBundleCount req pol
  checkCycleDurations req pol
  checkBundleOverlaps req pol
  checkSignatureValidity req pol
  checkSignatureHorizon now req pol
  checkBundleIntervals req pol

/-- **C05.** For every timeline, policy (H ≥ 1) and clock value: the timing rules accept iff the
    timeline lies in the documented region. -/
theorem C05_iff (now : Int) (req : Request) (pol : RequestPolicy) (hH : 1 ≤ pol.signatureHorizonDays) :
    timingChecks now req pol = .ok () ↔ TimingRegion now req pol := by
  unfold timingChecks TimingRegion
  simp only [seq_ok_iff, count_iff, cycle_iff, overlap_iff, validity_iff, horizon_iff now req pol hH,
    interval_iff]

/-- **A switched-off check never rejects.** -/
theorem C05_flags_off (now : Int) (req : Request) (pol : RequestPolicy) :
    (pol.checkCycleLength = false → checkCycleDurations req pol = .ok ()) ∧
    (pol.checkBundleOverlap = false → checkBundleOverlaps req pol = .ok ()) ∧
    (pol.signatureValidityMatchZskPolicy = false → checkSignatureValidity req pol = .ok ()) ∧
    (pol.signatureCheckExpireHorizon = false → checkSignatureHorizon now req pol = .ok ()) ∧
    (pol.checkBundleIntervals = false → checkBundleIntervals req pol = .ok ()) := by
  exact ⟨fun h => guarded_off h _, fun h => guarded_off h _, fun h => guarded_off h _,
    fun h => guarded_off h _, fun h => guarded_off h _⟩

/-- **Never masks another.** The whole of `validate_request` accepts iff *every* rule accepts on its
    own; so a rule's verdict (in particular a disabled rule's `ok`) cannot hide another's rejection. -/
theorem validateRequest_ok_iff (verify : Verifier) (now : Int) (req : Request) (pol : RequestPolicy) :
    validateRequest verify now req pol = .ok () ↔
      checkDomain req pol = .ok () ∧ checkUniqueIds req = .ok () ∧
      checkKeysMatchZskPolicy req pol = .ok () ∧ checkProofOfPossession verify req pol = .ok () ∧
      checkBundleCount req pol = .ok () ∧ checkCycleDurations req pol = .ok () ∧
      checkKeysInBundles req pol = .ok () ∧ checkZskPolicyAlgorithm req pol = .ok () ∧
      checkBundleOverlaps req pol = .ok () ∧ checkSignatureValidity req pol = .ok () ∧
      checkSignatureHorizon now req pol = .ok () ∧ checkBundleIntervals req pol = .ok () := by
  unfold validateRequest verifyBundles verifyPolicy
  simp only [seq_ok_iff, and_assoc]

/-- **C05 inside the full validation.** A request that passes every non-timing rule is accepted iff it
    lies in the timing region. -/
theorem C05_in_validateRequest (verify : Verifier) (now : Int) (req : Request) (pol : RequestPolicy)
    (hH : 1 ≤ pol.signatureHorizonDays)
    (hother : checkDomain req pol = .ok () ∧ checkUniqueIds req = .ok () ∧
      checkKeysMatchZskPolicy req pol = .ok () ∧ checkProofOfPossession verify req pol = .ok () ∧
      checkKeysInBundles req pol = .ok () ∧ checkZskPolicyAlgorithm req pol = .ok ()) :
    validateRequest verify now req pol = .ok () ↔ TimingRegion now req pol := by
  rw [validateRequest_ok_iff, ← C05_iff now req pol hH]
  unfold timingChecks
  simp only [seq_ok_iff]
  obtain ⟨h1, h2, h3, h4, h5, h6⟩ := hother
  simp only [h1, h2, h3, h4, h5, h6, true_and]

/-- the defaults regenerated from /repo carry the documented timing parameters (all checks on,
    9 bundles, 79–81-day cycle, 9–11-day interval, 180-day horizon) -/
theorem defaults_documented :
    KskmGen.requestPolicyDefaults.numBundles = 9 ∧
    KskmGen.requestPolicyDefaults.minCycleInceptionLength = 79 * usPerDay ∧
    KskmGen.requestPolicyDefaults.maxCycleInceptionLength = 81 * usPerDay ∧
    KskmGen.requestPolicyDefaults.minBundleInterval = 9 * usPerDay ∧
    KskmGen.requestPolicyDefaults.maxBundleInterval = 11 * usPerDay ∧
    KskmGen.requestPolicyDefaults.signatureHorizonDays = 180 ∧
    KskmGen.requestPolicyDefaults.checkCycleLength = true ∧
    KskmGen.requestPolicyDefaults.checkBundleOverlap = true ∧
    KskmGen.requestPolicyDefaults.signatureValidityMatchZskPolicy = true ∧
    KskmGen.requestPolicyDefaults.signatureCheckExpireHorizon = true ∧
    KskmGen.requestPolicyDefaults.checkBundleIntervals = true := by decide

/-! ## Non-vacuity: a nine-bundle timeline shaped like the archived 2017-Q2 KSR lies in the region -/

def day : Int := usPerDay
def exBundle (i : Nat) : Bundle :=
  { id := s!"b{i}", inception := (i : Int) * 10 * day, expiration := (i : Int) * 10 * day + 21 * day,
    keys := [], signatures := [] }
def exReq : Request :=
  { id := "r", serial := 1, domain := ".",
    zskPolicy := { maxSignatureValidity := 21 * day, minSignatureValidity := 21 * day,
                   maxValidityOverlap := 12 * day, minValidityOverlap := 9 * day },
    bundles := (List.range 9).map exBundle }

example : timingChecks (5 * day) exReq KskmGen.requestPolicyDefaults = .ok () := by decide +kernel
example : (1 : Int) ≤ KskmGen.requestPolicyDefaults.signatureHorizonDays := by decide

end Kskm.C05
