/-
  C06 — KSR key, algorithm and header rules accept exactly the documented region.

  The clauses below are written from the property text:

    "its domain is in the acceptable list; every declared signature algorithm is neither deprecated
     nor unsupported (ECDSA and EdDSA only when explicitly enabled) and is on the approved list, with
     RSA sizes and exponents from the approved lists; bundle ids are unique; each slot holds the
     configured number of keys and the whole request the configured number of distinct keys; and
     every key has flags 256, a correctly computed key tag, parameters (algorithm, size, and exponent
     unless waived) matching one declared algorithm, and a key identifier that denotes the same key
     everywhere it appears."

  Each theorem says that one rule of the model (which mirrors /repo's loops, dictionaries and
  comparison operators) accepts exactly its clause, for every request and every policy; the composite
  is the plain conjunction of the enabled rules (a switched-off rule never rejects, never masks).
  The algorithm tables used are the ones regenerated from /repo on every run (`KskmGen.Tables`).

  The composite comes in several statements; how they relate:
    `C06_iff`                    rules ⇔ `KeyHeaderRegion` (per-key acceptance still the model's `checkNewKey`);
    `C06_iff_spec`               rules ⇔ `KeyHeaderRegionSpecOrdered`: every clause in the property's words, the
                                 matching clause refined by the order in which declared entries are visited — the
                                 property's statement in its exact form, no hypothesis;
    `C06_spec_sound`             rules ⇒ `KeyHeaderRegionSpec`, the region as literally documented, no hypothesis;
    `C06_iff_spec_of`            rules ⇔ `KeyHeaderRegionSpec` wherever, inside that region, the documented per-key
                                 clause implies the refined one — logic about the two specifications only; hence
    `C06_iff_spec_partial`       rules ⇔ `KeyHeaderRegionSpec` if `DeclaredWellFormed req`;
    `C06_iff_spec_allowed`       the same under the weaker `DeclaredWellFormedWhereAllowed`;
    `C06_iff_spec_families_off`  the same for every request when ECDSA and EdDSA are not enabled (the default);
    `C06_iff_spec_parsed`        the same for every request the KSR parser builds;
    `C06_iff_spec_needed`        without any of these the literal region is not exact (a hand-built witness).
-/
import Kskm.KsrPolicy
import KskmGen.Tables
import KskmProofs.Lemmas.Res
import KskmProofs.Lemmas.C06
import KskmProofs.Lemmas.C06Parsed
import KskmProofs.Lemmas.Base64
import KskmProofs.Lemmas.Literals
import KskmProofs.C05
import KskmProofs.C14
namespace Kskm.C06
open Kskm.C06L

/-! ## KSR-DOMAIN -/

/-- the request's domain is in the acceptable list -/
def DomainClause (req : Request) (pol : RequestPolicy) : Prop := req.domain ∈ pol.acceptableDomains

theorem domain_iff (req : Request) (pol : RequestPolicy) :
    checkDomain req pol = .ok () ↔ DomainClause req pol := by
  unfold checkDomain DomainClause
  rw [ite_ok_viol_iff, List.contains_iff_mem]

/-! ## KSR-BUNDLE-UNIQUE -/

/-- bundle ids are unique (no id occurs at two positions) -/
def UniqueIdsClause (req : Request) : Prop := (req.bundles.map (·.id)).Nodup

theorem uniqueIds_iff (req : Request) : checkUniqueIds req = .ok () ↔ UniqueIdsClause req := by
  unfold checkUniqueIds UniqueIdsClause
  rw [ite_viol_ok_iff, ← hasDupBundleIds_eq_false_iff]
  simp

/-- the same clause, position by position -/
theorem uniqueIds_iff_positions (req : Request) :
    checkUniqueIds req = .ok () ↔
      ∀ (i j : Nat) (a b : Bundle), i < j → req.bundles[i]? = some a → req.bundles[j]? = some b →
        a.id ≠ b.id := by
  rw [uniqueIds_iff, ← pairwise_iff_getElem?, UniqueIdsClause, List.Nodup, List.pairwise_map]

/-! ## KSR-POLICY-KEYS -/

/-- number of distinct key identifiers over the whole request -/
def distinctKeyCount (req : Request) : Nat := ((allKeys req).map (·.keyIdentifier)).eraseDups.length

/-- `eraseDups` really is "the distinct identifiers": duplicate-free, same members. -/
theorem distinctKeyCount_spec (req : Request) :
    ∃ d : List String, d.Nodup ∧ (∀ x, x ∈ d ↔ ∃ k ∈ allKeys req, k.keyIdentifier = x) ∧
      d.length = distinctKeyCount req :=
  ⟨_, nodup_eraseDups _, fun x => by rw [List.mem_eraseDups]; simp, rfl⟩

/-- any duplicate-free enumeration of the identifiers has that length -/
theorem distinctKeyCount_unique (req : Request) (d : List String) (hd : d.Nodup)
    (hm : ∀ x, x ∈ d ↔ ∃ k ∈ allKeys req, k.keyIdentifier = x) : d.length = distinctKeyCount req := by
  apply List.Perm.length_eq
  rw [List.perm_ext_iff_of_nodup hd (nodup_eraseDups _)]
  intro x; rw [hm, List.mem_eraseDups]; simp

/-- each slot holds the configured number of keys, the whole request the configured number of
    distinct keys -/
def KeyCountsClause (req : Request) (pol : RequestPolicy) : Prop :=
  req.bundles.length = pol.numKeysPerBundle.length ∧
  (∀ (i : Nat) (b : Bundle) (n : Int), req.bundles[i]? = some b → pol.numKeysPerBundle[i]? = some n →
    (b.keys.length : Int) = n) ∧
  (distinctKeyCount req : Int) = pol.numDifferentKeysInAllBundles

theorem keysInBundles_iff (req : Request) (pol : RequestPolicy) :
    checkKeysInBundles req pol = .ok () ↔
      (pol.checkKeysMatchKskOperatorPolicy = true → KeyCountsClause req pol) := by
  unfold checkKeysInBundles KeyCountsClause distinctKeyCount
  simp only [res_ok]
  simp only [bne_iff_ne, ne_eq, Decidable.not_not, Bool.not_eq_true', Bool.not_eq_false, distinctIds_length]
  exact imp_congr_right fun _ => and_congr_right fun hl => and_congr_left' (slotCountsOk_iff _ _ hl)

/-! ## KSR-POLICY-ALG -/

/-- the model's lists are /repo's -/
theorem tables_agree :
    deprecatedAlgorithms = KskmGen.deprecatedAlgorithms ∧
    supportedAlgorithms = KskmGen.supportedAlgorithms := by decide

theorem isRsa_iff_table (n : Nat) : isAlgorithmRsa n = true ↔ n ∈ KskmGen.rsaAlgorithms := by
  simp [isAlgorithmRsa, KskmGen.rsaAlgorithms, algRSASHA1, algRSASHA256, algRSASHA512, or_assoc]
theorem isEcdsa_iff_table (n : Nat) : isAlgorithmEcdsa n = true ↔ n ∈ KskmGen.ecdsaAlgorithms := by
  simp [isAlgorithmEcdsa, KskmGen.ecdsaAlgorithms, algECDSAP256, algECDSAP384]
theorem isEddsa_iff_table (n : Nat) : isAlgorithmEddsa n = true ↔ n ∈ KskmGen.eddsaAlgorithms := by
  simp [isAlgorithmEddsa, KskmGen.eddsaAlgorithms, algED25519, algED448]

/-- neither deprecated nor unsupported; ECDSA / EdDSA only when explicitly enabled -/
def AlgAllowed (pol : RequestPolicy) (n : Nat) : Prop :=
  n ∉ KskmGen.deprecatedAlgorithms ∧ n ∈ KskmGen.supportedAlgorithms ∧
  (n ∈ KskmGen.ecdsaAlgorithms → pol.enableUnsupportedEcdsa = true) ∧
  (n ∈ KskmGen.eddsaAlgorithms → pol.enableUnsupportedEdwardsDsa = true)

/-- on the approved list, RSA sizes and exponents from the approved lists (an RSA algorithm number
    must therefore come with RSA parameters) -/
def AlgApproved (pol : RequestPolicy) (a : AlgPolicy) : Prop :=
  some a.algorithm ∈ pol.approvedAlgorithms ∧
  (a.algorithm ∈ KskmGen.rsaAlgorithms →
    a.kind = .rsa ∧ a.bits ∈ pol.rsaApprovedKeySizes ∧
    ∃ e, a.exponent = some e ∧ e ∈ pol.rsaApprovedExponents)

/-- The algorithm clause.  The first half is *not* guarded by any flag (as in /repo); the second is
    guarded by `signature_algorithms_match_zsk_policy` and presupposes that every configured
    approved-algorithm name is a known algorithm (`none` stands for an unknown name, on which /repo
    raises `KeyError`). -/
def AlgorithmClause (req : Request) (pol : RequestPolicy) : Prop :=
  (∀ a ∈ req.zskPolicy.algorithms, AlgAllowed pol a.algorithm) ∧
  (pol.signatureAlgorithmsMatchZskPolicy = true →
    (∀ x ∈ pol.approvedAlgorithms, x ≠ none) ∧
    ∀ a ∈ req.zskPolicy.algorithms, AlgApproved pol a)

theorem algBasic_iff (pol : RequestPolicy) (a : AlgPolicy) :
    checkAlgBasic pol a = .ok () ↔ AlgAllowed pol a.algorithm := by
  unfold checkAlgBasic AlgAllowed
  rw [← tables_agree.1, ← tables_agree.2, ← isEcdsa_iff_table, ← isEddsa_iff_table]
  simp only [res_ok]
  simp

theorem algRsaParams_iff (pol : RequestPolicy) (a : AlgPolicy) :
    checkAlgRsaParams pol a = .ok () ↔
      (a.algorithm ∈ KskmGen.rsaAlgorithms →
        a.kind = .rsa ∧ a.bits ∈ pol.rsaApprovedKeySizes ∧
        ∃ e, a.exponent = some e ∧ e ∈ pol.rsaApprovedExponents) := by
  unfold checkAlgRsaParams
  rw [← isRsa_iff_table]
  cases isAlgorithmRsa a.algorithm <;> cases a.exponent <;> simp only [res_ok] <;> simp

/-- **KSR-POLICY-ALG accepts exactly the algorithm clause.** -/
theorem zskPolicyAlgorithm_iff (req : Request) (pol : RequestPolicy) :
    checkZskPolicyAlgorithm req pol = .ok () ↔ AlgorithmClause req pol := by
  unfold checkZskPolicyAlgorithm AlgorithmClause AlgApproved
  simp only [res_ok, algBasic_iff, algRsaParams_iff, List.contains_iff_mem,
    List.any_eq_true, Option.isNone_iff_eq_none, not_exists, not_and, ← forall_and, ne_eq]

/-- allowed algorithm numbers as a Boolean function of the regenerated tables -/
def allowedB (ecdsa eddsa : Bool) (n : Nat) : Bool :=
  !KskmGen.deprecatedAlgorithms.contains n && KskmGen.supportedAlgorithms.contains n &&
  (!KskmGen.ecdsaAlgorithms.contains n || ecdsa) && (!KskmGen.eddsaAlgorithms.contains n || eddsa)

theorem algAllowed_iff_allowedB (pol : RequestPolicy) (n : Nat) :
    AlgAllowed pol n ↔ allowedB pol.enableUnsupportedEcdsa pol.enableUnsupportedEdwardsDsa n = true := by
  unfold AlgAllowed allowedB
  simp only [Bool.and_eq_true, Bool.not_eq_true', Bool.or_eq_true, List.contains_iff_mem,
    ← Bool.not_eq_true, and_assoc]
  constructor
  · rintro ⟨h1, h2, h3, h4⟩
    exact ⟨h1, h2, Decidable.or_iff_not_imp_left.mpr (fun h => h3 (Decidable.not_not.mp h)),
      Decidable.or_iff_not_imp_left.mpr (fun h => h4 (Decidable.not_not.mp h))⟩
  · rintro ⟨h1, h2, h3, h4⟩
    exact ⟨h1, h2, fun h => h3.resolve_left (fun hn => hn h), fun h => h4.resolve_left (fun hn => hn h)⟩

/-- **The accepted algorithm numbers**, by complete tabulation over every octet value against the
    tables regenerated from /repo: RSA-SHA-256 and RSA-SHA-512 always; ECDSA P-256/P-384 only when
    ECDSA is enabled; Ed25519/Ed448 only when EdDSA is enabled; nothing else (in particular none of
    RSA-MD5, DSA, RSA-SHA-1 in either form, ECC-GOST). -/
theorem allowed_numbers : ∀ n < 256, ∀ ecdsa eddsa : Bool,
    allowedB ecdsa eddsa n =
      (n == 8 || n == 10 || ((n == 13 || n == 14) && ecdsa) || ((n == 15 || n == 16) && eddsa)) := by
  decide +kernel

/-! ## KSR-BUNDLE-KEYS -/

/-- RFC 4034 §2.1 RDATA of a zone key: flags 256 = `0x01 0x00`, protocol, algorithm, public key -/
def zoneKeyRdata (protocol algorithm : Nat) (pk : Bytes) : Bytes :=
  1 :: 0 :: UInt8.ofNat protocol :: UInt8.ofNat algorithm :: pk

/-- the stated key tag is the RFC 4034 App. B tag of the key's RDATA (fields within wire range) -/
def TagCorrect (k : Key) (pk : Bytes) : Prop :=
  0 ≤ k.protocol ∧ k.protocol < 256 ∧ k.algorithm < 256 ∧
  k.keyTag = ((C14.rfc4034KeyTag (zoneKeyRdata k.protocol.toNat k.algorithm pk) : Nat) : Int)

/-- flags 256 and a correctly computed key tag -/
def FlagsTagClause (k : Key) : Prop :=
  k.flags = 256 ∧ ∃ pk, Base64.decode k.publicKey = some pk ∧ TagCorrect k pk

theorem keyFlagsTag_iff (k : Key) : keyFlagsTagCheck k = .ok () ↔ FlagsTagClause k := by
  have hstep : keyFlagsTagCheck k = .ok () ↔
      k.flags = 256 ∧ ∃ r, keyToRdata k = .ok r ∧ (keyTagOfRdata r : Int) = k.keyTag := by
    unfold keyFlagsTagCheck calculateKeyTag
    by_cases hfl : k.flags = 256
    · cases hr : keyToRdata k <;> simp [hfl, bind, Except.bind, pure, Except.pure, violation]
    · simp [hfl, bind, Except.bind, violation]
  rw [hstep]; unfold FlagsTagClause TagCorrect
  refine and_congr_right fun hfl => ?_
  -- with flags 256 the RDATA of `key_to_rdata` is `zoneKeyRdata`, and the flags are in range
  simp only [C14.keyToRdata_ok_iff, C14.keyTag_eq_rfc4034]
  constructor
  · rintro ⟨r, ⟨⟨_, h8, ha⟩, pk, hd, rfl⟩, ht⟩
    simp only [inRange, Bool.and_eq_true, decide_eq_true_eq] at h8
    exact ⟨pk, hd, h8.1, by omega, ha, by rw [← ht, hfl]; rfl⟩
  · rintro ⟨pk, hd, hp0, hp1, ha, ht⟩
    exact ⟨_, ⟨⟨by rw [hfl]; decide, by simp [inRange]; omega, ha⟩, pk, hd, rfl⟩, by rw [ht, hfl]; rfl⟩

/-- RSA (RFC 3110): the decoded key's algorithm, modulus size and — unless waived — exponent match
    one declared RSA algorithm.  `rsaDecodeBytes` is the RFC 3110 reader characterised in C14
    (`rsa_decode_encode`). -/
def RsaParamsClause (req : Request) (pol : RequestPolicy) (k : Key) : Prop :=
  ∃ pk pub, Base64.decode k.publicKey = some pk ∧ rsaDecodeBytes pk = .ok pub ∧
    ∃ a ∈ req.zskPolicy.algorithms, a.kind = .rsa ∧ a.algorithm = k.algorithm ∧
      a.bits = (pub.bits : Int) ∧
      (a.exponent = some (pub.exponent : Int) ∨ pol.rsaExponentMatchZskPolicy = false)

/-- ECDSA (RFC 6605): algorithm and point size — after removal of at most one SEC 1 `0x04` octet,
    see C14 `ecdsa_strip_prefix` — match one declared ECDSA algorithm. -/
def EcdsaParamsClause (req : Request) (k : Key) : Prop :=
  ∃ pk, Base64.decode k.publicKey = some pk ∧
    ∃ a ∈ req.zskPolicy.algorithms, a.kind = .ecdsa ∧ a.algorithm = k.algorithm ∧
      ∃ p, ecdsaWithoutPrefix pk a.algorithm = .ok p ∧ (getEcdsaPubkeySize p : Int) = a.bits

/-- EdDSA (RFC 8080): algorithm and key size match one declared EdDSA algorithm. -/
def EddsaParamsClause (req : Request) (k : Key) : Prop :=
  ∃ pk, Base64.decode k.publicKey = some pk ∧
    ∃ a ∈ req.zskPolicy.algorithms, a.kind = .eddsa ∧ a.algorithm = k.algorithm ∧
      ∃ p, eddsaWithoutPrefix pk a.algorithm = .ok p ∧ ((p.length * 8 : Nat) : Int) = a.bits

/-- **RSA keys: parameters match a declared algorithm, exponent waived only when
    `rsa_exponent_match_zsk_policy` is off** — for every key text, every declared set. -/
theorem keyParams_rsa_iff (req : Request) (pol : RequestPolicy) (k : Key)
    (hal : isAlgorithmRsa k.algorithm = true) :
    keyParamsCheck req pol k = .ok () ↔ RsaParamsClause req pol k := by
  unfold RsaParamsClause
  simp only [keyParamsCheck, hal, ↓reduceIte, matchRsaAlg_waive, Res.bind_ok_iff, rsaDecode_ok_iff hal,
    ite_viol_ok_iff, Bool.not_eq_false, matchRsaAlg_iff, Bool.not_eq_true']
  exact ⟨fun ⟨pub, ⟨pk, hd, hp⟩, h⟩ => ⟨pk, pub, hd, hp, h⟩, fun ⟨pk, pub, hd, hp, h⟩ => ⟨pub, ⟨pk, hd, hp⟩, h⟩⟩

/-- every declared ECDSA / EdDSA entry carries an algorithm number of its own family -/
def DeclaredWellFormed (req : Request) : Prop :=
  ∀ a ∈ req.zskPolicy.algorithms,
    (a.kind = .ecdsa → a.algorithm ∈ KskmGen.ecdsaAlgorithms) ∧
    (a.kind = .eddsa → a.algorithm ∈ KskmGen.eddsaAlgorithms)

/-
  `keyParamsCheck req pol k = .ok () ↔ EcdsaParamsClause req k` for every ECDSA key is FALSE of model
  and code alike without `DeclaredWellFormed`.  /repo strips the SEC 1 prefix relative to each declared
  *entry's* algorithm while it searches; an entry such as
  `<SignatureAlgorithm algorithm="15"><ECDSA size="256"/>` makes that raise `ValueError` (a rejection,
  not a policy violation) if the set iteration reaches it before the matching entry.
  `ecdsa_declared_order_witness` proves the order dependence on a concrete input; the correspondence
  run replays it on /repo.  Hence three kinds of statement:

  * `…_iff` / `C06_iff_spec`: the exact accepted region for every input, the "matching one declared
    algorithm" clause refined (`…Ordered`) to say that the matching entry must be met, in the visiting
    order of the declared set, before any entry of the same element kind whose number is not of that kind;
  * `…_iff_partial`: the clause as documented, under `DeclaredWellFormed` (where the refinement says
    nothing new); the `_needed` theorems refute the hypothesis-free statements on concrete inputs, which
    the correspondence run replays on /repo at `validate_request`; only `←` needs the hypothesis (`…_sound`);
  * `C06_iff_spec_allowed`, `C06_iff_spec_families_off`: the documented region is exact under hypotheses
    strictly weaker than `DeclaredWellFormed` — in particular for every request whatsoever when ECDSA
    and EdDSA are not enabled (the default).

  The property text is silent on declared entries whose element kind contradicts their algorithm
  number: read literally the witness requests lie in the region and /repo does not accept them in one
  of the two visiting orders — the declared-entry-order observation of DESIGN §5
  (proposed_fixes/C06_ec_declared_entry_order.diff).
-/

/-- ECDSA, refined: the matching declared entry is reached before any `<ECDSA>` entry carrying a
    non-ECDSA number (visiting order of the declared set). -/
def EcdsaParamsClauseOrdered (req : Request) (k : Key) : Prop :=
  ∃ pk, Base64.decode k.publicKey = some pk ∧
    ∃ pre a post, req.zskPolicy.algorithms = pre ++ a :: post ∧
      (∀ x ∈ pre, x.kind = .ecdsa → x.algorithm ∈ KskmGen.ecdsaAlgorithms) ∧
      a.kind = .ecdsa ∧ a.algorithm = k.algorithm ∧
      ∃ p, ecdsaWithoutPrefix pk a.algorithm = .ok p ∧ (getEcdsaPubkeySize p : Int) = a.bits

/-- EdDSA, refined in the same way. -/
def EddsaParamsClauseOrdered (req : Request) (k : Key) : Prop :=
  ∃ pk, Base64.decode k.publicKey = some pk ∧
    ∃ pre a post, req.zskPolicy.algorithms = pre ++ a :: post ∧
      (∀ x ∈ pre, x.kind = .eddsa → x.algorithm ∈ KskmGen.eddsaAlgorithms) ∧
      a.kind = .eddsa ∧ a.algorithm = k.algorithm ∧
      ∃ p, eddsaWithoutPrefix pk a.algorithm = .ok p ∧ ((p.length * 8 : Nat) : Int) = a.bits

/-- **ECDSA keys, every declared set (no hypothesis).** -/
theorem keyParams_ecdsa_iff (req : Request) (pol : RequestPolicy) (k : Key)
    (hal : isAlgorithmEcdsa k.algorithm = true) :
    keyParamsCheck req pol k = .ok () ↔ EcdsaParamsClauseOrdered req k := by
  simp only [keyParamsCheck_ecdsa_ok_iff req pol k hal, matchEcdsaAlg_true_iff_ordered, isEcdsa_iff_table,
    EcdsaParamsClauseOrdered]

/-- **EdDSA keys, every declared set (no hypothesis).** -/
theorem keyParams_eddsa_iff (req : Request) (pol : RequestPolicy) (k : Key)
    (hal : isAlgorithmEddsa k.algorithm = true) :
    keyParamsCheck req pol k = .ok () ↔ EddsaParamsClauseOrdered req k := by
  simp only [keyParamsCheck_eddsa_ok_iff req pol k hal, matchEddsaAlg_true_iff_ordered, isEddsa_iff_table,
    EddsaParamsClauseOrdered]

theorem ecdsaOrdered_imp (req : Request) (k : Key) (h : EcdsaParamsClauseOrdered req k) :
    EcdsaParamsClause req k := by
  obtain ⟨pk, hd, pre, a, post, heq, _, h⟩ := h
  exact ⟨pk, hd, a, by simp [heq], h⟩

theorem eddsaOrdered_imp (req : Request) (k : Key) (h : EddsaParamsClauseOrdered req k) :
    EddsaParamsClause req k := by
  obtain ⟨pk, hd, pre, a, post, heq, _, h⟩ := h
  exact ⟨pk, hd, a, by simp [heq], h⟩

theorem ecdsaOrdered_of_wellFormed (req : Request) (k : Key) (hwf : DeclaredWellFormed req)
    (h : EcdsaParamsClause req k) : EcdsaParamsClauseOrdered req k := by
  obtain ⟨pk, hd, a, ha, h⟩ := h
  obtain ⟨pre, post, heq⟩ := List.append_of_mem ha
  exact ⟨pk, hd, pre, a, post, heq,
    fun x hx hk => (hwf x (by rw [heq]; exact List.mem_append_left _ hx)).1 hk, h⟩

theorem eddsaOrdered_of_wellFormed (req : Request) (k : Key) (hwf : DeclaredWellFormed req)
    (h : EddsaParamsClause req k) : EddsaParamsClauseOrdered req k := by
  obtain ⟨pk, hd, a, ha, h⟩ := h
  obtain ⟨pre, post, heq⟩ := List.append_of_mem ha
  exact ⟨pk, hd, pre, a, post, heq,
    fun x hx hk => (hwf x (by rw [heq]; exact List.mem_append_left _ hx)).2 hk, h⟩

/-- ECDSA keys, for self-consistent declared policies. -/
theorem keyParams_ecdsa_iff_partial (req : Request) (pol : RequestPolicy) (k : Key)
    (hal : isAlgorithmEcdsa k.algorithm = true) (hwf : DeclaredWellFormed req) :
    keyParamsCheck req pol k = .ok () ↔ EcdsaParamsClause req k :=
  (keyParams_ecdsa_iff req pol k hal).trans ⟨ecdsaOrdered_imp req k, ecdsaOrdered_of_wellFormed req k hwf⟩

/-- EdDSA keys, for self-consistent declared policies. -/
theorem keyParams_eddsa_iff_partial (req : Request) (pol : RequestPolicy) (k : Key)
    (hal : isAlgorithmEddsa k.algorithm = true) (hwf : DeclaredWellFormed req) :
    keyParamsCheck req pol k = .ok () ↔ EddsaParamsClause req k :=
  (keyParams_eddsa_iff req pol k hal).trans ⟨eddsaOrdered_imp req k, eddsaOrdered_of_wellFormed req k hwf⟩

/-- acceptance of an ECDSA key always implies the documented clause (no hypothesis) -/
theorem keyParams_ecdsa_sound (req : Request) (pol : RequestPolicy) (k : Key)
    (hal : isAlgorithmEcdsa k.algorithm = true) (h : keyParamsCheck req pol k = .ok ()) :
    EcdsaParamsClause req k :=
  ecdsaOrdered_imp req k ((keyParams_ecdsa_iff req pol k hal).mp h)

/-- acceptance of an EdDSA key always implies the documented clause (no hypothesis) -/
theorem keyParams_eddsa_sound (req : Request) (pol : RequestPolicy) (k : Key)
    (hal : isAlgorithmEddsa k.algorithm = true) (h : keyParamsCheck req pol k = .ok ()) :
    EddsaParamsClause req k :=
  eddsaOrdered_imp req k ((keyParams_eddsa_iff req pol k hal).mp h)

/-- a key of any other algorithm family is never accepted -/
theorem keyParams_other_rejects (req : Request) (pol : RequestPolicy) (k : Key)
    (h1 : isAlgorithmRsa k.algorithm = false) (h2 : isAlgorithmEcdsa k.algorithm = false)
    (h3 : isAlgorithmEddsa k.algorithm = false) : keyParamsCheck req pol k = err .value := by
  simp [keyParamsCheck, h1, h2, h3]

/-- The per-key clause of the property: flags 256, correct tag, parameters matching one declared
    algorithm of the key's own family. -/
def KeyClause (req : Request) (pol : RequestPolicy) (k : Key) : Prop :=
  FlagsTagClause k ∧
  ((k.algorithm ∈ KskmGen.rsaAlgorithms ∧ RsaParamsClause req pol k) ∨
   (k.algorithm ∈ KskmGen.ecdsaAlgorithms ∧ EcdsaParamsClause req k) ∨
   (k.algorithm ∈ KskmGen.eddsaAlgorithms ∧ EddsaParamsClause req k))

/-- the per-key clause with the refined ECDSA / EdDSA matching -/
def KeyClauseOrdered (req : Request) (pol : RequestPolicy) (k : Key) : Prop :=
  FlagsTagClause k ∧
  ((k.algorithm ∈ KskmGen.rsaAlgorithms ∧ RsaParamsClause req pol k) ∨
   (k.algorithm ∈ KskmGen.ecdsaAlgorithms ∧ EcdsaParamsClauseOrdered req k) ∨
   (k.algorithm ∈ KskmGen.eddsaAlgorithms ∧ EddsaParamsClauseOrdered req k))

theorem keyClauseOrdered_imp (req : Request) (pol : RequestPolicy) (k : Key)
    (h : KeyClauseOrdered req pol k) : KeyClause req pol k :=
  ⟨h.1, h.2.imp_right (Or.imp (And.imp_right (ecdsaOrdered_imp req k)) (And.imp_right (eddsaOrdered_imp req k)))⟩

/-- on a self-consistent declared policy the refinement says nothing new -/
theorem keyClauseOrdered_iff_of_wellFormed (req : Request) (pol : RequestPolicy) (k : Key)
    (hwf : DeclaredWellFormed req) : KeyClauseOrdered req pol k ↔ KeyClause req pol k :=
  ⟨keyClauseOrdered_imp req pol k, fun h => ⟨h.1, h.2.imp_right (Or.imp
    (And.imp_right (ecdsaOrdered_of_wellFormed req k hwf)) (And.imp_right (eddsaOrdered_of_wellFormed req k hwf)))⟩⟩

/-- **New-key checks, RSA keys: exactly the per-key clause** (no hypothesis on the declared set). -/
theorem checkNewKey_rsa_iff (req : Request) (pol : RequestPolicy) (k : Key)
    (hal : k.algorithm ∈ KskmGen.rsaAlgorithms) :
    checkNewKey req pol k = .ok () ↔ FlagsTagClause k ∧ RsaParamsClause req pol k := by
  rw [checkNewKey_eq, seq_ok_iff, keyParams_rsa_iff req pol k ((isRsa_iff_table _).mpr hal),
    keyFlagsTag_iff, and_comm]

/-- **New-key checks, every key family, every declared set (no hypothesis).**  The parameter check
    dispatches on the key's family; the families are disjoint, so exactly one disjunct is live. -/
theorem checkNewKey_iff (req : Request) (pol : RequestPolicy) (k : Key) :
    checkNewKey req pol k = .ok () ↔ KeyClauseOrdered req pol k := by
  rw [checkNewKey_eq, seq_ok_iff, keyFlagsTag_iff, and_comm]
  unfold KeyClauseOrdered
  apply and_congr_right; intro _
  rw [← isRsa_iff_table, ← isEcdsa_iff_table, ← isEddsa_iff_table]
  by_cases h3 : isAlgorithmEddsa k.algorithm = true
  · simp [h3, not_rsa_of_eddsa h3, not_ecdsa_of_eddsa h3, keyParams_eddsa_iff req pol k h3]
  · by_cases h2 : isAlgorithmEcdsa k.algorithm = true
    · simp [h3, h2, not_rsa_of_ecdsa h2, keyParams_ecdsa_iff req pol k h2]
    · by_cases h1 : isAlgorithmRsa k.algorithm = true
      · simp [h3, h2, h1, keyParams_rsa_iff req pol k h1]
      · simp [h3, h2, h1, keyParams_other_rejects req pol k (by simpa using h1) (by simpa using h2)
          (by simpa using h3)]

/-- **New-key checks, every key family**, for self-consistent declared policies. -/
theorem checkNewKey_iff_partial (req : Request) (pol : RequestPolicy) (k : Key)
    (hwf : DeclaredWellFormed req) :
    checkNewKey req pol k = .ok () ↔ KeyClause req pol k :=
  (checkNewKey_iff req pol k).trans (keyClauseOrdered_iff_of_wellFormed req pol k hwf)

/-- acceptance of a new key always implies the documented per-key clause (no hypothesis) -/
theorem checkNewKey_sound (req : Request) (pol : RequestPolicy) (k : Key)
    (h : checkNewKey req pol k = .ok ()) : KeyClause req pol k :=
  keyClauseOrdered_imp req pol k ((checkNewKey_iff req pol k).mp h)

/-- "a key identifier denotes the same key everywhere it appears" -/
def IdentifierConsistent (req : Request) : Prop :=
  ∀ k₁ ∈ allKeys req, ∀ k₂ ∈ allKeys req, k₁.keyIdentifier = k₂.keyIdentifier → k₁ = k₂

/-- **KSR-BUNDLE-KEYS.** The walk with the `seen` dictionary accepts exactly when every key of every
    bundle individually passes the new-key checks and an identifier denotes the same key everywhere. -/
theorem keysMatch_iff (req : Request) (pol : RequestPolicy) (hf : pol.keysMatchZskPolicy = true) :
    checkKeysMatchZskPolicy req pol = .ok () ↔
      (∀ k ∈ allKeys req, checkNewKey req pol k = .ok ()) ∧ IdentifierConsistent req := by
  unfold checkKeysMatchZskPolicy
  simp only [hf, Bool.not_true, Bool.false_eq_true, ↓reduceIte]
  rw [keysWalk_ok_iff req pol (allKeys req) [] (by intro a ha; simp at ha)]
  simp [IdentifierConsistent, IdConsistent]

/-- **KSR-BUNDLE-KEYS in the property's vocabulary, every declared set (no hypothesis).** -/
theorem keysMatch_iff_clause (req : Request) (pol : RequestPolicy) (hf : pol.keysMatchZskPolicy = true) :
    checkKeysMatchZskPolicy req pol = .ok () ↔
      (∀ k ∈ allKeys req, KeyClauseOrdered req pol k) ∧ IdentifierConsistent req := by
  simp only [keysMatch_iff req pol hf, checkNewKey_iff]

/-- the same with the documented per-key clause (self-consistent declared policy) -/
theorem keysMatch_iff_clause_partial (req : Request) (pol : RequestPolicy)
    (hf : pol.keysMatchZskPolicy = true) (hwf : DeclaredWellFormed req) :
    checkKeysMatchZskPolicy req pol = .ok () ↔
      (∀ k ∈ allKeys req, KeyClause req pol k) ∧ IdentifierConsistent req := by
  simp only [keysMatch_iff_clause req pol hf, keyClauseOrdered_iff_of_wellFormed req pol _ hwf]

/-- **The verdict does not depend on the visiting order** (Python set iteration order, bundle
    order), nor on how often a key is listed: two requests with the same declared policy that contain
    the same keys are accepted or rejected together. -/
theorem keysMatch_same_keys (req req' : Request) (pol : RequestPolicy)
    (hz : req'.zskPolicy = req.zskPolicy) (hk : ∀ k, k ∈ allKeys req ↔ k ∈ allKeys req') :
    checkKeysMatchZskPolicy req pol = .ok () ↔ checkKeysMatchZskPolicy req' pol = .ok () := by
  cases hf : pol.keysMatchZskPolicy
  · simp [checkKeysMatchZskPolicy, hf]
  · have hnk : ∀ k, checkNewKey req' pol k = checkNewKey req pol k := fun k => by
      simp only [checkNewKey, hz]
    simp only [keysMatch_iff _ pol hf, IdentifierConsistent, hnk, hk]

/-- re-ordering the keys inside each bundle permutes the visiting order -/
theorem allKeys_perm_of_bundles : ∀ (bs bs' : List Bundle), bs.length = bs'.length →
    (∀ (i : Nat) (b b' : Bundle), bs[i]? = some b → bs'[i]? = some b' → b.keys.Perm b'.keys) →
    ((bs.map (·.keys)).flatten).Perm ((bs'.map (·.keys)).flatten)
  | [], [], _, _ => by simp
  | [], _ :: _, h, _ => by simp at h
  | _ :: _, [], h, _ => by simp at h
  | b :: bs, b' :: bs', h, hk => by
    simp only [List.map_cons, List.flatten_cons]
    apply List.Perm.append
    · exact hk 0 b b' (by simp) (by simp)
    · apply allKeys_perm_of_bundles bs bs' (by simpa using h)
      intro i x x' hx hx'
      exact hk (i + 1) x x' (by simpa using hx) (by simpa using hx')

/-- set iteration order inside the bundles is irrelevant to KSR-BUNDLE-KEYS -/
theorem keysMatch_bundle_order (req req' : Request) (pol : RequestPolicy)
    (hz : req'.zskPolicy = req.zskPolicy) (hl : req.bundles.length = req'.bundles.length)
    (hk : ∀ (i : Nat) (b b' : Bundle), req.bundles[i]? = some b → req'.bundles[i]? = some b' →
      b.keys.Perm b'.keys) :
    checkKeysMatchZskPolicy req pol = .ok () ↔ checkKeysMatchZskPolicy req' pol = .ok () :=
  keysMatch_same_keys req req' pol hz fun _ => (allKeys_perm_of_bundles _ _ hl hk).mem_iff

/-- the key, algorithm and header rules in the order `validate_request` runs them -/
def keyHeaderChecks (req : Request) (pol : RequestPolicy) : Res Unit := do
  checkDomain req pol
  checkUniqueIds req
  checkKeysMatchZskPolicy req pol
  checkKeysInBundles req pol
  checkZskPolicyAlgorithm req pol

/-- The documented region under a given assignment of the enable flags. -/
def KeyHeaderRegion (req : Request) (pol : RequestPolicy) : Prop :=
  DomainClause req pol ∧ UniqueIdsClause req ∧
  (pol.keysMatchZskPolicy = true →
    (∀ k ∈ allKeys req, checkNewKey req pol k = .ok ()) ∧ IdentifierConsistent req) ∧
  (pol.checkKeysMatchKskOperatorPolicy = true → KeyCountsClause req pol) ∧
  AlgorithmClause req pol

theorem keysMatch_flag_iff (req : Request) (pol : RequestPolicy) :
    checkKeysMatchZskPolicy req pol = .ok () ↔
      (pol.keysMatchZskPolicy = true →
        (∀ k ∈ allKeys req, checkNewKey req pol k = .ok ()) ∧ IdentifierConsistent req) := by
  cases hf : pol.keysMatchZskPolicy
  · simp [checkKeysMatchZskPolicy, hf]
  · simp [keysMatch_iff req pol hf]

/-- **C06.** For every request and every policy: the key, algorithm and header rules accept iff the
    request lies in the documented region (per-key acceptance as characterised by
    `checkNewKey_rsa_iff` / `checkNewKey_iff_partial`). -/
theorem C06_iff (req : Request) (pol : RequestPolicy) :
    keyHeaderChecks req pol = .ok () ↔ KeyHeaderRegion req pol := by
  unfold keyHeaderChecks KeyHeaderRegion
  simp only [seq_ok_iff, domain_iff, uniqueIds_iff, keysMatch_flag_iff, keysInBundles_iff,
    zskPolicyAlgorithm_iff]

/-- the region entirely in the property's vocabulary -/
def KeyHeaderRegionSpec (req : Request) (pol : RequestPolicy) : Prop :=
  DomainClause req pol ∧ UniqueIdsClause req ∧
  (pol.keysMatchZskPolicy = true → (∀ k ∈ allKeys req, KeyClause req pol k) ∧ IdentifierConsistent req) ∧
  (pol.checkKeysMatchKskOperatorPolicy = true → KeyCountsClause req pol) ∧
  AlgorithmClause req pol

/-- the documented region with the refined matching clause -/
def KeyHeaderRegionSpecOrdered (req : Request) (pol : RequestPolicy) : Prop :=
  DomainClause req pol ∧ UniqueIdsClause req ∧
  (pol.keysMatchZskPolicy = true →
    (∀ k ∈ allKeys req, KeyClauseOrdered req pol k) ∧ IdentifierConsistent req) ∧
  (pol.checkKeysMatchKskOperatorPolicy = true → KeyCountsClause req pol) ∧
  AlgorithmClause req pol

/-- **C06, every request, every policy, every clause in the property's vocabulary, no hypothesis.** -/
theorem C06_iff_spec (req : Request) (pol : RequestPolicy) :
    keyHeaderChecks req pol = .ok () ↔ KeyHeaderRegionSpecOrdered req pol := by
  rw [C06_iff]
  simp only [KeyHeaderRegion, KeyHeaderRegionSpecOrdered, checkNewKey_iff]

/-! ## The refined region against the documented one -/

/-- **Accepted ⇒ inside the documented region**, every request, every policy (no hypothesis): the
    `→` half of `C06_iff_spec_partial` does not need `DeclaredWellFormed`. -/
theorem C06_spec_sound (req : Request) (pol : RequestPolicy) (h : keyHeaderChecks req pol = .ok ()) :
    KeyHeaderRegionSpec req pol := by
  obtain ⟨h1, h2, h3, h4, h5⟩ := (C06_iff_spec req pol).mp h
  exact ⟨h1, h2, fun hf => ⟨fun k hk => keyClauseOrdered_imp req pol k ((h3 hf).1 k hk), (h3 hf).2⟩, h4, h5⟩

/-- The documented region is exact wherever, inside it, the documented per-key clause implies the refined one: the
    only gap between the rules and the documented region is the visiting order of ill-formed declared entries.
    `DeclaredWellFormed` (`C06_iff_spec_partial`, and with it `_parsed`), `…WhereAllowed` (`_allowed`) and both
    families switched off (`_families_off`) are ways of supplying `H`. -/
theorem C06_iff_spec_of (req : Request) (pol : RequestPolicy)
    (H : KeyHeaderRegionSpec req pol → pol.keysMatchZskPolicy = true →
      ∀ k ∈ allKeys req, KeyClause req pol k → KeyClauseOrdered req pol k) :
    keyHeaderChecks req pol = .ok () ↔ KeyHeaderRegionSpec req pol :=
  ⟨C06_spec_sound req pol, fun h => (C06_iff_spec req pol).mpr
    ⟨h.1, h.2.1, fun hf => ⟨fun k hk => H h hf k hk ((h.2.2.1 hf).1 k hk), (h.2.2.1 hf).2⟩, h.2.2.2.1, h.2.2.2.2⟩⟩

/-- The refined region is the documented region wherever the latter is well defined (and does not
    depend on the visiting order there) … -/
theorem regionOrdered_iff_of_wellFormed (req : Request) (pol : RequestPolicy)
    (hwf : DeclaredWellFormed req) :
    KeyHeaderRegionSpecOrdered req pol ↔ KeyHeaderRegionSpec req pol := by
  simp only [KeyHeaderRegionSpecOrdered, KeyHeaderRegionSpec, keyClauseOrdered_iff_of_wellFormed req pol _ hwf]

/-- … so C06 with every clause as documented holds for self-consistent declared policies (every
    declared ECDSA/EdDSA entry carries an algorithm number of its family; all RSA-only requests, i.e.
    every archived KSR, satisfy this trivially). -/
theorem C06_iff_spec_partial (req : Request) (pol : RequestPolicy) (hwf : DeclaredWellFormed req) :
    keyHeaderChecks req pol = .ok () ↔ KeyHeaderRegionSpec req pol :=
  (C06_iff_spec req pol).trans (regionOrdered_iff_of_wellFormed req pol hwf)

/-- an ill-formed declared entry matters only if the algorithm clause lets its number through -/
def DeclaredWellFormedWhereAllowed (req : Request) (pol : RequestPolicy) : Prop :=
  ∀ a ∈ req.zskPolicy.algorithms, AlgAllowed pol a.algorithm →
    (a.kind = .ecdsa → a.algorithm ∈ KskmGen.ecdsaAlgorithms) ∧
    (a.kind = .eddsa → a.algorithm ∈ KskmGen.eddsaAlgorithms)

theorem declaredWellFormed_imp_whereAllowed (req : Request) (pol : RequestPolicy)
    (h : DeclaredWellFormed req) : DeclaredWellFormedWhereAllowed req pol :=
  fun a ha _ => h a ha

/-- **C06 against the unrefined documented region under a hypothesis strictly weaker than
    `DeclaredWellFormed`**: needed only when KSR-BUNDLE-KEYS is switched on, and only of declared
    entries whose algorithm number is allowed under the policy. -/
theorem C06_iff_spec_allowed (req : Request) (pol : RequestPolicy)
    (hwf : pol.keysMatchZskPolicy = true → DeclaredWellFormedWhereAllowed req pol) :
    keyHeaderChecks req pol = .ok () ↔ KeyHeaderRegionSpec req pol :=
  C06_iff_spec_of req pol fun h hf k _ =>
    (keyClauseOrdered_iff_of_wellFormed req pol k fun a ha => hwf hf a ha (h.2.2.2.2.1 a ha)).mpr

/-- **With ECDSA and EdDSA not enabled (the default) the unrefined documented region is exact for
    every request whatsoever**: no hypothesis on the declared entries. -/
theorem C06_iff_spec_families_off (req : Request) (pol : RequestPolicy)
    (hec : pol.enableUnsupportedEcdsa = false) (hed : pol.enableUnsupportedEdwardsDsa = false) :
    keyHeaderChecks req pol = .ok () ↔ KeyHeaderRegionSpec req pol := by
  refine C06_iff_spec_of req pol fun h _ k _ hk => ⟨hk.1, ?_⟩
  -- every declared entry is allowed, so with both families off no key matches an ECDSA / EdDSA entry
  rcases hk.2 with hr | ⟨he, pk, _, a, ha, _, hak, _⟩ | ⟨he, pk, _, a, ha, _, hak, _⟩
  · exact Or.inl hr
  · have := (h.2.2.2.2.1 a ha).2.2.1 (hak ▸ he); rw [hec] at this; cases this
  · have := (h.2.2.2.2.1 a ha).2.2.2 (hak ▸ he); rw [hed] at this; cases this

/-! ### `DeclaredWellFormed` holds of every request the KSR parser builds

  `_parse_signature_algorithms` chooses the element (`RSA` / `ECDSA` / `EdDSA`) by the algorithm NUMBER,
  so a declared entry whose element kind contradicts its number cannot come out of a KSR file (the
  parser raises `KeyError`, fail-closed; replayed exhaustively on /repo by `parser_stream` of
  corr_C06.py).  At the property's observation point (`load_ksr`) the documented region as literally
  stated is therefore exact; the `_needed` witnesses exist only as hand-built `Request` objects. -/

theorem declaredWellFormed_of_parsed (gs : Xml.GlueSwitches) (data : Xml.XVal) (req : Request)
    (h : Xml.requestFromDict gs data = .ok req) : DeclaredWellFormed req := by
  intro a ha
  have := requestFromDict_wf gs data req h a ha
  exact ⟨fun hk => (isEcdsa_iff_table _).mp (this.1 hk), fun hk => (isEddsa_iff_table _).mp (this.2 hk)⟩

/-- **C06 for every request built by the KSR parser, every policy: the rules accept iff the request
    lies in the documented region as literally stated** (no hypothesis on the declared set). -/
theorem C06_iff_spec_parsed (gs : Xml.GlueSwitches) (data : Xml.XVal) (req : Request) (pol : RequestPolicy)
    (h : Xml.requestFromDict gs data = .ok req) :
    keyHeaderChecks req pol = .ok () ↔ KeyHeaderRegionSpec req pol :=
  C06_iff_spec_partial req pol (declaredWellFormed_of_parsed gs data req h)

/-- **A switched-off check never rejects.** (`check_domain`, `check_unique_ids` and the first half
    of `check_zsk_policy_algorithm` have no switch.) -/
theorem C06_flags (req : Request) (pol : RequestPolicy) :
    (pol.keysMatchZskPolicy = false → checkKeysMatchZskPolicy req pol = .ok ()) ∧
    (pol.checkKeysMatchKskOperatorPolicy = false → checkKeysInBundles req pol = .ok ()) ∧
    (pol.signatureAlgorithmsMatchZskPolicy = false →
      (checkZskPolicyAlgorithm req pol = .ok () ↔ ∀ a ∈ req.zskPolicy.algorithms, AlgAllowed pol a.algorithm)) ∧
    (pol.validateSignatures = false → ∀ verify, checkProofOfPossession verify req pol = .ok ()) := by
  refine ⟨fun h => guarded_off h _, fun h => guarded_off h _, fun h => ?_, fun h _ => guarded_off h _⟩
  rw [zskPolicyAlgorithm_iff]; simp [AlgorithmClause, h]

/-- **Never masks another / C06 inside the full validation.** Given that the timing rules (C05) and
    proof of possession (C07) accept, the whole of `validate_request` accepts iff the request lies in
    the key/algorithm/header region. -/
theorem C06_in_validateRequest (verify : Verifier) (now : Int) (req : Request) (pol : RequestPolicy)
    (hother : checkProofOfPossession verify req pol = .ok () ∧ checkBundleCount req pol = .ok () ∧
      checkCycleDurations req pol = .ok () ∧ checkBundleOverlaps req pol = .ok () ∧
      checkSignatureValidity req pol = .ok () ∧ checkSignatureHorizon now req pol = .ok () ∧
      checkBundleIntervals req pol = .ok ()) :
    validateRequest verify now req pol = .ok () ↔ KeyHeaderRegion req pol := by
  rw [C05.validateRequest_ok_iff, ← C06_iff]
  unfold keyHeaderChecks
  simp only [seq_ok_iff]
  obtain ⟨h1, h2, h3, h4, h5, h6, h7⟩ := hother
  simp only [h1, h2, h3, h4, h5, h6, h7, true_and, and_true]

/-- and, conversely, an accepted request always lies in the region -/
theorem C06_accepted_in_region (verify : Verifier) (now : Int) (req : Request) (pol : RequestPolicy)
    (h : validateRequest verify now req pol = .ok ()) : KeyHeaderRegion req pol := by
  rw [C05.validateRequest_ok_iff] at h
  rw [← C06_iff]
  unfold keyHeaderChecks
  simp only [seq_ok_iff]
  exact ⟨h.1, h.2.1, h.2.2.1, h.2.2.2.2.2.2.1, h.2.2.2.2.2.2.2.1⟩

/-- the defaults regenerated from /repo: every C06 check on, ECDSA/EdDSA off, RSA-SHA-256 with
    2048 bits and exponent 65537, slots 2-1-1-1-1-1-1-1-2, three distinct keys, domain "." -/
theorem defaults_documented :
    KskmGen.requestPolicyDefaults.acceptableDomains = ["."] ∧
    KskmGen.requestPolicyDefaults.keysMatchZskPolicy = true ∧
    KskmGen.requestPolicyDefaults.rsaExponentMatchZskPolicy = true ∧
    KskmGen.requestPolicyDefaults.enableUnsupportedEcdsa = false ∧
    KskmGen.requestPolicyDefaults.enableUnsupportedEdwardsDsa = false ∧
    KskmGen.requestPolicyDefaults.signatureAlgorithmsMatchZskPolicy = true ∧
    KskmGen.requestPolicyDefaults.approvedAlgorithms = [some 8] ∧
    KskmGen.requestPolicyDefaults.rsaApprovedExponents = [65537] ∧
    KskmGen.requestPolicyDefaults.rsaApprovedKeySizes = [2048] ∧
    KskmGen.requestPolicyDefaults.checkKeysMatchKskOperatorPolicy = true ∧
    KskmGen.requestPolicyDefaults.numKeysPerBundle = [2, 1, 1, 1, 1, 1, 1, 1, 2] ∧
    KskmGen.requestPolicyDefaults.numDifferentKeysInAllBundles = 3 := by decide

/-- a (toy-sized) RSA key: exponent 3, 64-bit modulus, RFC 3110 text `AQPFESIzRFVmdw==`, tag 38684 -/
def exKey (ident : String) : Key :=
  { keyIdentifier := ident, keyTag := 38684, ttl := 172800, flags := 256, protocol := 3,
    algorithm := 8, publicKey := "AQPFESIzRFVmdw==" }

/-- a second key (another modulus), tag computed by /repo's `calculate_key_tag` -/
def exKey2 : Key :=
  { keyIdentifier := "zsk2", keyTag := 38685, ttl := 172800, flags := 256, protocol := 3,
    algorithm := 8, publicKey := "AQPFESIzRFVmeA==" }

def exBundle (i : Nat) (keys : List Key) : Bundle :=
  { id := s!"b{i}", inception := 0, expiration := 0, keys := keys, signatures := [] }

def exReq : Request :=
  { id := "r", serial := 1, domain := ".",
    zskPolicy := { algorithms := [{ kind := .rsa, bits := 64, algorithm := 8, exponent := some 3 }] },
    bundles := [exBundle 0 [exKey "zsk1", exKey2], exBundle 1 [exKey "zsk1"], exBundle 2 [exKey2]] }

def exPol : RequestPolicy :=
  { KskmGen.requestPolicyDefaults with
    rsaApprovedKeySizes := [64], rsaApprovedExponents := [3], numKeysPerBundle := [2, 1, 1],
    numDifferentKeysInAllBundles := 2 }

theorem exReq_accepted : keyHeaderChecks exReq exPol = .ok () := by decide +kernel
theorem exReq_wellFormed : DeclaredWellFormed exReq := by
  intro a ha; simp [exReq] at ha; subst ha; simp

example : keyHeaderChecks exReq exPol = .ok () := exReq_accepted
example : DeclaredWellFormed exReq := exReq_wellFormed
/-- the same public key under a second identifier in a later bundle is still accepted by
    KSR-BUNDLE-KEYS (an identifier denotes one key; a key may carry two identifiers) but changes the
    distinct-key count -/
example : checkKeysMatchZskPolicy { exReq with bundles := [exBundle 0 [exKey "zsk1"], exBundle 1 [exKey "other"]] } exPol
    = .ok () := by decide +kernel
/-- an identifier re-used for a different key in a later bundle is rejected -/
example : checkKeysMatchZskPolicy
    { exReq with bundles := [exBundle 0 [exKey "zsk1"], exBundle 1 [{ exKey2 with keyIdentifier := "zsk1" }]] } exPol
    = violation .bundleKeys := by decide +kernel
/-- tag off by one, flags 257: rejected -/
example : checkNewKey exReq exPol { exKey "zsk1" with keyTag := 38685 } = violation .bundleKeys := by
  decide +kernel
example : checkNewKey exReq exPol { exKey "zsk1" with flags := 257 } = violation .bundleKeys := by
  decide +kernel

def exEcKey : Key :=
  { keyIdentifier := "ec", keyTag := 0, ttl := 0, flags := 256, protocol := 3, algorithm := 13,
    publicKey := "AAAAAAAAAAAAAAAAAAAAAAAAAAAAAAAAAAAAAAAAAAAAAAAAAAAAAAAAAAAAAAAAAAAAAAAAAAAAAAAAAAAAAA==" }
def exEcGood : AlgPolicy := { kind := .ecdsa, bits := 256, algorithm := 13 }
def exEcBad : AlgPolicy := { kind := .ecdsa, bits := 256, algorithm := 15 }

/-- the key text is the Base64 form of 64 zero octets -/
theorem exEc_decode : Base64.decode exEcKey.publicKey = some (List.replicate 64 0) :=
  Base64.decode_encode (List.replicate 64 0)

/-- **Witness that `DeclaredWellFormed` cannot be dropped**: the same ECDSA key and the same declared
    *set* {ECDSA-P256/256, an `ECDSA` element carrying the EdDSA number 15}; visiting the proper
    entry first accepts, visiting the malformed entry first ends in an error.  (Replayed on /repo
    by the correspondence run: `ValueError` from `expected_ecdsa_key_size`.) -/
theorem ecdsa_declared_order_witness :
    keyParamsCheck { exReq with zskPolicy := { algorithms := [exEcGood, exEcBad] } } exPol exEcKey = .ok () ∧
    keyParamsCheck { exReq with zskPolicy := { algorithms := [exEcBad, exEcGood] } } exPol exEcKey = err .value :=
  ⟨(keyParams_ecdsa_iff _ _ _ (by decide)).mpr
      ⟨_, exEc_decode, [], exEcGood, [exEcBad], rfl, by simp, rfl, rfl, List.replicate 64 0,
        by decide +kernel, by decide +kernel⟩,
   keyParamsCheck_ecdsa_illformed_head _ _ _ _ exEcBad [exEcGood] (by decide) exEc_decode rfl rfl (by decide)⟩

/-! ### Witnesses: the hypothesis of each `_partial` theorem is necessary -/

/-- the ECDSA key of `ecdsa_declared_order_witness` with its RFC 4034 tag (64 zero octets, P-256) -/
def wEcKey : Key := { exEcKey with keyTag := 1037 }
/-- an Ed25519 key (32 zero octets) with its tag, and a well-formed / an ill-formed `<EdDSA>` entry -/
def wEdKey : Key :=
  { keyIdentifier := "ed", keyTag := 1039, ttl := 0, flags := 256, protocol := 3, algorithm := 15,
    publicKey := "AAAAAAAAAAAAAAAAAAAAAAAAAAAAAAAAAAAAAAAAAAA=" }
def exEdGood : AlgPolicy := { kind := .eddsa, bits := 256, algorithm := 15 }
def exEdBad : AlgPolicy := { kind := .eddsa, bits := 256, algorithm := 13 }

/-- one bundle, one ECDSA key; declared set visited as [`<ECDSA>` with number 15, ECDSA-P256/256] -/
def wEcReq : Request :=
  { id := "w", serial := 1, domain := ".", zskPolicy := { algorithms := [exEcBad, exEcGood] },
    bundles := [exBundle 0 [wEcKey]] }
/-- one bundle, one Ed25519 key; declared set visited as [`<EdDSA>` with number 13, Ed25519/256] -/
def wEdReq : Request :=
  { id := "w", serial := 1, domain := ".", zskPolicy := { algorithms := [exEdBad, exEdGood] },
    bundles := [exBundle 0 [wEdKey]] }
/-- every C06 check on, both experimental families enabled and approved -/
def wPol : RequestPolicy :=
  { KskmGen.requestPolicyDefaults with
    enableUnsupportedEcdsa := true, enableUnsupportedEdwardsDsa := true,
    approvedAlgorithms := [some 13, some 15], numKeysPerBundle := [1], numDifferentKeysInAllBundles := 1 }

theorem wEc_decode : Base64.decode wEcKey.publicKey = some (List.replicate 64 0) := exEc_decode
theorem wEd_decode : Base64.decode wEdKey.publicKey = some (List.replicate 32 0) :=
  Base64.decode_encode (List.replicate 32 0)

/-- the witness key satisfies the documented ECDSA clause: it matches the declared ECDSA-P256/256 -/
theorem wEc_clause : EcdsaParamsClause wEcReq wEcKey :=
  ⟨_, wEc_decode, exEcGood, by simp [wEcReq], rfl, rfl, List.replicate 64 0, by decide +kernel, by decide +kernel⟩

theorem wEd_clause : EddsaParamsClause wEdReq wEdKey :=
  ⟨_, wEd_decode, exEdGood, by simp [wEdReq], rfl, rfl, List.replicate 32 0, by decide +kernel, by decide +kernel⟩

theorem wEc_flagsTag : FlagsTagClause wEcKey :=
  ⟨rfl, _, wEc_decode, by decide, by decide, by decide, by decide +kernel⟩
theorem wEd_flagsTag : FlagsTagClause wEdKey :=
  ⟨rfl, _, wEd_decode, by decide, by decide, by decide, by decide +kernel⟩

theorem wEc_keyClause : KeyClause wEcReq wPol wEcKey :=
  ⟨wEc_flagsTag, Or.inr (Or.inl ⟨by decide, wEc_clause⟩)⟩

/-- the ill-formed entry is visited first: the key's octets play no part in the refusal -/
theorem wEc_params : keyParamsCheck wEcReq wPol wEcKey = err .value :=
  keyParamsCheck_ecdsa_illformed_head _ _ _ _ exEcBad [exEcGood] (by decide) wEc_decode rfl rfl (by decide)

theorem wEd_params : keyParamsCheck wEdReq wPol wEdKey = err .value :=
  keyParamsCheck_eddsa_illformed_head _ _ _ _ exEdBad [exEdGood] (by decide) wEd_decode rfl rfl (by decide)

theorem wEc_rejected : checkNewKey wEcReq wPol wEcKey = err .value := by
  rw [checkNewKey_eq, wEc_params]; rfl

/-- **`keyParams_ecdsa_iff_partial` needs its hypothesis**: the key matches a declared algorithm, the
    model (and /repo: `ValueError`) does not accept it. -/
theorem keyParams_ecdsa_iff_needed :
    ¬ ∀ (req : Request) (pol : RequestPolicy) (k : Key), isAlgorithmEcdsa k.algorithm = true →
        (keyParamsCheck req pol k = .ok () ↔ EcdsaParamsClause req k) := by
  intro h
  have := (h wEcReq wPol wEcKey (by decide)).mpr wEc_clause
  rw [wEc_params] at this; cases this

/-- **`keyParams_eddsa_iff_partial` needs its hypothesis.** -/
theorem keyParams_eddsa_iff_needed :
    ¬ ∀ (req : Request) (pol : RequestPolicy) (k : Key), isAlgorithmEddsa k.algorithm = true →
        (keyParamsCheck req pol k = .ok () ↔ EddsaParamsClause req k) := by
  intro h
  have := (h wEdReq wPol wEdKey (by decide)).mpr wEd_clause
  rw [wEd_params] at this; cases this

/-- **`checkNewKey_iff_partial` needs its hypothesis.** -/
theorem checkNewKey_iff_needed :
    ¬ ∀ (req : Request) (pol : RequestPolicy) (k : Key),
        (checkNewKey req pol k = .ok () ↔ KeyClause req pol k) := by
  intro h
  have := (h wEcReq wPol wEcKey).mpr wEc_keyClause
  rw [wEc_rejected] at this; cases this

/-- a request whose bundles hold one key in all: the clause of that key is the clause of all keys -/
theorem keys_of_single {req : Request} {pol : RequestPolicy} {k : Key} (hk : allKeys req = [k])
    (h : KeyClause req pol k) : (∀ k ∈ allKeys req, KeyClause req pol k) ∧ IdentifierConsistent req := by
  unfold IdentifierConsistent
  rw [hk]
  refine ⟨fun x hx => ?_, fun a ha b hb _ => ?_⟩
  · rw [List.mem_singleton.mp hx]; exact h
  · rw [List.mem_singleton.mp ha, List.mem_singleton.mp hb]

/-- … and the composite is the new-key checks on that key followed by the two policy checks -/
theorem keyHeaderChecks_single {req : Request} {pol : RequestPolicy} {k : Key} (hk : allKeys req = [k])
    (hd : checkDomain req pol = .ok ()) (hu : checkUniqueIds req = .ok ())
    (hf : pol.keysMatchZskPolicy = true) :
    keyHeaderChecks req pol =
      (do checkNewKey req pol k; checkKeysInBundles req pol; checkZskPolicyAlgorithm req pol) := by
  unfold keyHeaderChecks checkKeysMatchZskPolicy
  rw [hd, hu, hf, hk]
  show ((checkNewKey req pol k >>= fun _ => pure ()) >>= _) = _
  cases checkNewKey req pol k <;> rfl

/-- **`keysMatch_iff_clause_partial` needs its hypothesis.** -/
theorem keysMatch_iff_clause_needed :
    ¬ ∀ (req : Request) (pol : RequestPolicy), pol.keysMatchZskPolicy = true →
        (checkKeysMatchZskPolicy req pol = .ok () ↔
          (∀ k ∈ allKeys req, KeyClause req pol k) ∧ IdentifierConsistent req) := by
  intro h
  have := (h wEcReq wPol rfl).mpr (keys_of_single rfl wEc_keyClause)
  have := ((keysMatch_iff wEcReq wPol rfl).mp this).1 wEcKey (List.mem_singleton.mpr rfl)
  rw [wEc_rejected] at this; cases this

/-- the ECDSA witness request lies in the documented region as literally stated -/
theorem wEc_region : KeyHeaderRegionSpec wEcReq wPol :=
  ⟨(domain_iff _ _).mp (by decide +kernel), (uniqueIds_iff _).mp (by decide +kernel),
   fun _ => keys_of_single rfl wEc_keyClause,
   (keysInBundles_iff _ _).mp (by decide +kernel), (zskPolicyAlgorithm_iff _ _).mp (by decide +kernel)⟩

/-- the EdDSA witness request lies in the documented region as literally stated -/
theorem wEd_region : KeyHeaderRegionSpec wEdReq wPol :=
  ⟨(domain_iff _ _).mp (by decide +kernel), (uniqueIds_iff _).mp (by decide +kernel),
   fun _ => keys_of_single rfl ⟨wEd_flagsTag, Or.inr (Or.inr ⟨by decide, wEd_clause⟩)⟩,
   (keysInBundles_iff _ _).mp (by decide +kernel), (zskPolicyAlgorithm_iff _ _).mp (by decide +kernel)⟩

/-- the refined clause is met by the witness key when the well-formed entry is visited first -/
theorem wEc_ordered :
    EcdsaParamsClauseOrdered { wEcReq with zskPolicy := { algorithms := [exEcGood, exEcBad] } } wEcKey :=
  ⟨_, wEc_decode, [], exEcGood, [exEcBad], rfl, by simp, rfl, rfl, List.replicate 64 0,
    by decide +kernel, by decide +kernel⟩

theorem wEd_ordered :
    EddsaParamsClauseOrdered { wEdReq with zskPolicy := { algorithms := [exEdGood, exEdBad] } } wEdKey :=
  ⟨_, wEd_decode, [], exEdGood, [exEdBad], rfl, by simp, rfl, rfl, List.replicate 32 0,
    by decide +kernel, by decide +kernel⟩

/-- the outcome on both witnesses is a non-policy error (`ValueError` on /repo), and the same declared
    sets visited in the other order are accepted -/
theorem witnesses_outcome :
    keyHeaderChecks wEcReq wPol = err .value ∧ keyHeaderChecks wEdReq wPol = err .value ∧
    keyHeaderChecks { wEcReq with zskPolicy := { algorithms := [exEcGood, exEcBad] } } wPol = .ok () ∧
    keyHeaderChecks { wEdReq with zskPolicy := { algorithms := [exEdGood, exEdBad] } } wPol = .ok () := by
  refine ⟨?_, ?_, ?_, ?_⟩
  · rw [keyHeaderChecks_single (k := wEcKey) rfl (by decide +kernel) (by decide +kernel) rfl, wEc_rejected]; rfl
  · rw [keyHeaderChecks_single (k := wEdKey) rfl (by decide +kernel) (by decide +kernel) rfl, checkNewKey_eq, wEd_params]
    rfl
  · rw [keyHeaderChecks_single (k := wEcKey) rfl (by decide +kernel) (by decide +kernel) rfl,
      (checkNewKey_iff _ _ _).mpr ⟨wEc_flagsTag, Or.inr (Or.inl ⟨by decide, wEc_ordered⟩)⟩]
    decide +kernel
  · rw [keyHeaderChecks_single (k := wEdKey) rfl (by decide +kernel) (by decide +kernel) rfl,
      (checkNewKey_iff _ _ _).mpr ⟨wEd_flagsTag, Or.inr (Or.inr ⟨by decide, wEd_ordered⟩)⟩]
    decide +kernel

/-- **`C06_iff_spec_partial` needs a hypothesis**: a whole request inside the documented region as
    literally stated (domain, unique ids, counts, every declared algorithm allowed and approved, the
    key's flags, tag and parameters matching one declared algorithm) that the rules do not accept. -/
theorem C06_iff_spec_needed :
    ¬ ∀ (req : Request) (pol : RequestPolicy),
        (keyHeaderChecks req pol = .ok () ↔ KeyHeaderRegionSpec req pol) := by
  intro h
  have := (h wEcReq wPol).mpr wEc_region
  rw [witnesses_outcome.1] at this; cases this

/-- the weaker hypothesis fails of the witness, as it must -/
example : ¬ DeclaredWellFormedWhereAllowed wEcReq wPol := by
  intro h
  have := (h exEcBad (by simp [wEcReq]) ((algAllowed_iff_allowedB _ _).mpr (by decide +kernel))).1 rfl
  revert this; decide
/-! Both weaker hypotheses are satisfiable where `DeclaredWellFormed` is not — an ill-formed declared
    entry with a number that is not allowed (ECDSA element, number 15, EdDSA not enabled):
    `DeclaredWellFormed` fails, `DeclaredWellFormedWhereAllowed` holds, and the defaults have both
    families off. -/
example : ¬ DeclaredWellFormed wEcReq := by
  intro h; have := (h exEcBad (by simp [wEcReq])).1 rfl; revert this; decide
example : DeclaredWellFormedWhereAllowed wEcReq { wPol with enableUnsupportedEdwardsDsa := false } := by
  intro a ha hall
  simp only [wEcReq, List.mem_cons, List.not_mem_nil, or_false] at ha
  rcases ha with rfl | rfl
  · exfalso
    have := (algAllowed_iff_allowedB _ _).mp hall
    revert this; decide +kernel
  · exact ⟨fun _ => by decide, fun h => by cases h⟩
example : KskmGen.requestPolicyDefaults.enableUnsupportedEcdsa = false ∧
    KskmGen.requestPolicyDefaults.enableUnsupportedEdwardsDsa = false := by decide
/-- the refined clause is met by the witness visited in the good order -/
example : EcdsaParamsClauseOrdered { wEcReq with zskPolicy := { algorithms := [exEcGood, exEcBad] } } wEcKey :=
  wEc_ordered

example : DeclaredWellFormed exReq ∧ KeyHeaderRegionSpecOrdered exReq exPol ∧
    exPol.enableUnsupportedEcdsa = false ∧ exPol.enableUnsupportedEdwardsDsa = false :=
  ⟨exReq_wellFormed, (C06_iff_spec _ _).mp exReq_accepted, by decide, by decide⟩

def pS (x : String) : Xml.XVal := .str x.toList
def pD (kvs : List (String × Xml.XVal)) : Xml.XVal := .dict (kvs.map fun p => (p.1.toList, p.2))
/-- a KSR (no bundles) declaring `<SignatureAlgorithm algorithm=number><ECDSA size="256"/>` -/
def exKsrDict (number : String) : Xml.XVal :=
  pD [("KSR", pD [("attrs", pD [("id", pS "4fe9bb10"), ("serial", pS "99"), ("domain", pS ".")]),
    ("value", pD [("Request", pD [("RequestPolicy", pD [("ZSK", pD [
      ("PublishSafety", pS "P10D"), ("RetireSafety", pS "P10D"), ("MaxSignatureValidity", pS "P21D"),
      ("MinSignatureValidity", pS "P21D"), ("MaxValidityOverlap", pS "P12D"), ("MinValidityOverlap", pS "P9D"),
      ("SignatureAlgorithm", pD [("attrs", pD [("algorithm", pS number)]),
        ("value", pD [("ECDSA", pD [("attrs", pD [("size", pS "256")]), ("value", pS "")])])])])])])])])]

/-- the hypothesis is satisfiable (an ECDSA element with an ECDSA number parses to the well-formed
    entry), and the ill-formed entry of the witnesses is refused by the parser -/
example : (Xml.requestFromDict Xml.pyGlueSwitches (exKsrDict "13")).map (·.zskPolicy.algorithms) = .ok [exEcGood] ∧
    Xml.requestFromDict Xml.pyGlueSwitches (exKsrDict "15") = err .key := by
  -- the forty literals of the document become character lists before the kernel evaluates the parser
  simp only [exKsrDict, pD, pS, List.map]
  chars
  decide +kernel

end Kskm.C06
