/-
  C07 — Proof of possession: every ZSK of an accepted KSR signed the whole key set.

  The signature verifier is a PARAMETER (`verify : Verifier`): every theorem below holds for every
  function from (algorithm, key text, message octets, signature octets) to a verdict.  What the
  theorems establish is what the tool adds on top of the primitive: *which* key is asked to verify
  *which* octets — the RFC 4034 §3.1.8.1 to-be-signed octets over the bundle's COMPLETE key set in
  canonical order with the signature's own stated fields — that every signature must name a key of
  the bundle, that every key must have such a signature, and that none of this depends on the order
  of keys and signatures in the document.

  Tamper rejection ("changing any bit of any public key, any signed field or any signature leads to
  rejection") splits into a part that is proved here and a part that is an ASSUMPTION:
    * proved (`tbs_injective`, `rr_frames_parse_uniquely`, `rdata_injective`): the to-be-signed octets
      determine every signed field and the multiset of RDATAs, hence every bit of every key —
      a tampered bundle asks the verifier about DIFFERENT octets (or a different key);
    * assumed, never a theorem: that the verifier then answers "invalid", i.e. existential
      unforgeability of RSA PKCS#1 v1.5 / ECDSA and collision resistance of SHA-2.  A changed
      signature bit is the verifier's own behaviour.  The correspondence run exercises exactly this
      with the real `cryptography` verifier on every single-bit tampering it generates.
-/
import Kskm.KsrPolicy
import KskmProofs.Lemmas.Res
import KskmProofs.Lemmas.C07
import KskmProofs.C14
namespace Kskm.C07
open Kskm.C07L

/-- `sig` is a valid proof by `key` for bundle `b`: `key` is a key of the bundle carrying the
    signature's identifier, and the verifier accepts the signature octets under `key` over the
    to-be-signed octets built from the signature's own fields and the WHOLE key set `b.keys`. -/
def SigValidFor (verify : Verifier) (b : Bundle) (sig : Signature) (key : Key) : Prop :=
  key ∈ b.keys ∧ key.keyIdentifier = sig.keyIdentifier ∧
  ∃ raw sigBytes, makeRawRrsig sig b.keys = .ok raw ∧
    Base64.decode sig.signatureData = some sigBytes ∧
    verify key.algorithm key.publicKey raw sigBytes = .valid

/-- the key text can be loaded as a public key of its algorithm family -/
def KeyLoadable (key : Key) : Prop := publicKeyFromKey key = .ok ()

/-- An honestly formed bundle: at least one key, identifiers unique, every signature a valid proof
    by a (loadable) key of the bundle, every key accompanied by a signature carrying its identifier. -/
structure Honest (verify : Verifier) (b : Bundle) : Prop where
  keys_ne : b.keys ≠ []
  ids_nodup : (b.keys.map (·.keyIdentifier)).Nodup
  sigs_valid : ∀ sig ∈ b.signatures, ∃ key, SigValidFor verify b sig key ∧ KeyLoadable key
  all_signed : ∀ k ∈ b.keys, ∃ sig ∈ b.signatures, sig.keyIdentifier = k.keyIdentifier

/-- `VerifierSays` (the key FOUND under the signature's identifier) in the vocabulary of `SigValidFor`
    (A key of the bundle CARRYING it): the same when identifiers are duplicate-free. -/
theorem says_iff (verify : Verifier) (b : Bundle) (hn : (b.keys.map (·.keyIdentifier)).Nodup)
    (sig : Signature) (r : VerifyResult) :
    VerifierSays verify b sig r ↔ ∃ key, (key ∈ b.keys ∧ key.keyIdentifier = sig.keyIdentifier ∧
      ∃ raw sigBytes, makeRawRrsig sig b.keys = .ok raw ∧ Base64.decode sig.signatureData = some sigBytes ∧
        verify key.algorithm key.publicKey raw sigBytes = r) ∧ KeyLoadable key := by
  constructor
  · rintro ⟨key, sb, raw, hl, hp, hd, hr, hv⟩
    obtain ⟨hm, hid⟩ := lookupKey_some hl
    exact ⟨key, ⟨hm, hid, raw, sb, hr, hd, hv⟩, hp⟩
  · rintro ⟨key, ⟨hm, hid, raw, sb, hr, hd, hv⟩, hp⟩
    exact ⟨key, sb, raw, hid ▸ lookupKey_of_mem hn hm, hp, hd, hr, hv⟩

theorem validateSignatures_ok_iff (verify : Verifier) (b : Bundle) :
    validateSignatures verify b = .ok () ↔
      b.keys ≠ [] ∧ b.signatures ≠ [] ∧ (b.keys.map (·.keyIdentifier)).Nodup ∧
      ∀ sig ∈ b.signatures, ∃ key, SigValidFor verify b sig key ∧ KeyLoadable key := by
  rw [validateSignatures_says_iff, hasDupIds_eq_false_iff]
  apply and_congr_right; intro _
  apply and_congr_right; intro _
  apply and_congr_right; intro hn
  exact forall_congr' fun sig => imp_congr_right fun _ => says_iff verify b hn sig .valid

/-- **C07, soundness of `validate_signatures`.** If a bundle passes: keys and signatures are
    non-empty, key identifiers are unique, and every signature names a key of the bundle under which
    the verifier accepts it over the to-be-signed octets of the WHOLE key set with the signature's
    own stated fields. -/
theorem C07_sound (verify : Verifier) (b : Bundle) (h : validateSignatures verify b = .ok ()) :
    b.keys ≠ [] ∧ b.signatures ≠ [] ∧ (b.keys.map (·.keyIdentifier)).Nodup ∧
    ∀ sig ∈ b.signatures, ∃ key ∈ b.keys, key.keyIdentifier = sig.keyIdentifier ∧
      ∃ raw sigBytes, makeRawRrsig sig b.keys = .ok raw ∧
        Base64.decode sig.signatureData = some sigBytes ∧
        verify key.algorithm key.publicKey raw sigBytes = .valid := by
  obtain ⟨h1, h2, h3, h4⟩ := (validateSignatures_ok_iff verify b).mp h
  refine ⟨h1, h2, h3, ?_⟩
  intro sig hs
  obtain ⟨key, ⟨hm, hid, hrest⟩, _⟩ := h4 sig hs
  exact ⟨key, hm, hid, hrest⟩

/-- **C07, soundness of the PoP rule.** With signature validation enabled, an accepted request has,
    in every bundle, for EACH KEY a signature carrying that key's identifier which the verifier
    accepts under THAT key over the to-be-signed octets of the bundle's complete key set — and every
    signature names a key of the bundle. -/
theorem C07_sound_pop (verify : Verifier) (req : Request) (pol : RequestPolicy)
    (hf : pol.validateSignatures = true) (h : checkProofOfPossession verify req pol = .ok ()) :
    ∀ b ∈ req.bundles,
      (∀ k ∈ b.keys, ∃ sig ∈ b.signatures, SigValidFor verify b sig k) ∧
      (∀ sig ∈ b.signatures, ∃ k ∈ b.keys, k.keyIdentifier = sig.keyIdentifier) := by
  rw [checkProofOfPossession_eq] at h
  simp only [hf, Bool.not_true, Bool.false_eq_true, ↓reduceIte, forEach_ok_iff, popStep_ok_iff] at h
  intro b hb
  obtain ⟨hv, hall⟩ := h b hb
  obtain ⟨_, _, hn, hs⟩ := (validateSignatures_ok_iff verify b).mp hv
  constructor
  · intro k hk
    obtain ⟨sig, hsig, hid⟩ := hall k hk
    obtain ⟨key, hval, _⟩ := hs sig hsig
    have : key = k := eq_of_same_id hn hval.1 hk (hval.2.1.trans hid)
    exact ⟨sig, hsig, this ▸ hval⟩
  · intro sig hsig
    obtain ⟨key, hval, _⟩ := hs sig hsig
    exact ⟨key, hval.1, hval.2.1⟩

/-- the same through the whole of `validate_request` -/
theorem C07_sound_validateRequest (verify : Verifier) (now : Int) (req : Request) (pol : RequestPolicy)
    (hf : pol.validateSignatures = true) (h : validateRequest verify now req pol = .ok ()) :
    ∀ b ∈ req.bundles,
      (∀ k ∈ b.keys, ∃ sig ∈ b.signatures, SigValidFor verify b sig k) ∧
      (∀ sig ∈ b.signatures, ∃ k ∈ b.keys, k.keyIdentifier = sig.keyIdentifier) := by
  apply C07_sound_pop verify req pol hf
  unfold validateRequest verifyBundles at h
  simp only [seq_ok_iff] at h
  exact h.2.1.2.2.1

/-- The octets that are verified are the RFC 4034 §3.1.8.1 to-be-signed octets: the signature's own
    stated fields, then every key of the set as an RR in canonical (§6.3) order — whatever canonical
    arrangement `l` of the RDATAs an independent implementation picks. -/
theorem tbs_is_rfc4034 (sig : Signature) (keys : List Key) (raw : Bytes)
    (h : makeRawRrsig sig keys = .ok raw) :
    ∃ rdatas, keys.mapM keyToRdata = .ok rdatas ∧ rdatas.length = keys.length ∧
      ∀ l, C14.CanonicalOrder l rdatas →
        raw = C14.rfc4034TBS sig.typeCovered sig.algorithm sig.labels.toNat sig.originalTtl.toNat
          (tsSeconds sig.expiration).toNat (tsSeconds sig.inception).toNat sig.keyTag.toNat l := by
  obtain ⟨_, _, rd, hm, _, rfl⟩ := (makeRawRrsig_ok_iff sig keys raw).mp h
  exact ⟨rd, hm, (mapM_ok_mem _ _ _ hm).2.1, fun l hl => C14.makeRawRrsig_eq_rfc _ _ _ _ _ _ _ rd l hl⟩

/-- one bundle passes the PoP rule's loop body exactly when it is honestly formed -/
theorem popStep_ok_iff_honest (verify : Verifier) (b : Bundle) :
    popStep verify b = .ok () ↔ Honest verify b := by
  rw [popStep_ok_iff, validateSignatures_ok_iff]
  constructor
  · rintro ⟨⟨h1, _, h3, h4⟩, h5⟩; exact ⟨h1, h3, h4, h5⟩
  · rintro ⟨h1, h3, h4, h5⟩
    refine ⟨⟨h1, ?_, h3, h4⟩, h5⟩
    intro hs
    obtain ⟨k, hk⟩ := List.exists_mem_of_ne_nil _ h1
    obtain ⟨s, hsm, _⟩ := h5 k hk
    rw [hs] at hsm; simp at hsm

/-- **The PoP rule accepts exactly the honestly formed bundles.** -/
theorem C07_iff (verify : Verifier) (req : Request) (pol : RequestPolicy)
    (hf : pol.validateSignatures = true) :
    checkProofOfPossession verify req pol = .ok () ↔ ∀ b ∈ req.bundles, Honest verify b := by
  rw [checkProofOfPossession_eq]
  simp only [hf, Bool.not_true, Bool.false_eq_true, ↓reduceIte, forEach_ok_iff, popStep_ok_iff_honest]

/-- **C07, completeness.** If in every bundle every signature names a key of the bundle and verifies
    over the whole key set, the texts decode, identifiers are unique and every key has a signature,
    the request passes the PoP rule. -/
theorem C07_complete (verify : Verifier) (req : Request) (pol : RequestPolicy)
    (h : ∀ b ∈ req.bundles, Honest verify b) : checkProofOfPossession verify req pol = .ok () := by
  cases hf : pol.validateSignatures
  · simp [checkProofOfPossession, hf]
  · exact (C07_iff verify req pol hf).mpr h

/-- the to-be-signed octets do not depend on the order in which the key set is visited -/
theorem makeRawRrsig_perm (sig : Signature) (k₁ k₂ : List Key) (hp : k₁.Perm k₂) (raw : Bytes)
    (h : makeRawRrsig sig k₁ = .ok raw) : makeRawRrsig sig k₂ = .ok raw := by
  obtain ⟨hr, hn, rd₁, hm, hl, rfl⟩ := (makeRawRrsig_ok_iff sig k₁ raw).mp h
  obtain ⟨rd₂, hm₂, hperm⟩ := mapM_perm keyToRdata hp hm
  exact (makeRawRrsig_ok_iff sig k₂ _).mpr ⟨hr, hn, rd₂, hm₂,
    fun r hr => hl r (hperm.mem_iff.mpr hr), C14.rawRrsig_perm _ _ _ _ _ _ _ _ _ hperm⟩

theorem makeRawRrsig_perm_iff (sig : Signature) (k₁ k₂ : List Key) (hp : k₁.Perm k₂) (raw : Bytes) :
    makeRawRrsig sig k₁ = .ok raw ↔ makeRawRrsig sig k₂ = .ok raw :=
  ⟨makeRawRrsig_perm sig k₁ k₂ hp raw, makeRawRrsig_perm sig k₂ k₁ hp.symm raw⟩

/-- `validate_signatures` looks at the keys up to order and at the SET of signatures only -/
theorem validateSignatures_perm (verify : Verifier) {b b' : Bundle} (hk : b.keys.Perm b'.keys)
    (hs : ∀ s, s ∈ b.signatures ↔ s ∈ b'.signatures) :
    validateSignatures verify b = .ok () ↔ validateSignatures verify b' = .ok () := by
  have mp : ∀ {b b' : Bundle}, b.keys.Perm b'.keys → (∀ s, s ∈ b.signatures ↔ s ∈ b'.signatures) →
      validateSignatures verify b = .ok () → validateSignatures verify b' = .ok () := by
    intro b b' hk hs h
    rw [validateSignatures_ok_iff] at h ⊢
    obtain ⟨h1, h2, h3, h4⟩ := h
    refine ⟨fun he => h1 (he ▸ hk).eq_nil, fun he => ?_, ((hk.map _).nodup_iff).mp h3, fun sig hsig => ?_⟩
    · obtain ⟨s, hsm⟩ := List.exists_mem_of_ne_nil _ h2
      exact absurd ((hs s).mp hsm) (he ▸ List.not_mem_nil)
    · obtain ⟨key, ⟨hm, hid, raw, sb, hr, hd, hv⟩, hl⟩ := h4 sig ((hs sig).mpr hsig)
      exact ⟨key, ⟨hk.mem_iff.mp hm, hid, raw, sb, makeRawRrsig_perm sig _ _ hk raw hr, hd, hv⟩, hl⟩
  exact ⟨mp hk hs, mp hk.symm fun s => (hs s).symm⟩

theorem honest_perm (verify : Verifier) (b b' : Bundle) (hk : b.keys.Perm b'.keys)
    (hs : b.signatures.Perm b'.signatures) (h : Honest verify b) : Honest verify b' := by
  rw [← popStep_ok_iff_honest, popStep_ok_iff] at h ⊢
  exact ⟨(validateSignatures_perm verify hk fun _ => hs.mem_iff).mp h.1, fun k hkm =>
    let ⟨s, hsm, hid⟩ := h.2 k (hk.mem_iff.mpr hkm); ⟨s, hs.mem_iff.mp hsm, hid⟩⟩

/-- bundle by bundle: if every bundle of `req` is honest, so is every bundle of a request whose
    bundles carry the same keys and signatures in some other order -/
theorem honest_all_perm (verify : Verifier) (req req' : Request)
    (hl : req.bundles.length = req'.bundles.length)
    (hb : ∀ (i : Nat) (b b' : Bundle), req.bundles[i]? = some b → req'.bundles[i]? = some b' →
      b.keys.Perm b'.keys ∧ b.signatures.Perm b'.signatures)
    (h : ∀ b ∈ req.bundles, Honest verify b) : ∀ b' ∈ req'.bundles, Honest verify b' := by
  intro b' hb'
  obtain ⟨i, hi, rfl⟩ := List.mem_iff_getElem.mp hb'
  have hi' : i < req.bundles.length := by omega
  obtain ⟨p1, p2⟩ := hb i req.bundles[i] req'.bundles[i] (List.getElem?_eq_getElem hi')
    (List.getElem?_eq_getElem hi)
  exact honest_perm verify _ _ p1 p2 (h _ (List.getElem_mem hi'))

/-- **C07, order independence.** Re-ordering the keys and the signatures inside every bundle (any
    permutation: document order, Python set iteration order) never changes the verdict of the PoP
    rule — an honest request is accepted in every ordering, a rejected one in none. -/
theorem C07_order_invariant (verify : Verifier) (req req' : Request) (pol : RequestPolicy)
    (hl : req.bundles.length = req'.bundles.length)
    (hb : ∀ (i : Nat) (b b' : Bundle), req.bundles[i]? = some b → req'.bundles[i]? = some b' →
      b.keys.Perm b'.keys ∧ b.signatures.Perm b'.signatures) :
    checkProofOfPossession verify req pol = .ok () ↔ checkProofOfPossession verify req' pol = .ok () := by
  cases hf : pol.validateSignatures
  · simp [checkProofOfPossession, hf]
  · rw [C07_iff verify req pol hf, C07_iff verify req' pol hf]
    exact ⟨honest_all_perm verify req req' hl hb,
      honest_all_perm verify req' req hl.symm fun i b' b h' h => (hb i b b' h h').imp .symm .symm⟩

/-- honest bundles are accepted whatever the order of keys and signatures -/
theorem C07_complete_any_order (verify : Verifier) (req req' : Request) (pol : RequestPolicy)
    (h : ∀ b ∈ req.bundles, Honest verify b)
    (hl : req.bundles.length = req'.bundles.length)
    (hb : ∀ (i : Nat) (b b' : Bundle), req.bundles[i]? = some b → req'.bundles[i]? = some b' →
      b.keys.Perm b'.keys ∧ b.signatures.Perm b'.signatures) :
    checkProofOfPossession verify req' pol = .ok () :=
  (C07_order_invariant verify req req' pol hl hb).mp (C07_complete verify req pol h)

/-- **Removing one signature rejects.** A bundle containing a key for which no signature carries its
    identifier is never accepted … -/
theorem remove_one_signature_rejects (verify : Verifier) (req : Request) (pol : RequestPolicy)
    (hf : pol.validateSignatures = true) (b : Bundle) (hb : b ∈ req.bundles) (k : Key) (hk : k ∈ b.keys)
    (hno : ∀ sig ∈ b.signatures, sig.keyIdentifier ≠ k.keyIdentifier) :
    checkProofOfPossession verify req pol ≠ .ok () := by
  intro h
  obtain ⟨sig, hs, hid⟩ := ((C07_iff verify req pol hf).mp h b hb).all_signed k hk
  exact hno sig hs hid

/-- … and when the signatures that *are* present are all fine, the rejection is precisely the
    KSR-BUNDLE-POP policy violation. -/
theorem remove_one_signature_is_pop_violation (verify : Verifier) (req : Request) (pol : RequestPolicy)
    (hf : pol.validateSignatures = true)
    (hval : ∀ b ∈ req.bundles, validateSignatures verify b = .ok ())
    (b : Bundle) (hb : b ∈ req.bundles) (k : Key) (hk : k ∈ b.keys)
    (hno : ∀ sig ∈ b.signatures, sig.keyIdentifier ≠ k.keyIdentifier) :
    checkProofOfPossession verify req pol = violation .bundlePop := by
  rw [checkProofOfPossession_eq]
  simp only [hf, Bool.not_true, Bool.false_eq_true, ↓reduceIte]
  refine forEach_fails_with (fun x hx => popStep_of_valid verify x (hval x hx)) ⟨b, hb, fun h => ?_⟩
  obtain ⟨sig, hs, hid⟩ := ((popStep_ok_iff verify b).mp h).2 k hk
  exact hno sig hs hid

/-- **A misattributed signature rejects**: a signature naming no key of its bundle is refused by
    `validate_signatures`, hence by the PoP rule and by `validate_request`. -/
theorem misattributed_signature_rejects (verify : Verifier) (b : Bundle) (sig : Signature)
    (hs : sig ∈ b.signatures) (hno : ∀ k ∈ b.keys, k.keyIdentifier ≠ sig.keyIdentifier) :
    validateSignatures verify b ≠ .ok () := by
  intro h
  obtain ⟨_, _, _, h4⟩ := C07_sound verify b h
  obtain ⟨k, hk, hid, _⟩ := h4 sig hs
  exact hno k hk hid

theorem misattributed_signature_rejects_request (verify : Verifier) (req : Request) (pol : RequestPolicy)
    (hf : pol.validateSignatures = true) (b : Bundle) (hb : b ∈ req.bundles) (sig : Signature)
    (hs : sig ∈ b.signatures) (hno : ∀ k ∈ b.keys, k.keyIdentifier ≠ sig.keyIdentifier) :
    checkProofOfPossession verify req pol ≠ .ok () := by
  intro h
  obtain ⟨k, hk, hid⟩ := (C07_sound_pop verify req pol hf h b hb).2 sig hs
  exact hno k hk hid

/-- a signature that verifies only under *another* key of the bundle than the one it names does not
    help: acceptance requires validity under the named key -/
theorem signature_must_verify_under_named_key (verify : Verifier) (b : Bundle) (sig : Signature)
    (hs : sig ∈ b.signatures) (k : Key) (hk : k ∈ b.keys) (hid : k.keyIdentifier = sig.keyIdentifier)
    (hbad : ∀ raw sb, makeRawRrsig sig b.keys = .ok raw → Base64.decode sig.signatureData = some sb →
      verify k.algorithm k.publicKey raw sb ≠ .valid) :
    validateSignatures verify b ≠ .ok () := by
  intro h
  obtain ⟨_, _, hn, h4⟩ := C07_sound verify b h
  obtain ⟨k', hk', hid', raw, sb, hr, hd, hv⟩ := h4 sig hs
  have : k' = k := eq_of_same_id hn hk' hk (hid'.trans hid.symm)
  subst this
  exact hbad raw sb hr hd hv

/-- **An invalid signature is a KSR-BUNDLE-POP violation**: when `validate_signatures` ends in
    `InvalidSignature` for a bundle and every earlier bundle passes, the request is rejected with
    exactly that policy violation. -/
theorem invalid_signature_is_pop_violation (verify : Verifier) (req : Request) (pol : RequestPolicy)
    (hf : pol.validateSignatures = true) (pre post : List Bundle) (b : Bundle)
    (hreq : req.bundles = pre ++ b :: post) (hpre : ∀ p ∈ pre, Honest verify p)
    (hinv : validateSignatures verify b = err .invalidSignature) :
    checkProofOfPossession verify req pol = violation .bundlePop := by
  rw [checkProofOfPossession_eq]
  simp only [hf, Bool.not_true, Bool.false_eq_true, ↓reduceIte, hreq]
  refine forEach_error_iff.mpr ⟨pre, b, post, rfl, fun p hp => (popStep_ok_iff_honest verify p).mpr (hpre p hp), ?_⟩
  show popStep verify b = _
  unfold popStep; rw [hinv]; rfl

/-- when `validate_signatures` answers `InvalidSignature`: the keys are fine and the first signature
    that does not pass is one the verifier calls invalid (`C07L.validateSignatures_first_invalid`
    through `says_iff`) -/
theorem validateSignatures_invalid (verify : Verifier) (b : Bundle) (pre post : List Signature)
    (s : Signature) (hk : b.keys ≠ []) (hn : (b.keys.map (·.keyIdentifier)).Nodup)
    (hsig : b.signatures = pre ++ s :: post)
    (hpre : ∀ x ∈ pre, ∃ key, SigValidFor verify b x key ∧ KeyLoadable key)
    (key : Key) (hkey : key ∈ b.keys) (hid : key.keyIdentifier = s.keyIdentifier)
    (hload : KeyLoadable key) (raw sb : Bytes) (hraw : makeRawRrsig s b.keys = .ok raw)
    (hdec : Base64.decode s.signatureData = some sb)
    (hv : verify key.algorithm key.publicKey raw sb = .invalid) :
    validateSignatures verify b = err .invalidSignature := by
  exact validateSignatures_first_invalid verify b pre post s hk ((hasDupIds_eq_false_iff _).mpr hn) hsig
    (fun x hx => (says_iff verify b hn x .valid).mpr (hpre x hx))
    ((says_iff verify b hn s .invalid).mpr ⟨key, ⟨hkey, hid, raw, sb, hraw, hdec, hv⟩, hload⟩)

/-- **Length-prefixed RRs parse uniquely.** Two lists of RDATAs (each shorter than 2¹⁶ octets) whose
    RR framings concatenate to the same octets are the same list. -/
theorem rr_frames_parse_uniquely (tc ttl : Nat) : ∀ (l₁ l₂ : List Bytes),
    (∀ r ∈ l₁, r.length < 65536) → (∀ r ∈ l₂, r.length < 65536) →
    (l₁.map (rrWire [0] tc ttl)).flatten = (l₂.map (rrWire [0] tc ttl)).flatten → l₁ = l₂
  | [], [], _, _, _ => rfl
  | [], r :: l, _, _, h => by
    have := congrArg List.length h
    simp [rrWire, be16, be32] at this
  | r :: l, [], _, _, h => by
    have := congrArg List.length h
    simp [rrWire, be16, be32] at this
  | r₁ :: l₁, r₂ :: l₂, h₁, h₂, h => by
    simp only [List.map_cons, List.flatten_cons, rrWire, List.append_assoc] at h
    have h := List.append_cancel_left h
    have h := List.append_cancel_left h
    have h := List.append_cancel_left h
    have h := List.append_cancel_left h
    obtain ⟨hlen, hrest⟩ := List.append_inj h (by simp [be16])
    have hl : r₁.length = r₂.length :=
      be16_inj (h₁ r₁ (by simp)) (h₂ r₂ (by simp)) hlen
    obtain ⟨hr, hrest⟩ := List.append_inj hrest hl
    rw [hr, rr_frames_parse_uniquely tc ttl l₁ l₂ (fun x hx => h₁ x (List.mem_cons_of_mem _ hx))
      (fun x hx => h₂ x (List.mem_cons_of_mem _ hx)) hrest]

/-- the 18-octet RRSIG RDATA prefix determines every signed field (each within its wire range) -/
theorem rrsigHeader_injective {tc a l o e i t tc' a' l' o' e' i' t' : Nat}
    (htc : tc < 65536) (ha : a < 256) (hl : l < 256) (ho : o < 4294967296) (he : e < 4294967296)
    (hi : i < 4294967296) (ht : t < 65536)
    (htc' : tc' < 65536) (ha' : a' < 256) (hl' : l' < 256) (ho' : o' < 4294967296) (he' : e' < 4294967296)
    (hi' : i' < 4294967296) (ht' : t' < 65536)
    (h : rrsigHeader tc a l o e i t = rrsigHeader tc' a' l' o' e' i' t') :
    tc = tc' ∧ a = a' ∧ l = l' ∧ o = o' ∧ e = e' ∧ i = i' ∧ t = t' := by
  unfold rrsigHeader at h
  obtain ⟨h, h7⟩ := List.append_inj' h (by simp [be16])
  obtain ⟨h, h6⟩ := List.append_inj' h (by simp [be32])
  obtain ⟨h, h5⟩ := List.append_inj' h (by simp [be32])
  obtain ⟨h, h4⟩ := List.append_inj' h (by simp [be32])
  obtain ⟨h, h3⟩ := List.append_inj' h (by simp [be8])
  obtain ⟨h1, h2⟩ := List.append_inj' h (by simp [be8])
  exact ⟨be16_inj htc htc' h1, be8_inj ha ha' h2, be8_inj hl hl' h3, be32_inj ho ho' h4,
    be32_inj he he' h5, be32_inj hi hi' h6, be16_inj ht ht' h7⟩

/-- **The to-be-signed octets are injective** in the signed fields and the multiset of RDATAs: equal
    octets ⇒ equal type covered, algorithm, labels, original TTL, expiration, inception, key tag, and
    the same RDATAs up to order (equal canonical arrangements).  So a change to any signed field, to
    any octet of any key's RDATA, or to the key set, changes the octets that must verify. -/
theorem tbs_injective (tc a l o e i t tc' a' l' o' e' i' t' : Nat) (rd rd' : List Bytes)
    (htc : tc < 65536) (ha : a < 256) (hl : l < 256) (ho : o < 4294967296) (he : e < 4294967296)
    (hi : i < 4294967296) (ht : t < 65536)
    (htc' : tc' < 65536) (ha' : a' < 256) (hl' : l' < 256) (ho' : o' < 4294967296) (he' : e' < 4294967296)
    (hi' : i' < 4294967296) (ht' : t' < 65536)
    (hrd : ∀ r ∈ rd, r.length < 65536) (hrd' : ∀ r ∈ rd', r.length < 65536)
    (h : rawRrsigOf tc a l o e i t rd = rawRrsigOf tc' a' l' o' e' i' t' rd') :
    (tc = tc' ∧ a = a' ∧ l = l' ∧ o = o' ∧ e = e' ∧ i = i' ∧ t = t') ∧
    rd.mergeSort bytesLe = rd'.mergeSort bytesLe ∧ rd.Perm rd' := by
  unfold rawRrsigOf at h
  rw [List.append_assoc, List.append_assoc] at h
  obtain ⟨hh, hb⟩ := List.append_inj h (by rw [rrsigHeader_length, rrsigHeader_length])
  obtain ⟨e1, e2, e3, e4, e5, e6, e7⟩ :=
    rrsigHeader_injective htc ha hl ho he hi ht htc' ha' hl' ho' he' hi' ht' hh
  subst e1 e4
  have hb := List.append_cancel_left hb
  have hs := rr_frames_parse_uniquely tc o _ _
    (fun r hr => hrd r ((List.mergeSort_perm rd bytesLe).mem_iff.mp hr))
    (fun r hr => hrd' r ((List.mergeSort_perm rd' bytesLe).mem_iff.mp hr)) hb
  refine ⟨⟨rfl, e2, e3, rfl, e5, e6, e7⟩, hs, ?_⟩
  exact (List.mergeSort_perm rd bytesLe).symm.trans (hs ▸ List.mergeSort_perm rd' bytesLe)

/-- a DNSKEY RDATA determines flags, protocol, algorithm and every octet of the public key -/
theorem rdata_injective (f p a f' p' a' : Nat) (pk pk' : Bytes)
    (hf : f < 65536) (hp : p < 256) (ha : a < 256) (hf' : f' < 65536) (hp' : p' < 256) (ha' : a' < 256)
    (h : rdataOf f p a pk = rdataOf f' p' a' pk') : f = f' ∧ p = p' ∧ a = a' ∧ pk = pk' := by
  unfold rdataOf at h
  rw [List.append_assoc, List.append_assoc, List.append_assoc, List.append_assoc] at h
  obtain ⟨h1, h⟩ := List.append_inj h (by simp [be16])
  obtain ⟨h2, h⟩ := List.append_inj h (by simp [be8])
  obtain ⟨h3, h4⟩ := List.append_inj h (by simp [be8])
  exact ⟨be16_inj hf hf' h1, be8_inj hp hp' h2, be8_inj ha ha' h3, h4⟩

/-- **`make_raw_rrsig` is injective where it succeeds**: two (signature, key set) pairs that yield the
    same to-be-signed octets state the same signed fields and carry the same multiset of key RDATAs. -/
theorem tbs_injective_makeRawRrsig (s₁ s₂ : Signature) (k₁ k₂ : List Key) (raw : Bytes)
    (h₁ : makeRawRrsig s₁ k₁ = .ok raw) (h₂ : makeRawRrsig s₂ k₂ = .ok raw) :
    (s₁.typeCovered = s₂.typeCovered ∧ s₁.algorithm = s₂.algorithm ∧ s₁.labels = s₂.labels ∧
      s₁.originalTtl = s₂.originalTtl ∧ tsSeconds s₁.expiration = tsSeconds s₂.expiration ∧
      tsSeconds s₁.inception = tsSeconds s₂.inception ∧ s₁.keyTag = s₂.keyTag) ∧
    ∃ rd₁ rd₂, k₁.mapM keyToRdata = .ok rd₁ ∧ k₂.mapM keyToRdata = .ok rd₂ ∧ rd₁.Perm rd₂ := by
  obtain ⟨⟨a1, a2, a3, a4, a5, a6, a7⟩, _, rd₁, m₁, l₁, e₁⟩ := (makeRawRrsig_ok_iff s₁ k₁ raw).mp h₁
  obtain ⟨⟨b1, b2, b3, b4, b5, b6, b7⟩, _, rd₂, m₂, l₂, e₂⟩ := (makeRawRrsig_ok_iff s₂ k₂ raw).mp h₂
  obtain ⟨⟨c1, c2, c3, c4, c5, c6, c7⟩, _, hperm⟩ := tbs_injective _ _ _ _ _ _ _ _ _ _ _ _ _ _ rd₁ rd₂
    a1 a2 (toNat_lt_of_inRange a3) (toNat_lt_of_inRange a4) (toNat_lt_of_inRange a5)
    (toNat_lt_of_inRange a6) (toNat_lt_of_inRange a7)
    b1 b2 (toNat_lt_of_inRange b3) (toNat_lt_of_inRange b4) (toNat_lt_of_inRange b5)
    (toNat_lt_of_inRange b6) (toNat_lt_of_inRange b7) l₁ l₂ (e₁ ▸ e₂)
  -- an in-range `Int` field is determined by the natural number written on the wire
  exact ⟨⟨c1, c2, toNat_inj_of_inRange a3 b3 c3, toNat_inj_of_inRange a4 b4 c4,
    toNat_inj_of_inRange a5 b5 c5, toNat_inj_of_inRange a6 b6 c6, toNat_inj_of_inRange a7 b7 c7⟩,
    rd₁, rd₂, m₁, m₂, hperm⟩

/-- one toy RSA key (RFC 3110 text), one signature naming it -/
def exKey : Key :=
  { keyIdentifier := "zsk1", keyTag := 38684, ttl := 172800, flags := 256, protocol := 3,
    algorithm := 8, publicKey := "AQPFESIzRFVmdw==" }
def exKey2 : Key :=
  { keyIdentifier := "zsk2", keyTag := 38685, ttl := 172800, flags := 256, protocol := 3,
    algorithm := 8, publicKey := "AQPFESIzRFVmeA==" }
def exSig (ident : String) (tag : Int) : Signature :=
  { keyIdentifier := ident, ttl := 172800, algorithm := 8, labels := 0, originalTtl := 172800,
    expiration := 1500000000000000, inception := 1400000000000000, keyTag := tag, signersName := ".",
    signatureData := "AAEC" }
def exBundle : Bundle :=
  { id := "b", inception := 0, expiration := 0, keys := [exKey, exKey2],
    signatures := [exSig "zsk2" 38685, exSig "zsk1" 38684] }
/-- a verifier that accepts everything: the hypotheses of completeness are satisfiable … -/
def yes : Verifier := fun _ _ _ _ => .valid
/-- … and one that accepts nothing -/
def no : Verifier := fun _ _ _ _ => .invalid

def exReq (sigs : List Signature) : Request :=
  { id := "r", serial := 1, domain := ".", zskPolicy := {},
    bundles := [{ id := "b", inception := 0, expiration := 0, keys := [exKey, exKey2], signatures := sigs }] }

example : validateSignatures yes exBundle = .ok () := by decide +kernel
example : checkProofOfPossession yes (exReq exBundle.signatures) {} = .ok () := by decide +kernel
example : checkProofOfPossession no (exReq exBundle.signatures) {} = violation .bundlePop := by decide +kernel
/-- omission: the second key has no signature -/
example : checkProofOfPossession yes (exReq [exSig "zsk1" 38684]) {} = violation .bundlePop := by
  decide +kernel
/-- misattribution: a signature naming no key of the bundle -/
example : validateSignatures yes { exBundle with signatures := [exSig "zsk3" 1] } = err .value := by
  decide +kernel
/-- the RDATAs of BOTH keys enter the to-be-signed octets; here document order is already canonical -/
example : exBundle.keys.mapM keyToRdata =
    .ok [[1, 0, 3, 8, 1, 3, 0xC5, 0x11, 0x22, 0x33, 0x44, 0x55, 0x66, 0x77],
         [1, 0, 3, 8, 1, 3, 0xC5, 0x11, 0x22, 0x33, 0x44, 0x55, 0x66, 0x78]] := by decide +kernel
example : C14.CanonicalOrder
    [[1, 0, 3, 8, 1, 3, 0xC5, 0x11, 0x22, 0x33, 0x44, 0x55, 0x66, 0x77],
     [1, 0, 3, 8, 1, 3, 0xC5, 0x11, 0x22, 0x33, 0x44, 0x55, 0x66, 0x78]]
    [[1, 0, 3, 8, 1, 3, 0xC5, 0x11, 0x22, 0x33, 0x44, 0x55, 0x66, 0x77],
     [1, 0, 3, 8, 1, 3, 0xC5, 0x11, 0x22, 0x33, 0x44, 0x55, 0x66, 0x78]] :=
  ⟨List.Perm.refl _, by decide⟩

end Kskm.C07
