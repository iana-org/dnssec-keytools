/-
  C08 — a KSR is processed only if it chains to the previous SKR and that SKR is ours.

  The clauses below are written from the property text.  `Kskm.Chain` mirrors /repo's
  `check_skr_and_ksr` step by step (same order, same comparison operators, token answers as a
  parameter `lookup`); `Kskm.SkrValidate` mirrors `validate_response`.  The theorems say, for every
  previous SKR and every KSR with at least one bundle each, every policy and every token:
  acceptance ⇔ the conjunction of the clauses, each under its own flag; a forged previous SKR is
  refused; an honest successor is accepted; and an accepted KSR leaves no gap after the previous SKR.
-/
import Kskm.Chain
import Kskm.SkrValidate
import KskmProofs.Lemmas.Res
import KskmProofs.Lemmas.C08Key
import KskmProofs.Lemmas.C07
namespace Kskm.C08
open Kskm.C07L

/-- the KSR's id differs from the previous SKR's id -/
def IdClause (ksr : Request) (last : Response) : Prop := ksr.id ≠ last.id

/-- no bundle id of the KSR occurs in the previous SKR -/
def BundleIdClause (ksr : Request) (last : Response) : Prop :=
  ∀ kb ∈ ksr.bundles, ∀ sb ∈ last.bundles, kb.id ≠ sb.id

/-- every key in the KSR's first bundle is present in the previous SKR's last bundle — the same key
    *record* (identifier, tag, TTL, flags, protocol, algorithm, key text) -/
def ChainKeysClause (first prev : Bundle) : Prop := ∀ k ∈ first.keys, k ∈ prev.keys

/-- the previous last bundle's expiration minus the KSR's first inception lies within the KSR's
    declared [min, max] overlap, both ends included -/
def ChainOverlapClause (zp : SigPolicy) (first prev : Bundle) : Prop :=
  first.inception ≤ prev.expiration ∧
  zp.minValidityOverlap ≤ prev.expiration - first.inception ∧
  prev.expiration - first.inception ≤ zp.maxValidityOverlap

/-- the signer of `sig` is found on the token with identical public key: the token has a public
    object under the signature's identifier, with a non-empty key text `pk` from which a DNSKEY can
    be derived (`Derivable`: see `publicKeyToDnssecKey_ok_iff` for exactly when it cannot), and the
    key published under that identifier in the bundle carries the same text -/
def SignerOnToken (lookup : TokenLookup) (prev : Bundle) (sig : Signature) : Prop :=
  ∃ pk, lookup sig.keyIdentifier = .ok (some (some pk)) ∧ pk ≠ "" ∧ Derivable pk sig.algorithm ∧
    ∃ key ∈ prev.keys, key.keyIdentifier = sig.keyIdentifier ∧ key.publicKey = pk

/-- every key that signed the previous last bundle — at least one — is on the token -/
def TokenClause (lookup : TokenLookup) (prev : Bundle) : Prop :=
  prev.signatures ≠ [] ∧ ∀ sig ∈ prev.signatures, SignerOnToken lookup prev sig

/-- The documented chain region under a flag assignment and a token (`none` = no token attached). -/
def ChainRegion (ksr : Request) (last : Response) (pol : RequestPolicy) (tok : Option TokenLookup)
    (first prev : Bundle) : Prop :=
  IdClause ksr last ∧ BundleIdClause ksr last ∧
  (pol.checkChainKeys = true → ChainKeysClause first prev) ∧
  (pol.checkChainOverlap = true → ChainOverlapClause ksr.zskPolicy first prev) ∧
  (∀ lookup, tok = some lookup → pol.checkChainKeysInHsm = true → TokenClause lookup prev)

/-- In a bundle whose keys carry pairwise distinct identifiers (what `validate_signatures` insists
    on) "the key published under an identifier" is well defined.  Needed for one direction of the
    token clause only; without it the code's verdict depends on which of the homonymous keys the
    Python `set` yields first. -/
def IdsDeterminePk (b : Bundle) : Prop :=
  ∀ k₁ ∈ b.keys, ∀ k₂ ∈ b.keys, k₁.keyIdentifier = k₂.keyIdentifier → k₁.publicKey = k₂.publicKey

theorem unique_request_iff (ksr : Request) (last : Response) :
    checkUniqueRequest ksr last = .ok () ↔ IdClause ksr last := by
  unfold checkUniqueRequest IdClause
  exact ite_viol_ok_iff _

theorem unique_bundle_ids_iff (ksr : Request) (last : Response) :
    checkUniqueBundleIds ksr last = .ok () ↔ BundleIdClause ksr last := by
  unfold checkUniqueBundleIds BundleIdClause
  simp only [forEach_ok_iff, ite_viol_ok_iff, ne_eq]

theorem chain_keys_iff (ksr : Request) (last : Response) (pol : RequestPolicy) (first prev : Bundle)
    (hf : ksr.bundles.head? = some first) (hl : last.bundles.getLast? = some prev) :
    checkChainKeys ksr last pol = .ok () ↔ (pol.checkChainKeys = true → ChainKeysClause first prev) := by
  unfold checkChainKeys ChainKeysClause
  rw [guarded_ok_iff, hf, hl]
  simp only [forEach_ok_iff, ite_ok_viol_iff, List.contains_iff_mem]

theorem chain_overlap_iff (ksr : Request) (last : Response) (pol : RequestPolicy) (first prev : Bundle)
    (hf : ksr.bundles.head? = some first) (hl : last.bundles.getLast? = some prev) :
    checkChainOverlap ksr last pol = .ok () ↔
      (pol.checkChainOverlap = true → ChainOverlapClause ksr.zskPolicy first prev) := by
  unfold checkChainOverlap ChainOverlapClause
  rw [guarded_ok_iff, hf, hl]
  refine imp_congr_right fun _ => ?_
  show (if first.inception > prev.expiration then violation .chainOverlap else _) = _ ↔ _
  rw [ite_viol_iff, window_ok_iff]; omega

/-- **Exactly when `public_key_to_dnssec_key` can fail on the token's key text** (called with flags
    257, the signature's identifier, algorithm and TTL): it succeeds iff `Derivable pk alg` — the
    algorithm number fits one octet, the text is base64 the model decodes (anything else the model
    declines to judge: `unsupported`), and for ECDSA P-256 / P-384 the decoded point has the curve's
    size, bare or behind a `0x04` octet (otherwise: pydantic `ValidationError`; empty: `IndexError`).
    Identifier, TTL and flags never make it fail. -/
theorem token_key_derivable_iff (pk id : String) (alg : Nat) (ttl : Int) :
    (∃ k, publicKeyToDnssecKey pk id alg ttl 257 = .ok k) ↔
      alg < 256 ∧ ∃ b, Base64.decode pk = some b ∧ ((alg = 13 ∨ alg = 14) → EcPointOk alg b) :=
  publicKeyToDnssecKey_ok_iff pk id alg ttl

/-- the derived key carries the token's key text unchanged, so "the derived key's text equals the
    published key's text" is "the token's text equals the published text" -/
theorem derived_key_text (pk id : String) (alg : Nat) (ttl flags : Int) (k : Key)
    (h : publicKeyToDnssecKey pk id alg ttl flags = .ok k) : k.publicKey = pk :=
  (publicKeyToDnssecKey_fields h).1

/-- the token rule as the loop over `keyPresentStep` plus the "at least one signature" test -/
theorem key_present_unfold (last : Response) (pol : RequestPolicy) (lookup : TokenLookup) (prev : Bundle)
    (hl : last.bundles.getLast? = some prev) (hflag : pol.checkChainKeysInHsm = true) :
    checkLastSkrKeyPresent last pol (some lookup) =
      (do forEach prev.signatures (keyPresentStep lookup prev)
          if prev.signatures.isEmpty then violation .chainKeys else pure ()) := by
  unfold checkLastSkrKeyPresent
  simp only [hflag, Bool.not_true, Bool.false_eq_true, ↓reduceIte, hl]
  rfl

/-- one passing iteration, in the property's words (⇒ always; ⇐ when identifiers determine keys) -/
theorem stepPasses_sound (lookup : TokenLookup) (prev : Bundle) (sig : Signature)
    (h : StepPasses lookup prev sig) : SignerOnToken lookup prev sig := by
  obtain ⟨pk, hlk, hne, hder, key, hfind, hpk⟩ := h
  refine ⟨pk, hlk, hne, (publicKeyToDnssecKey_ok_iff _ _ _ _).mp hder, key,
    List.mem_of_find?_eq_some hfind, ?_, hpk⟩
  simpa using List.find?_some hfind

theorem stepPasses_complete (lookup : TokenLookup) (prev : Bundle) (sig : Signature)
    (hu : IdsDeterminePk prev) (h : SignerOnToken lookup prev sig) : StepPasses lookup prev sig := by
  obtain ⟨pk, hlk, hne, hder, key, hmem, hid, hpk⟩ := h
  refine ⟨pk, hlk, hne, (publicKeyToDnssecKey_ok_iff _ sig.keyIdentifier _ sig.ttl).mpr hder, ?_⟩
  cases hfind : prev.keys.find? (fun k => k.keyIdentifier = sig.keyIdentifier) with
  | none =>
    have := List.find?_eq_none.mp hfind key hmem
    simp [hid] at this
  | some key' =>
    have hmem' := List.mem_of_find?_eq_some hfind
    have hid' : key'.keyIdentifier = sig.keyIdentifier := by simpa using List.find?_some hfind
    exact ⟨key', rfl, (hu key' hmem' key hmem (by rw [hid', hid])).trans hpk⟩

/-- **Token rule, soundness** (no side condition): accepted with a token attached and the flag on ⇒
    at least one signer, and every signer is on the token with identical public key. -/
theorem key_present_sound (last : Response) (pol : RequestPolicy) (lookup : TokenLookup) (prev : Bundle)
    (hl : last.bundles.getLast? = some prev) (hflag : pol.checkChainKeysInHsm = true)
    (hok : checkLastSkrKeyPresent last pol (some lookup) = .ok ()) : TokenClause lookup prev := by
  rw [key_present_unfold last pol lookup prev hl hflag, seq_ok_iff, forEach_ok_iff] at hok
  obtain ⟨hall, hne⟩ := hok
  refine ⟨?_, fun sig hs => stepPasses_sound _ _ _ ((keyPresentStep_ok_iff _ _ _).mp (hall sig hs))⟩
  intro h0; simp [h0] at hne

/-- **Token rule accepts exactly its clause** (identifiers of the previous last bundle distinct). -/
theorem key_present_iff (last : Response) (pol : RequestPolicy) (lookup : TokenLookup) (prev : Bundle)
    (hl : last.bundles.getLast? = some prev) (hu : IdsDeterminePk prev) :
    checkLastSkrKeyPresent last pol (some lookup) = .ok () ↔
      (pol.checkChainKeysInHsm = true → TokenClause lookup prev) := by
  cases hflag : pol.checkChainKeysInHsm
  · simp [checkLastSkrKeyPresent, hflag]
  · simp only [forall_const]
    constructor
    · exact key_present_sound last pol lookup prev hl hflag
    · rintro ⟨hne, hall⟩
      rw [key_present_unfold last pol lookup prev hl hflag, seq_ok_iff, forEach_ok_iff]
      refine ⟨fun sig hs => (keyPresentStep_ok_iff _ _ _).mpr (stepPasses_complete _ _ _ hu (hall sig hs)), ?_⟩
      cases hs : prev.signatures with
      | nil => exact absurd hs hne
      | cons a r => simp

/-- without a token (`p11modules` is `None` or empty) the token rule is not applied -/
theorem key_present_no_token (last : Response) (pol : RequestPolicy) :
    checkLastSkrKeyPresent last pol none = .ok () := rfl

/-- **Composite is the plain conjunction of the five rules** — no rule's verdict (in particular a
    disabled rule's `ok`) can hide another's rejection. -/
theorem composite_is_conjunction (ksr : Request) (last : Response) (pol : RequestPolicy)
    (tok : Option TokenLookup) :
    checkSkrAndKsr ksr last pol tok = .ok () ↔
      checkUniqueRequest ksr last = .ok () ∧ checkUniqueBundleIds ksr last = .ok () ∧
      checkChainKeys ksr last pol = .ok () ∧ checkChainOverlap ksr last pol = .ok () ∧
      checkLastSkrKeyPresent last pol tok = .ok () := by
  unfold checkSkrAndKsr
  simp only [seq_ok_iff]

/-- **C08, soundness** (no side condition): whatever is accepted lies in the documented region. -/
theorem C08_sound (ksr : Request) (last : Response) (pol : RequestPolicy) (tok : Option TokenLookup)
    (first prev : Bundle) (hf : ksr.bundles.head? = some first) (hl : last.bundles.getLast? = some prev)
    (hok : checkSkrAndKsr ksr last pol tok = .ok ()) : ChainRegion ksr last pol tok first prev := by
  rw [composite_is_conjunction, unique_request_iff, unique_bundle_ids_iff,
    chain_keys_iff ksr last pol first prev hf hl, chain_overlap_iff ksr last pol first prev hf hl] at hok
  obtain ⟨h1, h2, h3, h4, h5⟩ := hok
  refine ⟨h1, h2, h3, h4, ?_⟩
  intro lookup ht hflag
  subst ht
  exact key_present_sound last pol lookup prev hl hflag h5

/-- **C08.**  For every KSR and previous SKR with a bundle each, every flag assignment and every
    token: `check_skr_and_ksr` accepts iff the pair lies in the documented region — ids differ, no
    bundle id re-used, and under its own flag each of: first-bundle keys carried over, overlap
    within the KSR-declared window, and (token attached) every signer of the previous last bundle,
    at least one, on the token with identical key. -/
theorem C08_iff (ksr : Request) (last : Response) (pol : RequestPolicy) (tok : Option TokenLookup)
    (first prev : Bundle) (hf : ksr.bundles.head? = some first) (hl : last.bundles.getLast? = some prev)
    (hu : tok.isSome = true → IdsDeterminePk prev) :
    checkSkrAndKsr ksr last pol tok = .ok () ↔ ChainRegion ksr last pol tok first prev := by
  constructor
  · exact C08_sound ksr last pol tok first prev hf hl
  · rintro ⟨h1, h2, h3, h4, h5⟩
    rw [composite_is_conjunction, unique_request_iff, unique_bundle_ids_iff,
      chain_keys_iff ksr last pol first prev hf hl, chain_overlap_iff ksr last pol first prev hf hl]
    refine ⟨h1, h2, h3, h4, ?_⟩
    cases tok with
    | none => rfl
    | some lookup =>
      exact (key_present_iff last pol lookup prev hl (hu rfl)).mpr (h5 lookup rfl)

/-- **A switched-off rule never rejects**, and the token rule is not applied without a token. -/
theorem C08_flags_off (ksr : Request) (last : Response) (pol : RequestPolicy) (tok : Option TokenLookup) :
    (pol.checkChainKeys = false → checkChainKeys ksr last pol = .ok ()) ∧
    (pol.checkChainOverlap = false → checkChainOverlap ksr last pol = .ok ()) ∧
    (pol.checkChainKeysInHsm = false → checkLastSkrKeyPresent last pol tok = .ok ()) ∧
    checkLastSkrKeyPresent last pol none = .ok () := by
  refine ⟨fun h => guarded_off h _, fun h => guarded_off h _, fun h => ?_, rfl⟩
  cases tok
  · rfl
  · exact guarded_off h _

/-- the two id rules have no flag: they reject under every policy -/
theorem id_rules_unconditional (ksr : Request) (last : Response) (pol : RequestPolicy)
    (tok : Option TokenLookup) (h : ¬ IdClause ksr last ∨ ¬ BundleIdClause ksr last) :
    checkSkrAndKsr ksr last pol tok ≠ .ok () := by
  rw [Ne, composite_is_conjunction, unique_request_iff, unique_bundle_ids_iff]
  rintro ⟨h1, h2, _⟩
  rcases h with h | h
  · exact h h1
  · exact h h2

/-- an enabled chain rule on an SKR or KSR without bundles is an error (Python `IndexError`), never
    an acceptance -/
theorem empty_refused (ksr : Request) (last : Response) (pol : RequestPolicy)
    (he : last.bundles = [] ∨ ksr.bundles = []) :
    (pol.checkChainKeys = true → checkChainKeys ksr last pol = err .index) ∧
    (pol.checkChainOverlap = true → checkChainOverlap ksr last pol = err .index) := by
  refine ⟨?_, ?_⟩ <;> intro h
  · unfold checkChainKeys
    rcases he with he | he
    · simp [h, he]
    · cases hl : last.bundles.getLast? <;> simp [h, he]
  · unfold checkChainOverlap
    rcases he with he | he
    · simp [h, he]
    · cases hl : last.bundles.getLast? <;> simp [h, he]

/-- overlap boundaries are inclusive: exactly the declared minimum and exactly the declared maximum
    are accepted (when min ≤ max) -/
theorem overlap_boundaries_inclusive (ksr : Request) (last : Response) (pol : RequestPolicy)
    (first prev : Bundle) (hf : ksr.bundles.head? = some first) (hl : last.bundles.getLast? = some prev)
    (hmm : ksr.zskPolicy.minValidityOverlap ≤ ksr.zskPolicy.maxValidityOverlap)
    (hng : first.inception ≤ prev.expiration)
    (hb : prev.expiration - first.inception = ksr.zskPolicy.minValidityOverlap ∨
          prev.expiration - first.inception = ksr.zskPolicy.maxValidityOverlap) :
    checkChainOverlap ksr last pol = .ok () := by
  rw [chain_overlap_iff ksr last pol first prev hf hl]
  intro _; unfold ChainOverlapClause; omega

/-! ## The previous SKR must be self-consistent (`validate_response`, run by `load_skr`) -/

theorem checkValidSignatures_ok_iff (verify : Verifier) (b : Bundle) (pol : ResponsePolicy) :
    checkValidSignatures verify b pol = .ok () ↔
      (pol.validateSignatures = false ∨ validateSignatures verify b = .ok ()) := by
  unfold checkValidSignatures
  rcases validateSignatures verify b with (_ | (_ | _) | _) | ⟨⟨⟩⟩ <;> cases pol.validateSignatures <;> simp only [res_ok] <;> simp

theorem validateResponse_ok_iff_perBundle (verify : Verifier) (r : Response) (pol : ResponsePolicy) :
    validateResponse verify r pol = .ok () ↔
      (r.bundles.length : Int) = pol.numBundles ∧ ∀ b ∈ r.bundles, checkValidSignatures verify b pol = .ok () := by
  unfold validateResponse
  simp only [res_ok]
  simp

/-- **`validate_response` accepts iff** the bundle count is the configured one and, under the
    `validate_signatures` flag, `validate_signatures` accepts every bundle. -/
theorem validateResponse_ok_iff (verify : Verifier) (resp : Response) (pol : ResponsePolicy) :
    validateResponse verify resp pol = .ok () ↔
      (resp.bundles.length : Int) = pol.numBundles ∧
      (pol.validateSignatures = true → ∀ b ∈ resp.bundles, validateSignatures verify b = .ok ()) := by
  simp only [validateResponse_ok_iff_perBundle, checkValidSignatures_ok_iff]
  cases pol.validateSignatures <;> simp

/-- … and in full: every bundle has keys and signatures, no repeated key identifier, and the
    verifier answered `valid` for every signature over the bundle's whole key set. -/
theorem validateResponse_ok_verifies (verify : Verifier) (resp : Response) (pol : ResponsePolicy)
    (hflag : pol.validateSignatures = true) :
    validateResponse verify resp pol = .ok () ↔
      (resp.bundles.length : Int) = pol.numBundles ∧
      ∀ b ∈ resp.bundles, b.keys ≠ [] ∧ b.signatures ≠ [] ∧ hasDupIds b.keys = false ∧
        ∀ sig ∈ b.signatures, VerifierSays verify b sig .valid := by
  rw [validateResponse_ok_iff]
  simp only [hflag, forall_const, validateSignatures_says_iff]

/-- **Forged previous SKR, wrong bundle count:** refused with the bare policy violation, whatever
    the flag and the signatures. -/
theorem forged_prev_refused_count (verify : Verifier) (resp : Response) (pol : ResponsePolicy)
    (h : (resp.bundles.length : Int) ≠ pol.numBundles) :
    validateResponse verify resp pol = violation .skrPolicy := by
  unfold validateResponse
  simp [h, violation, bind, Except.bind]

/-- **Forged previous SKR, a signature that does not verify:** with the right count and the flag on,
    if the bundles before `b` validate, and in `b` (which has keys with distinct identifiers) the
    signatures before `sig` verify while the verifier calls `sig` `invalid`, the outcome is exactly
    the invalid-signature violation. -/
theorem forged_prev_refused (verify : Verifier) (resp : Response) (pol : ResponsePolicy)
    (pre post : List Bundle) (b : Bundle) (spre spost : List Signature) (sig : Signature)
    (hcount : (resp.bundles.length : Int) = pol.numBundles) (hflag : pol.validateSignatures = true)
    (hb : resp.bundles = pre ++ b :: post) (hpre : ∀ p ∈ pre, validateSignatures verify p = .ok ())
    (hkeys : b.keys ≠ []) (hdup : hasDupIds b.keys = false)
    (hs : b.signatures = spre ++ sig :: spost)
    (hspre : ∀ s ∈ spre, VerifierSays verify b s .valid)
    (hinv : VerifierSays verify b sig .invalid) :
    validateResponse verify resp pol = violation .skrInvalidSignature := by
  have hbv := validateSignatures_first_invalid verify b spre spost sig hkeys hdup hs hspre hinv
  have hc : ((resp.bundles.length : Int) != pol.numBundles) = false := by simp [hcount]
  unfold validateResponse
  simp only [hc, Bool.false_eq_true, ↓reduceIte]
  rw [hb]
  refine forEach_error_iff.mpr ⟨pre, b, post, rfl, fun p hp => ?_, ?_⟩
  · simp [checkValidSignatures, hflag, hpre p hp]
  · simp [checkValidSignatures, hflag, hbv, err, violation]

/-- any bundle that `validate_signatures` does not accept makes the whole previous SKR unacceptable
    (under the flag): nothing later can compensate -/
theorem forged_prev_never_accepted (verify : Verifier) (resp : Response) (pol : ResponsePolicy)
    (hflag : pol.validateSignatures = true) (b : Bundle) (hb : b ∈ resp.bundles)
    (hbad : validateSignatures verify b ≠ .ok ()) :
    validateResponse verify resp pol ≠ .ok () := by
  rw [Ne, validateResponse_ok_iff]
  rintro ⟨_, h⟩
  exact hbad (h hflag b hb)

/-- `load_skr` turns any policy violation of `validate_response` into a `RuntimeError`: it returns a
    response only if `validate_response` accepted it -/
theorem loadSkrGate_ok_iff (verify : Verifier) (resp : Response) (pol : ResponsePolicy) :
    loadSkrGate verify resp pol = .ok () ↔ validateResponse verify resp pol = .ok () := by
  unfold loadSkrGate
  split
  · rename_i h; simp [h, err]
  · rfl

/-- a previous SKR accepted under the flag has pairwise distinct key identifiers in every bundle, so
    the side condition of `C08_iff` holds for SKRs that came through `load_skr` -/
theorem validated_ids_determine_pk (verify : Verifier) (resp : Response) (pol : ResponsePolicy)
    (hflag : pol.validateSignatures = true) (hok : validateResponse verify resp pol = .ok ())
    (prev : Bundle) (hl : resp.bundles.getLast? = some prev) : IdsDeterminePk prev := by
  have hmem : prev ∈ resp.bundles := List.mem_of_getLast? hl
  have hd := (((validateResponse_ok_verifies verify resp pol hflag).mp hok).2 prev hmem).2.2.1
  intro k₁ h₁ k₂ h₂ hid
  rw [eq_of_same_id ((hasDupIds_eq_false_iff _).mp hd) h₁ h₂ hid]

/-- A KSR that honestly continues the previous SKR: fresh request and bundle ids; every key of its
    first bundle carried over from the previous last bundle; the overlap it leaves within the window
    it declares; and — if a token is attached — the previous last bundle signed (at least once) only
    by keys the token holds with identical public key, identifiers being unambiguous there. -/
structure HonestSuccessor (last : Response) (ksr : Request) (tok : Option TokenLookup)
    (first prev : Bundle) : Prop where
  first_is : ksr.bundles.head? = some first
  prev_is : last.bundles.getLast? = some prev
  freshId : ksr.id ≠ last.id
  freshBundleIds : ∀ kb ∈ ksr.bundles, ∀ sb ∈ last.bundles, kb.id ≠ sb.id
  keysCarried : ∀ k ∈ first.keys, k ∈ prev.keys
  /-- an honest successor continues the timeline: it leaves no gap … -/
  noGap : first.inception ≤ prev.expiration
  /-- … and overlaps by an amount inside the window it declares -/
  overlapDeclared : ksr.zskPolicy.minValidityOverlap ≤ prev.expiration - first.inception ∧
    prev.expiration - first.inception ≤ ksr.zskPolicy.maxValidityOverlap
  signersOnToken : ∀ lookup, tok = some lookup →
    IdsDeterminePk prev ∧ prev.signatures ≠ [] ∧ ∀ sig ∈ prev.signatures, SignerOnToken lookup prev sig

/-- **An honest successor is accepted under every flag assignment.** -/
theorem honest_successor_accepted (ksr : Request) (last : Response) (pol : RequestPolicy)
    (tok : Option TokenLookup) (first prev : Bundle) (h : HonestSuccessor last ksr tok first prev) :
    checkSkrAndKsr ksr last pol tok = .ok () := by
  apply (C08_iff ksr last pol tok first prev h.first_is h.prev_is ?_).mpr
  · exact ⟨h.freshId, h.freshBundleIds, fun _ => h.keysCarried, fun _ => ⟨h.noGap, h.overlapDeclared⟩,
      fun lookup ht _ => (h.signersOnToken lookup ht).2⟩
  · intro hs
    cases tok with
    | none => simp at hs
    | some lookup => exact (h.signersOnToken lookup rfl).1

/-! ## Gaps (DESIGN §5 F10)

  The chain-overlap rule has a gap test of its own, the same explicit test as the intra-KSR rule, and
  does not rely on the KSR's *declared* minimum, which may be negative (`P0D-86400` parses to −1 day):
  the no-gap statement needs no hypothesis on the declared window. -/

theorem chain_no_gap (ksr : Request) (last : Response) (pol : RequestPolicy)
    (tok : Option TokenLookup) (first prev : Bundle)
    (hf : ksr.bundles.head? = some first) (hl : last.bundles.getLast? = some prev)
    (hok : checkSkrAndKsr ksr last pol tok = .ok ()) (hflag : pol.checkChainOverlap = true) :
    first.inception ≤ prev.expiration := by
  have := (C08_sound ksr last pol tok first prev hf hl hok).2.2.2.1 hflag
  exact this.1

/-- previous last bundle expires at day 21, the KSR's first bundle starts half a day later, the KSR
    declares a minimum overlap of −1 day: refused by the gap test, not by the declared window -/
def gapLast : Response :=
  { id := "skr0", serial := 1, domain := ".", zskPolicy := {}, kskPolicy := {},
    bundles := [{ id := "a1", inception := 0, expiration := 21 * usPerDay, keys := [], signatures := [] }] }
def gapKsr : Request :=
  { id := "ksr1", serial := 2, domain := ".",
    zskPolicy := { minValidityOverlap := -usPerDay, maxValidityOverlap := 12 * usPerDay },
    bundles := [{ id := "b1", inception := 21 * usPerDay + usPerDay / 2, expiration := 43 * usPerDay,
                  keys := [], signatures := [] }] }

theorem gap_witness_refused :
    checkSkrAndKsr gapKsr gapLast {} none = violation .chainOverlap := by decide +kernel

/-! ## Non-vacuity: a quarter-to-quarter hand-over shaped like the archived pairs
    (previous last bundle: ZSKs `Z1`,`Z2` and KSK `K`, signed by `K`, expiring day 101; the KSR's
    first bundle: `Z1`,`Z2`, starting day 90 — 11 days of overlap, declared window 9–12 days; the
    token holds `K` with the published key text). -/

def exKey (id : String) (flags : Int) (pk : String) : Key :=
  { keyIdentifier := id, keyTag := 1, ttl := 172800, flags, protocol := 3, algorithm := 8, publicKey := pk }
def exSig (id : String) : Signature :=
  { keyIdentifier := id, ttl := 172800, algorithm := 8, labels := 0, originalTtl := 172800,
    expiration := 0, inception := 0, keyTag := 1, signersName := ".", signatureData := "AA==" }
def exPrev : Bundle :=
  { id := "q1-9", inception := 80 * usPerDay, expiration := 101 * usPerDay,
    keys := [exKey "Z1" 256 "AQAB", exKey "Z2" 256 "AQAC", exKey "K" 257 "AQAD"], signatures := [exSig "K"] }
def exLast : Response :=
  { id := "q1", serial := 1, domain := ".", zskPolicy := {}, kskPolicy := {},
    bundles := [{ exPrev with id := "q1-8", inception := 70 * usPerDay, expiration := 91 * usPerDay }, exPrev] }
def exFirst : Bundle :=
  { id := "q2-1", inception := 90 * usPerDay, expiration := 111 * usPerDay,
    keys := [exKey "Z1" 256 "AQAB", exKey "Z2" 256 "AQAC"], signatures := [] }
def exKsr : Request :=
  { id := "q2", serial := 2, domain := ".",
    zskPolicy := { minValidityOverlap := 9 * usPerDay, maxValidityOverlap := 12 * usPerDay },
    bundles := [exFirst, { exFirst with id := "q2-2", inception := 100 * usPerDay, expiration := 121 * usPerDay }] }
def exToken : TokenLookup := fun label => if label = "K" then pure (some (some "AQAD")) else pure none

theorem exKsr_accepted : checkSkrAndKsr exKsr exLast {} (some exToken) = .ok () := by decide +kernel

example : checkSkrAndKsr exKsr exLast {} (some exToken) = .ok () := exKsr_accepted
/-- the same KSR is refused when the token holds another key under the label `K` -/
example : checkSkrAndKsr exKsr exLast {}
    (some fun label => if label = "K" then pure (some (some "AQAE")) else pure none)
    = violation .chainKeys := by decide +kernel
/-- hence (by `C08_sound`) the example lies in the documented region with all flags on -/
example : ChainRegion exKsr exLast {} (some exToken) exFirst exPrev :=
  C08_sound exKsr exLast {} (some exToken) exFirst exPrev rfl rfl exKsr_accepted

end Kskm.C08
