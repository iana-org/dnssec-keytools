/-
  C11 — an emitted SKR reads back identically, fits the schema; no truncation loads.

  Model: `Kskm.Duration` / `Kskm.Time` (the two codecs, reader and writer side), `Kskm.SkrXml`
  (`skr_to_xml` as text, `_indent` exactly), `Kskm.Xml` / `Kskm.XmlGlue` (the repository's reader and
  its dict → data-class glue).  Helper lemmas: KskmProofs/Lemmas/C11*.lean; for the composition with
  C12's reader theorem (section "Round trip"): KskmProofs/Lemmas/Skr{Layout,Ink,Plain,Tree,Glue,GlueDoc,
  ReadBack}.lean.
-/
import KskmProofs.Lemmas.C11Duration
import KskmProofs.Lemmas.C11Datetime
import KskmProofs.Lemmas.C11Extract
import KskmProofs.Lemmas.SkrReadBack
import KskmProofs.Lemmas.C11Week
namespace Kskm.C11

/-! ## Durations -/

/-- Every whole-second, non-negative duration that a `timedelta` can hold (|days| ≤ 999 999 999)
    is read back exactly from the text the writer prints for it. -/
theorem duration_roundtrip (d : Int) (h0 : 0 ≤ d) (hs : d % 1000000 = 0) (hmax : d / usPerDay ≤ 999999999) :
    parseDuration (formatDuration d) = .ok d := by
  simp only [parseDuration, formatDuration, String.toList_ofList]
  exact duration_roundtrip_chars d h0 hs hmax

/-- What is lost outside that domain (both replayed on the implementation by harness/corr_C11.py):
    the microseconds field is not written — a sub-second duration prints as "P" and reads back as 0,
    1.000001 s reads back as 1 s; a negative duration prints with a signed day count ("P-1DT23H59M59S"),
    which the reader refuses. -/
theorem duration_fraction_lost :
    formatDuration 500000 = "P" ∧ parseDuration (formatDuration 500000) = .ok 0 ∧
    parseDuration (formatDuration 1000001) = .ok 1000000 := by decide

theorem duration_negative_not_read :
    formatDuration (-1000000) = "P-1DT23H59M59S" ∧ parseDuration (formatDuration (-1000000)) = .error (.error .value) := by
  decide

/-- the strict `>` comparisons of the writer: exactly one hour prints as sixty minutes, exactly one
    minute as sixty seconds — and both read back exactly (instances of `duration_roundtrip`) -/
example : formatDuration 3600000000 = "PT60M" ∧ formatDuration 60000000 = "PT60S" ∧
    formatDuration 3601000000 = "PT1H1S" ∧ formatDuration 86400000000 = "P1D" := by decide

/-- the reader's quirks that the round trip does not exercise, pinned: an integer tail is seconds -/
example : parseDuration "P1D5" = .ok 86405000000 ∧ parseDuration "P0D-86400" = .ok (-86400000000) ∧
    parseDuration "P1M" = .error (.error .notImplemented) ∧ parseDuration "PT1M" = .ok 60000000 := by
  simp only [parseDuration]; chars; decide +kernel

/-- the reader's loop never runs out of fuel (its termination argument) -/
theorem parseDuration_total (s : List Char) (ts : Bool) (acc : Int) (extra : Nat) :
    parseDurationLoop (s.length + extra) s ts acc = parseDurationLoop s.length s ts acc :=
  parseDurationLoop_eq_durLoop (Nat.le_add_right _ _) ts acc

/-! ## Calendar and timestamps -/

/-- day number ↔ civil date: both directions, for every day number and every real calendar date -/
theorem civil_roundtrip :
    (∀ z : Int, daysOfCivil (civilOfDays z) = z ∧ (civilOfDays z).valid = true) ∧
    (∀ c : Civil, c.valid = true → civilOfDays (daysOfCivil c) = c) :=
  ⟨fun z => ⟨daysOfCivil_civilOfDays z, civilOfDays_valid z⟩, civilOfDays_daysOfCivil⟩

/-- Every whole-second instant of the years 1000 … 9999 is read back exactly from the text the writer
    prints for it. -/
theorem datetime_roundtrip (t : Int) (hs : t % 1000000 = 0) (hy1 : 1000 ≤ yearOf t) (hy2 : yearOf t ≤ 9999) :
    parseDatetime (formatDatetime t) = .ok t := by
  simp only [parseDatetime, formatDatetime, String.toList_ofList]
  exact datetime_roundtrip_chars t hs hy1 hy2

example : yearOf 1500000000000000 = 2017 ∧ formatDatetime 1500000000000000 = "2017-07-14T02:40:00+00:00" := by
  decide

/-- F7: below year 1000 glibc's `%Y` is not zero-padded and `fromisoformat` refuses the text:
    999-12-31T23:59:59Z is a concrete instant that does not round-trip. -/
theorem datetime_year_below_1000_counterexample :
    yearOf (-30610224001000000) = 999 ∧
    formatDatetime (-30610224001000000) = "999-12-31T23:59:59+00:00" ∧
    parseDatetime (formatDatetime (-30610224001000000)) = .error (.error .value) := by decide

/-- microseconds are dropped by the writer -/
example : parseDatetime (formatDatetime 1500000000999999) = .ok 1500000000000000 := by
  simp only [parseDatetime, formatDatetime, String.toList_ofList]
  exact datetime_reads_whole_second 1500000000999999 (by decide +kernel) (by decide +kernel)


/-! ## `_indent` -/

/-- `_indent` of a text given by its (single-line) lines: the EMPTY lines are dropped — a
    whitespace-only line is a line like any other —, every remaining line gets four blanks, and the
    result is `lstrip()`ped. -/
theorem indent_lines_spec (ls : List (List Char)) (h : ∀ l ∈ ls, '\n' ∉ l) :
    indent (joinNl ls) = lstrip (joinNl ((ls.filter (fun l => !l.isEmpty)).map (fun l => sp4 ++ l))) :=
  indent_joinNl ls h

/-- a whitespace-only line survives `_indent` (it is only "not empty" that counts) -/
example : indent "<a>\n  \n\n<b/>".toList = "<a>\n      \n    <b/>".toList := by chars; decide +kernel

/-- The layout lemma behind the writer: `_indent` of a concatenation of element templates, put back
    behind the four blanks of the enclosing template line, is the elements' lines indented by four
    blanks each, joined by newlines — multi-line FIELD TEXT would be re-indented too, which is why the
    domain asks for single-line text (F6). -/
theorem indent_templates {α} (f : α → XTree) (l : List α) (hne : l ≠ []) (hs : ∀ x ∈ l, (f x).safe) :
    sp4 ++ indent ((l.map (fun x => block (renderLines (f x)))).flatten)
      = joinNl ((renderLinesList (l.map f)).map ind) :=
  indent_elements f l hne hs

/-- F6 as a fact about `_indent`: a two-line text does not come back unchanged -/
example : indent "AAAA\nBBBB".toList = "AAAA\n    BBBB".toList := by chars; decide +kernel

/-! ## The writer -/

/-- On the writer's domain `skr_to_xml` succeeds and its text is the rendering of the element tree
    `treeOf r` (XML declaration, one line per tag / leaf element, four blanks per nesting level, final
    newline). -/
theorem skrToXml_is_render (r : Response) (h : WriterDomain r) :
    skrToXml r = .ok (String.ofList (renderDoc (treeOf r))) := by
  rw [skrToXml, skrToXmlChars_of_domain r h]; rfl

/-- outside the domain the writer refuses what output.py refuses -/
theorem skrToXml_refusals (r : Response) :
    (r.timestamp.isSome = true → skrToXml r = .error (.error .notImplemented)) ∧
    (∀ a : AlgPolicy, a.kind ≠ .rsa → algXml a = .error (.error .notImplemented)) := by
  refine ⟨fun h => ?_, fun a ha => ?_⟩
  rotate_left
  · unfold algXml
    cases hk : a.kind <;> first | exact absurd hk ha | (cases a.exponent <;> rfl)
  simp [skrToXml, skrToXmlChars, h, bind, Except.bind, err]

/-- what the three text-level theorems share -/
theorem text_end (r : Response) (h : WriterDomain r) (text : List Char) (ht : skrToXml r = .ok (String.ofList text)) :
    ∃ body, text = body ++ "</KSR>".toList ++ ['\n'] ∧ Xml.Skip "</KSR>".toList body := by
  rw [skrToXml_is_render r h] at ht
  rw [← String.ofList_injective (Except.ok.inj ht), endPat_chars]
  exact ReadBack.renderDoc_end r (ReadBack.textSafe_of_domain r h)

/-- the text ends with the closing tag of the root element and the final newline -/
theorem skrToXml_ends_with (r : Response) (h : WriterDomain r) :
    ∃ body, skrToXml r = .ok (String.ofList (body ++ "</KSR>\n".toList)) := by
  obtain ⟨body, e, -⟩ := text_end r h _ (skrToXml_is_render r h)
  exact ⟨body, by rw [skrToXml_is_render r h, e, List.append_assoc]; rfl⟩

/-- `</KSR>` occurs exactly once in the text: wherever it occurs, only the final newline follows -/
theorem skrToXml_end_tag_once (r : Response) (h : WriterDomain r) (text pre post : List Char)
    (ht : skrToXml r = .ok (String.ofList text)) (hocc : text = pre ++ "</KSR>".toList ++ post) :
    post = ['\n'] := by
  obtain ⟨body, rfl, hs⟩ := text_end r h text ht
  -- the occurrence does not begin before `body` ends; the text ends with a line break, the end tag does not
  have h1 := hs.first_occ (by decide) (tail := "</KSR>".toList ++ ['\n']) (by simpa only [List.append_assoc] using hocc)
  have h2 := congrArg List.length hocc
  simp only [List.length_append, List.length_singleton] at h2
  match post, hocc, h2 with
  | [], hocc, _ => exact absurd (congrArg List.getLast? hocc) (by simp)
  | [c], hocc, h2 =>
    have := List.append_inj' hocc (by simp)
    simpa using this.2.symm
  | _ :: _ :: _, _, h2 => simp only [List.length_cons] at h2; omega

/-- **C11, truncation clause, text level.**  Every proper prefix of an emitted file other than
    "everything but the final newline" does not contain the closing tag `</KSR>` of the root element. -/
theorem C11_prefix (r : Response) (h : WriterDomain r) (text p : List Char)
    (ht : skrToXml r = .ok (String.ofList text))
    (hp : p <+: text) (hne : p ≠ text) (hne2 : p ≠ text.dropLast) :
    ¬ "</KSR>".toList <:+: p := by
  obtain ⟨body, rfl, hs⟩ := text_end r h text ht
  intro hocc
  -- p reaches to the end of the end tag, so only the final newline can be missing
  have h1 := Xml.prefix_reaches_pat (by decide) hs hp hocc
  rw [List.dropLast_concat] at hne2
  have hlen := h1.length_le
  have hlen2 := hp.length_le
  simp only [List.length_append, List.length_singleton] at hlen hlen2
  rcases Nat.lt_or_ge p.length (body.length + "</KSR>".toList.length + 1) with hl | hl
  · exact hne2 (h1.eq_of_length (by simp only [List.length_append]; omega)).symm
  · exact hne (hp.eq_of_length (by simp only [List.length_append, List.length_singleton]; omega))

/-- The repository's reader (the model of `_find_end_of_element`, Kskm/Xml.lean) raises when the end tag of
    the element it is reading does not occur in the text — the reader-side half of the truncation
    clause, here for the root element and a prefix as in `C11_prefix`. -/
theorem C11_prefix_reader_raises (r : Response) (h : WriterDomain r) (text p : List Char)
    (ht : skrToXml r = .ok (String.ofList text))
    (hp : p <+: text) (hne : p ≠ text) (hne2 : p ≠ text.dropLast) (start : Nat) (sub : List Char)
    (hsub : sub <:+: p) :
    Kskm.Xml.findEndOfElement sub start "KSR".toList = none := by
  apply Kskm.Xml.findEndOfElement_none
  intro hocc
  rw [ReadBack.endTag_KSR, ← endPat_chars] at hocc
  exact C11_prefix r h text p ht hp hne hne2 (List.IsInfix.trans hocc hsub)

/-- The truncation clause for ANY reader that insists on the root's closing tag and ignores a missing
    final newline: every proper prefix fails to load or loads to the identical response.  The two
    hypotheses are what the reader theorems (C12 / C13) have to supply for `responseFromXml`;
    the first is `C11_prefix_reader_raises` above once the reader is known to look for `</KSR>`
    in a slice of its input. -/
theorem C11_prefix_any_reader (read : List Char → Res Response)
    (insists : ∀ s, ¬ "</KSR>".toList <:+: s → ∀ x, read s ≠ .ok x)
    (r : Response) (h : WriterDomain r) (text : List Char) (ht : skrToXml r = .ok (String.ofList text))
    (newline : read text.dropLast = read text) (p : List Char) (hp : p <+: text) (hne : p ≠ text) :
    (∀ x, read p ≠ .ok x) ∨ read p = read text := by
  by_cases h2 : p = text.dropLast
  · right; rw [h2, newline]
  · left; exact insists p (C11_prefix r h text p ht hp hne h2)

/-! ## Schema -/

/-- **C11, schema clause.**  The tree the writer renders conforms to the Response side of
    schema/ksr.rnc (`Rnc.start`: element names, order, cardinalities, attribute sets, the integer
    datatypes with their facets), for every interpretation of `xsd:dateTime` / `xsd:duration` /
    `xsd:base64Binary` that accepts what the writer's two codecs print and canonical base64. -/
theorem C11_schema (dt : Rnc.Datatypes) (acc : Rnc.Accepts dt) (r : Response) (h : WriterDomain r) :
    Rnc.start dt (treeOf r) :=
  Rnc.treeOf_conforms dt acc r h

/-! ## Round trip -/

/-
  THE STATEMENT (DESIGN §4-C11), proved below as `C11_roundtrip`:

      for every response r of the writer's domain, `skr_to_xml(r)` succeeds and the repository's
      reader applied to that text — `response_from_xml`: the hand-written tag matcher,
      `_find_end_of_element`, `_store_element`, the dict → data-class glue — returns r.

  It is the composition of
    (1) `skrToXml_is_render`:  the text is `renderDoc (treeOf r)`;
    (2) `C11_text_is_plain_xml`:  that text is, character for character,
          XML declaration ++ "\n" ++ `Xml.renderT t'` ++ "\n"
        for a PlainXml tree t' = `toP [] (treeOf r)` whose layout is the writer's (no blank inside a
        start tag, one blank before each attribute, explicit end tags, `<RSA …/>` for the empty element,
        "\n" + four blanks per level between elements) and whose nesting depth is 5 — the domain of
        C12's reader theorem;
    (3) `C12.C12_reader_ksr`:  hence `parse_ksr` returns `dictOf t'` (`C11_reader_on_writer`);
    (4) the glue on that dict, element by element, with C12's repetition theorems for Key / Signature /
        SignatureAlgorithm / ResponseBundle (one occurrence is stored as the value, several as a list).

  HYPOTHESES, and why each is there:
    * `WriterDomain r` — as in the clauses above (no timestamp, RSA policies, whole-second durations, years
      1000…9999, …).  Its conditions on STRINGS are exactly `ReadBack.TextSafe r`
      (`C11_textSafe`): attribute values (KSR id, domain, bundle ids, key identifiers) not empty
      and free of `"` `<` `>` `&` and control characters; element text (signer's name, the two base64
      texts) free of those and `strip()`-stable.  (2) and (3) need nothing else of r.  Everything
      the signer prints itself is safe for EVERY value (`C11_own_output_is_safe`: decimal integers,
      timestamps, durations, base64); only the copied strings remain a genuine hypothesis
      (`ReadBack.textSafe_of_ids`).  The excluded points are genuine: F6 (a line break in element text is
      re-indented by the writer), and the reader does not decode entities.
    * `Constructible r` — the invariants pydantic enforces on every `Key` / `Signature` OBJECT: the
      algorithm number is a member of `AlgorithmDNSSEC`, `Key.validate` accepts (flags ∈ {256, 257, 385};
      ECDSA key length).  The model's `Response` is wider than Python's (a `Nat` for the enum), and the
      reader builds the objects anew, re-running the validators; a Python `Response` always satisfies it.
    * `KskmGen.wrapsSingleResponseBundle = true ∨ 2 ≤ r.bundles.length` — finding F12: on the pinned tree a
      one-bundle SKR does not load (`C11_roundtrip_one_bundle_pinned` proves that side, for the writer's
      own text); the switch is tabulated from the code and `C11_roundtrip_current_tree` is the statement
      at the tabulated value.
  WHAT COMES BACK: `normalise r` — the same response with `set` fields as the reader builds them
  (duplicate-free, keys in the writer's key-tag order) — which is the same Python object as r
  (`ReadBack.SameResponse`: equal field by field, set fields equal as sets), and IDENTICAL to r, as a
  list-carrying record, when r is already in that representation (`ReadBack.Canonical`).  Bundles: the
  reader sorts them by (expiration, inception, id); `WriterDomain` includes `bundlesSorted`, so the order
  is unchanged, for either value of `sortsResponseBundles`.
  `C11_roundtrip_partial` is the reader-free part: (1), and the tree read by the model's own extractor.
-/

/-- **C11, round trip — the part that does not need the reader's tag matcher.** -/
theorem C11_roundtrip_partial (r : Response) (h : WriterDomain r) :
    skrToXml r = .ok (String.ofList (renderDoc (treeOf r))) ∧
    extractResponse (treeOf r) = .ok (canonical r) ∧
    (canonical r).bundles.length = r.bundles.length ∧
    (∀ (i : Nat) (b b' : Bundle), r.bundles[i]? = some b → (canonical r).bundles[i]? = some b' →
      b'.keys.Perm b.keys ∧ b'.id = b.id ∧ b'.inception = b.inception ∧ b'.expiration = b.expiration ∧
        b'.signatures = b.signatures) ∧
    (canonical r).id = r.id ∧ (canonical r).serial = r.serial ∧ (canonical r).domain = r.domain ∧
    (canonical r).kskPolicy = r.kskPolicy ∧ (canonical r).zskPolicy = r.zskPolicy := by
  refine ⟨skrToXml_is_render r h, extract_treeOf r h, by simp [canonical], ?_, rfl, rfl, rfl, rfl, rfl⟩
  intro i b b' hb hb'
  simp only [canonical, List.getElem?_map, hb, Option.map_some, Option.some.injEq] at hb'
  subst hb'
  exact ⟨List.mergeSort_perm _ _, rfl, rfl, rfl, rfl⟩

/-- a single field round trip: `int(str(i)) = i` -/
theorem int_roundtrip (i : Int) (h0 : 0 ≤ i) (hp : printable i = true) : pyInt (pyIntStr i) = .ok (some i) :=
  pyInt_pyIntStr i h0 hp

/-- one key element / one signature element / one policy block read back exactly -/
theorem element_roundtrips :
    (∀ k, keyOk k = true → extractKey (keyTree k) = .ok k) ∧
    (∀ s, sigOk s = true → extractSig (sigTree s) = .ok s) ∧
    (∀ name p, policyOk p = true → extractPolicy (policyTree name p) = .ok p) :=
  ⟨extractKey_keyTree, extractSig_sigTree, extractPolicy_policyTree⟩

/-! ## Round trip through the repository's reader -/

section RoundTrip
open Kskm.ReadBack

/-- the invariants pydantic enforces on the `Key` and `Signature` objects of a response -/
def Constructible (r : Response) : Prop := constructible r = true

instance (r : Response) : Decidable (Constructible r) := by unfold Constructible; infer_instance

/-- what the repository's reader (current tree) makes of a response -/
def normalise (r : Response) : Response := readBackWith Xml.pyGlueSwitches r

/-- the string conditions inside `WriterDomain` are exactly `TextSafe` -/
theorem C11_textSafe (r : Response) (h : WriterDomain r) : TextSafe r := textSafe_of_domain r h

/-- **What the signer prints itself is safe, for every value**: decimal integers, timestamps, durations
    and base64 text consist of visible, markup-free characters only (`Ink`), hence satisfy the domain's
    condition on element text — no hypothesis on the numbers, instants, durations or octets. -/
theorem C11_own_output_is_safe :
    (∀ i : Int, Ink (pyIntStr i)) ∧ (∀ n : Nat, Ink (natStr n)) ∧
    (∀ t : Int, Ink (formatDatetime t).toList) ∧ (∀ d : Int, Ink (formatDuration d).toList) ∧
    (∀ b : Bytes, Ink (Base64.encode b).toList) ∧
    (∀ s : String, (Base64.decode s).isSome = true → Ink s.toList) ∧
    (∀ s : String, Ink s.toList → elemTextOk s = true) :=
  ⟨ink_pyIntStr, ink_natStr, ink_formatDatetime, ink_formatDuration, ink_encode, ink_of_base64, elemTextOk_of_ink⟩

/-- **(2) of the composition: the writer's text is a PlainXml rendering** in the domain of C12's
    reader theorem — needs `TextSafe r` only. -/
theorem C11_text_is_plain_xml (r : Response) (h : TextSafe r) :
    renderDoc (treeOf r) = (xmlDecl ++ ['\n']) ++ Xml.renderT (toP [] (treeOf r)) ++ ['\n'] ∧
    Xml.PlainT Xml.pyClasses (toP [] (treeOf r)) ∧ Xml.heightT (toP [] (treeOf r)) ≤ 5 ∧
    Xml.Ws Xml.pyClasses ['\n'] :=
  ⟨renderDoc_eq_renderT _, plainT_toP _ _ Blank.nil (treeOf_plain r h),
    Nat.le_trans (heightT_toP _ _) (heightX_treeOf r),
    by intro c hc; simp only [List.mem_singleton] at hc; subst hc; exact strip_blank.2⟩

/-- **(3): the repository's reader on the writer's text** returns the dict of the standard reading of
    that text (`C12.C12_reader_ksr` at the writer's layout), for either behaviour of the attribute loop. -/
theorem C11_reader_on_writer (sw : Xml.Switches) (r : Response) (h : WriterDomain r) :
    ∃ text, skrToXml r = .ok text ∧
      Xml.parseKsr Xml.pyClasses sw text.toList = .ok (Xml.dictOf (toP [] (treeOf r))) := by
  refine ⟨_, skrToXml_is_render r h, ?_⟩
  rw [String.toList_ofList]
  exact parseKsr_renderDoc sw r (textSafe_of_domain r h)

/-- **C11, round trip, for every value of the behaviour switches** (attribute loop; glue). -/
theorem C11_roundtrip_switches (sw : Xml.Switches) (gs : Xml.GlueSwitches) (r : Response) (h : WriterDomain r)
    (hc : Constructible r) (hsw : gs.wrapsSingleResponseBundle = true ∨ 2 ≤ r.bundles.length) :
    ∃ text, skrToXml r = .ok text ∧
      Xml.responseFromXmlL Xml.pyClasses sw gs text.toList = .done (.ok (readBackWith gs r)) ∧
      SameResponse (readBackWith gs r) r ∧ (Canonical r → readBackWith gs r = r) := by
  refine ⟨_, skrToXml_is_render r h, ?_, readBack_same gs r h, readBack_eq_self gs r h⟩
  rw [String.toList_ofList]
  exact responseFromXmlL_renderDoc sw gs r h hc hsw

/-- **C11, round trip.**  Every response of the writer's domain, written by `skr_to_xml` and read back
    by the repository's `response_from_xml`, yields the same response: `normalise r`, which is r up to
    the list representation of its `set` fields, and r itself when r is in canonical representation. -/
theorem C11_roundtrip (r : Response) (h : WriterDomain r) (hc : Constructible r)
    (hsw : KskmGen.wrapsSingleResponseBundle = true ∨ 2 ≤ r.bundles.length) :
    ∃ text, skrToXml r = .ok text ∧ Xml.responseFromXml text = .ok (normalise r) ∧
      SameResponse (normalise r) r ∧ (Canonical r → normalise r = r) := by
  obtain ⟨text, h1, h2, h3, h4⟩ := C11_roundtrip_switches Xml.pySwitches Xml.pyGlueSwitches r h hc hsw
  refine ⟨text, h1, ?_, h3, h4⟩
  unfold Xml.responseFromXml
  rw [h2]
  rfl

/-- at the tabulated value of the switch one bundle is enough (F12 repaired) -/
theorem C11_roundtrip_current_tree (r : Response) (h : WriterDomain r) (hc : Constructible r) :
    ∃ text, skrToXml r = .ok text ∧ Xml.responseFromXml text = .ok (normalise r) ∧
      SameResponse (normalise r) r ∧ (Canonical r → normalise r = r) :=
  C11_roundtrip r h hc (Or.inl (by decide))

/-- … read back IDENTICALLY when the response is in the reader's representation -/
theorem C11_roundtrip_identical (r : Response) (h : WriterDomain r) (hc : Constructible r) (hcan : Canonical r) :
    ∃ text, skrToXml r = .ok text ∧ Xml.responseFromXml text = .ok r := by
  obtain ⟨text, h1, h2, _, h4⟩ := C11_roundtrip_current_tree r h hc
  exact ⟨text, h1, by rw [h2, h4 hcan]⟩

/-- **F12, the other value of the switch**: with the pinned glue the writer's own text of a ONE-bundle
    response makes `response_from_xml` raise TypeError. -/
theorem C11_roundtrip_one_bundle_pinned (sw : Xml.Switches) (gs : Xml.GlueSwitches)
    (hgs : gs.wrapsSingleResponseBundle = false) (r : Response) (h : WriterDomain r) (b : Bundle)
    (hb : r.bundles = [b]) :
    ∃ text, skrToXml r = .ok text ∧ Xml.responseFromXmlL Xml.pyClasses sw gs text.toList = .done (err .type) := by
  refine ⟨_, skrToXml_is_render r h, ?_⟩
  rw [String.toList_ofList]
  exact responseFromXmlL_renderDoc_pinned sw gs hgs r (textSafe_of_domain r h) b hb

/-- reading is idempotent: what comes back is in the reader's representation of sets -/
theorem normalise_sets (r : Response) (h : WriterDomain r) :
    (normalise r).kskPolicy.algorithms.Nodup ∧ (normalise r).zskPolicy.algorithms.Nodup ∧
    ∀ b ∈ (normalise r).bundles, b.keys.Nodup ∧ b.signatures.Nodup := by
  refine ⟨Xml.nodup_dedup' _, Xml.nodup_dedup' _, ?_⟩
  intro b hb
  have hbs := readBack_bundles Xml.pyGlueSwitches r (domain_parts r h).sorted
  unfold normalise at hb
  rw [hbs] at hb
  obtain ⟨b0, _, rfl⟩ := List.mem_map.mp hb
  exact ⟨Xml.nodup_dedup' _, Xml.nodup_dedup' _⟩

end RoundTrip

/-! ## Non-vacuity: a concrete response of the domain -/

def exKey (id : String) (tag : Int) (flags : Int) : Key :=
  { keyIdentifier := id, keyTag := tag, ttl := 172800, flags := flags, protocol := 3, algorithm := 8,
    publicKey := "AwEAAag=" }

def exSig : Signature :=
  { keyIdentifier := "KSK-1", ttl := 172800, algorithm := 8, labels := 0, originalTtl := 172800,
    expiration := 1516579200000000, inception := 1514764800000000, keyTag := 20326, signersName := ".",
    signatureData := "AAAA" }

def exPolicy : SigPolicy :=
  { publishSafety := 0, retireSafety := 2419200000000, maxSignatureValidity := 1814400000000,
    minSignatureValidity := 1814400000000, maxValidityOverlap := 3600000000, minValidityOverlap := 61000000,
    algorithms := [{ kind := .rsa, bits := 2048, algorithm := 8, exponent := some 65537 }] }

def exBundle (id : String) : Bundle :=
  { id := id, inception := 1514764800000000, expiration := 1516579200000000,
    keys := [exKey "KSK-1" 20326 257, exKey "ZSK-1" 1024 256, exKey "KSK-0" 19164 385], signatures := [exSig] }

def exResponse : Response :=
  { id := "4fe9bb10-6f6b", serial := 7, domain := ".", zskPolicy := exPolicy, kskPolicy := exPolicy,
    bundles := [exBundle "b-1", exBundle "b-2"] }

theorem exResponse_ok : WriterDomain exResponse ∧ ReadBack.TextSafe exResponse ∧ Constructible exResponse := by
  refine ⟨?_, ?_, ?_⟩ <;> decide +kernel

/-- the example is in the domain (a revoked key, three keys out of tag order, boundary durations) -/
example : WriterDomain exResponse := exResponse_ok.1

/-- … its strings are safe, its objects constructible: it meets every hypothesis of `C11_roundtrip` -/
example : ReadBack.TextSafe exResponse ∧ Constructible exResponse := exResponse_ok.2

/-- … so it reads back as the same Python object; its keys stand out of key-tag order, so the list
    representation differs (`normalise` sorts them) -/
example : ∃ text, skrToXml exResponse = .ok text ∧ Xml.responseFromXml text = .ok (normalise exResponse) ∧
    ReadBack.SameResponse (normalise exResponse) exResponse :=
  let ⟨t, h1, h2, h3, _⟩ := C11_roundtrip_current_tree exResponse exResponse_ok.1 exResponse_ok.2.2
  ⟨t, h1, h2, h3⟩

example : ¬ ReadBack.Canonical exResponse := by
  unfold ReadBack.Canonical exResponse exBundle exKey
  decide

/-- the same response with the keys of each bundle in key-tag order, and ONE bundle (F12's shape) -/
def exCanonical : Response :=
  { exResponse with bundles := [{ exBundle "b-1" with keys := [exKey "ZSK-1" 1024 256, exKey "KSK-0" 19164 385,
      exKey "KSK-1" 20326 257] }] }

theorem exCanonical_ok : WriterDomain exCanonical ∧ Constructible exCanonical ∧ ReadBack.Canonical exCanonical := by
  refine ⟨by decide +kernel, by decide +kernel, ?_⟩
  unfold ReadBack.Canonical exCanonical exResponse exBundle exKey exPolicy
  decide

/-- … is read back identically -/
example : ∃ text, skrToXml exCanonical = .ok text ∧ Xml.responseFromXml text = .ok exCanonical :=
  C11_roundtrip_identical exCanonical exCanonical_ok.1 exCanonical_ok.2.1 exCanonical_ok.2.2

/-! ## ISO week dates

  `parse_datetime` is `datetime.fromisoformat`, which since Python 3.11 also reads ISO 8601 week dates.  The model's
  week branch (`Kskm.isoToCivil`, Kskm/TimeWeek.lean + Kskm/Time.lean) is specified here against the standard's
  own definition (week 1 = the week with 4 January; long years) and against `date.isocalendar` (`Kskm.isoCalendar`,
  Kskm/TimeIsoCal.lean), for ALL years — the `datetime` range 1 … 9999 is checked by the caller. -/
section IsoWeek
open Kskm.C11Week

/-- what `isoToCivil` answers: the civil date of a day number produced by `isoWeekDayNumber` -/
theorem isoToCivil_some (y : Int) (w d : Nat) (c : Civil) (h : isoToCivil y w d = some c) :
    ∃ z, isoWeekDayNumber (jan1Of y) (isLeap y) w d = some z ∧ c = civilOfDays z :=
  isoToCivil_eq_some y w d c h

/-- (1) The week-date branch of `fromisoformat` yields a real calendar date or an error, for every year,
    week and day. -/
theorem isoToCivil_valid (y : Int) (w d : Nat) (c : Civil) (h : isoToCivil y w d = some c) : c.valid = true :=
  C11Week.isoToCivil_valid y w d c h

/-- (2) ISO 8601's definition of week 1: `YYYY-W01-1` is a Monday, and its week (that Monday … the Sunday six
    days later) contains 4 January of the year — stated with the civil-date functions of `Kskm.Time`. -/
theorem isoWeek1_contains_jan4 (y : Int) :
    ∃ c, isoToCivil y 1 1 = some c ∧ weekdayOfDays (daysOfCivil c) = 0 ∧
      daysOfCivil c ≤ daysOfCivil { year := y, month := 1, day := 4 } ∧
      daysOfCivil { year := y, month := 1, day := 4 } < daysOfCivil c + 7 := by
  refine ⟨civilOfDays (isoWeek1Monday (jan1Of y)), ?_, ?_⟩
  · simp [isoToCivil, isoWeekDayNumber, jan1Of]
  · rw [daysOfCivil_civilOfDays, jan4_eq]
    exact week1Monday_spec (jan1Of y)

/-- (3) every accepted (week, day) is day `d` of week `w`: `7·(w−1) + (d−1)` days after the Monday of week 1,
    so its weekday is `d` (1 = Monday … 7 = Sunday). -/
theorem isoToCivil_offset (y : Int) (w d : Nat) (c : Civil) (h : isoToCivil y w d = some c) :
    ∃ c1, isoToCivil y 1 1 = some c1 ∧ daysOfCivil c = daysOfCivil c1 + 7 * ((w : Int) - 1) + ((d : Int) - 1) ∧
      weekdayOfDays (daysOfCivil c) = (d : Int) - 1 := by
  obtain ⟨z, hz, rfl⟩ := isoToCivil_some y w d c h
  obtain ⟨c1, h1, -⟩ := isoWeek1_contains_jan4 y
  obtain ⟨z1, hz1, rfl⟩ := isoToCivil_some y 1 1 c1 h1
  refine ⟨_, h1, ?_, ?_⟩
  · rw [daysOfCivil_civilOfDays, daysOfCivil_civilOfDays]
    have a := (isoWeekDayNumber_some _ _ _ _ _ hz).2.2.2.2
    have b := (isoWeekDayNumber_some _ _ _ _ _ hz1).2.2.2.2
    omega
  · rw [daysOfCivil_civilOfDays]
    exact isoWeekDayNumber_weekday _ _ _ _ _ hz

/-- (4) which weeks exist: 1 … 52 always, 53 exactly in the long years — those in which 31 December falls in
    week 53, i.e. 1 January is a Thursday, or a Wednesday of a leap year. -/
theorem isoToCivil_isSome_iff (y : Int) (w d : Nat) :
    (isoToCivil y w d).isSome = true ↔
      1 ≤ d ∧ d ≤ 7 ∧ 1 ≤ w ∧ (w ≤ 52 ∨ (w = 53 ∧ (weekdayOfDays (jan1Of y) = 3 ∨ (weekdayOfDays (jan1Of y) = 2 ∧ isLeap y = true)))) := by
  unfold isoToCivil isoWeekDayNumber hasWeek53
  rw [show daysOfCivil { year := y, month := 1, day := 1 } = jan1Of y from rfl]
  generalize weekdayOfDays (jan1Of y) = k
  cases isLeap y <;> simp
  all_goals (repeat' split) <;> simp <;> omega

/-- (5) ROUND TRIP: `date.isocalendar()` of the date that `fromisoformat` reads from `YYYY-Www-d` is
    (YYYY, ww, d) again — for every year (no range bound), every existing week and day. -/
theorem isoWeek_roundtrip (y : Int) (w d : Nat) (c : Civil) (h : isoToCivil y w d = some c) :
    isoCalendar (daysOfCivil c) = (y, (w : Int), (d : Int)) := by
  obtain ⟨z, hz, rfl⟩ := isoToCivil_some y w d c h
  obtain ⟨-, -, d1, d7, rfl⟩ := isoWeekDayNumber_some _ _ _ _ _ hz
  obtain ⟨lo, hi⟩ := isoWeekDayNumber_in_year _ _ _ _ _ hz
  rw [← jan1Of_succ] at hi
  rw [daysOfCivil_civilOfDays, isoCalendar_spec y _ lo hi]
  unfold week1
  simp only [Prod.mk.injEq, true_and]
  omega

/-- (6) THE TEXT: `parse_datetime("YYYY-Www-d")` is the ISO 8601 day — midnight UTC of the date `isoToCivil` names —
    whenever that date exists and lies in `datetime`'s years 1 … 9999, and a `ValueError` otherwise; for every
    four-digit year, two-digit week and one-digit day (so also `W00`, `W54`, day 0, 8, 9: all refused by (4)). -/
theorem week_text_reads (Y w d : Nat) (hY : Y ≤ 9999) (hw : w ≤ 99) (hd : d ≤ 9) :
    parseDatetimeChars [Nat.digitChar (Y / 1000), Nat.digitChar (Y / 100 % 10), Nat.digitChar (Y / 10 % 10),
        Nat.digitChar (Y % 10), '-', 'W', Nat.digitChar (w / 10), Nat.digitChar (w % 10), '-', Nat.digitChar d]
      = (match isoToCivil (Y : Int) w d with
         | none => err .value
         | some c => if !(decide (1 ≤ c.year) && decide (c.year ≤ 9999)) then err .value
                     else pure (daysOfCivil c * usPerDay)) := by
  have hdd : Nat.digitChar d = Nat.digitChar (d % 10) := by rw [Nat.mod_eq_of_lt (by omega)]
  rw [← Nat.mod_eq_of_lt (by omega : Y / 1000 < 10), ← Nat.mod_eq_of_lt (by omega : w / 10 < 10), hdd]
  unfold parseDatetimeChars
  rw [stripTrailingZ_of_getLast _ _ rfl (digit_ne _ 'Z' (digitChar_mod d).1 rfl)]
  exact fromIso_week Y w d hY (by omega) (by omega)

/-- e.g. "2020-W53-7" is 3 January 2021, "2021-W53-1" and "9999-W52-6" are refused -/
example : parseDatetime "2020-W53-7" = .ok 1609632000000000 ∧ parseDatetime "2021-W53-1" = err .value ∧
    parseDatetime "9999-W52-6" = err .value ∧ parseDatetime "2020W537T2359Z" = .ok 1609718340000000 ∧
    parseDuration "P٣DT１٢M" = .ok 259920000000 ∧ pyInt " ٣　".toList = .ok (some 3) := by
  simp only [parseDatetime, parseDuration]; chars
  exact ⟨(week_text_reads 2020 53 7 (by decide) (by decide) (by decide)).trans (by decide +kernel),
    (week_text_reads 2021 53 1 (by decide) (by decide) (by decide)).trans (by decide +kernel),
    (week_text_reads 9999 52 6 (by decide) (by decide) (by decide)).trans (by decide +kernel), by decide +kernel⟩

/-- the hypotheses are met by concrete non-trivial inputs: 2020 is a long year (leap, starts on a Wednesday):
    2020-W53-7 is 3 January 2021 and reads back; 2021 has no week 53; 9999-W52-6 leaves the range of `datetime`
    (year 10000, still a real date — the caller's range check refuses it). -/
example : isoToCivil 2020 53 7 = some { year := 2021, month := 1, day := 3 } ∧
    isoCalendar (daysOfCivil { year := 2021, month := 1, day := 3 }) = (2020, 53, 7) ∧
    isoToCivil 2021 53 1 = none ∧ isoToCivil 2024 1 1 = some { year := 2024, month := 1, day := 1 } ∧
    isoToCivil 2021 1 1 = some { year := 2021, month := 1, day := 4 } ∧
    isoToCivil 9999 52 6 = some { year := 10000, month := 1, day := 1 } ∧
    isoToCivil 1 1 1 = some { year := 1, month := 1, day := 1 } := by decide +kernel

end IsoWeek

/-! ### (7) nothing is declined

  The three text readers of the model answer EVERY text — a value or a Python exception —
  never `unsupported` (ISO week dates, non-ASCII octets, Unicode decimal digits and white space are modelled):
  `parseDatetime_answers`, `parseDuration_answers`, `pyInt_answers`; the correspondence harness accordingly
  counts an `unsupported` answer of these operations as a disagreement. -/

theorem pyInt_answers (s : List Char) : pyInt s ≠ unsupported := by
  fun_cases pyInt s <;> simp [pure, Except.pure, unsupported]

theorem fromIsoGeneral_answers (cs : List Char) : fromIsoGeneral cs ≠ unsupported := by
  fun_cases fromIsoGeneral cs
  all_goals simp [pure, Except.pure, err, unsupported]

theorem parseDatetime_answers (s : String) : parseDatetime s ≠ unsupported := by
  unfold parseDatetime parseDatetimeChars
  generalize stripTrailingZ s.toList = cs
  fun_cases fromIsoChars cs
  all_goals first
    | exact fromIsoGeneral_answers _
    | simp [pure, Except.pure, err, unsupported]

theorem tdCheck_answers (us : Int) : tdCheck us ≠ unsupported := by
  fun_cases tdCheck us <;> simp [pure, Except.pure, err, unsupported]

theorem durationStepUni_answers (s : List Char) (ts : Bool) (acc : Int) : durationStepUni s ts acc ≠ unsupported := by
  fun_cases durationStepUni s ts acc
  case case6 =>
    -- the sixth and last branch of the definition, the only one that is not an immediate `err`: the monadic
    -- tail — two range checks, `int(rest)`, and two more range checks when it is a literal
    refine bind_answers (tdCheck_answers _) fun _ => bind_answers (tdCheck_answers _) fun _ =>
      bind_answers (pyInt_answers _) fun o => ?_
    cases o
    · simp [pure, Except.pure, unsupported]
    · exact bind_answers (tdCheck_answers _) fun _ => bind_answers (tdCheck_answers _) fun _ => by
        simp [pure, Except.pure, unsupported]
  all_goals simp [err, unsupported, bind, Except.bind]

theorem durationStep_answers (s : List Char) (ts : Bool) (acc : Int) : durationStep s ts acc ≠ unsupported := by
  rw [durationStep_eq_uni]; exact durationStepUni_answers _ _ _

theorem parseDurationLoop_answers (fuel : Nat) (s : List Char) (ts : Bool) (acc : Int) :
    parseDurationLoop fuel s ts acc ≠ unsupported := by
  induction fuel generalizing s ts acc with
  | zero => unfold parseDurationLoop; split <;> simp [pure, Except.pure, err, unsupported]
  | succ n ih =>
    unfold parseDurationLoop
    split
    · simp [pure, Except.pure, unsupported]
    · split
      · rename_i e heq
        intro h
        simp only [unsupported, Except.error.injEq] at h
        subst h
        exact durationStep_answers _ _ _ heq
      · simp [pure, Except.pure, unsupported]
      · exact ih _ _ _

theorem parseDuration_answers (s : String) : parseDuration s ≠ unsupported := by
  unfold parseDuration parseDurationChars
  split
  · simp [pure, Except.pure, unsupported]
  · exact parseDurationLoop_answers _ _ _ _
  · simp [err, unsupported]

example : parseDatetime "2024-W05\u00e9" = err .value ∧ parseDuration "P1\u00b2D" = err .value ∧ pyInt "\u00bd".toList = .ok none := by
  simp only [parseDatetime, parseDuration]; chars; decide +kernel

end Kskm.C11
