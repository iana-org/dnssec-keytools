/-
  C12 — the KSR/SKR reader agrees with a standard XML parser, in any sibling order.

  What "a standards-conforming XML parser extracts" is fixed here by a specification written
  independently of the reader: PlainXml trees (`PTree` with `PlainT`, KskmProofs/Lemmas/XmlRender.lean) with their rendering
  as text and the dict a standard reading of that text yields (`dictOf`: the element structure, with
  repeated siblings collected in document order).  That `t` IS the standard reading of `render t` is
  what harness/corr_C12.py checks against `xml.etree.ElementTree` on every generated document.

  Theorems in this file:

  * `storeElement_repetition` — n occurrences of a sibling name are stored as the value itself for
    n = 1 and as the list of the n values in document order for n ≥ 2, other names untouched.  This
    is the shape the glue has to cope with.
  * `C12_glue_*` — for Key / Signature / SignatureAlgorithm / RequestBundle the glue treats the single
    shape and the list shape alike (every repetition count ≥ 1 the grammar allows); for Signer and
    ResponseBundle it does so exactly when the behaviour switch tabulated from the code says the single
    value is wrapped (`wrapsSingleSigner`, `wrapsSingleResponseBundle`); with the switch off the
    counterexamples of findings F11 / F12 are proved (`…_counterexample`), and
    `C12_glue_current_tree` states whichever applies to the tree in /repo.
  * `timestamp_placement_counterexample` — F13: the optional `timestamp` where the schema puts it (on
    `Request`) makes the glue fail with KeyError; on `KSR` (where the schema does not allow it) it is read.
  * `C12_order_key` — sorting bundles by `(expiration, inception, id)` (the repaired glue, requests AND
    responses) gives the same list for every permutation of the input whenever bundle ids are pairwise
    distinct; `C12_order` — the pinned request glue (stable sort by expiration only) does so only when
    expirations are pairwise distinct; `C12_order_bundles` / `C12_order_response_bundles` lift both
    through the glue, for either value of the switches tabulated from the code;
    `C12_order_tie_counterexample` — F8: with the pinned glue and equal expirations document order shows
    through; `C12_order_key_tie` — what remains with the repaired glue: only bundles that agree in
    expiration, inception AND id can still swap.
  * `C12_reader_partial` — reader correctness against PlainXml: for every plain tree of any size and
    at most five levels of nesting, `parse (render t) = dictOf t`, where the rendering may use ANY white
    space between elements (none, spaces, tabs, newlines, CR LF, indentation), any one-line white space before
    the closing `>` / `/>` of a start tag that has attributes, the self-closing or the empty-pair form for
    empty elements, and any white space around the document; `C12_reader_ksr` adds what precedes `<KSR`.
    Fixed by THAT rendering: one space before each attribute, the attributes in the order given, the
    prolog condition stated semantically.
  * `C12_reader_layout` (and `_depth` / `_ksr` / `_py`) — the same with ANY non-empty one-line white space
    in front of every attribute (between the element name and the first attribute, between two attributes):
    `WTree` / `renderW` of KskmProofs/Lemmas/XmlRenderW.lean; `renderT` is the instance "one space"
    (`C12_reader_partial_of_layout`).  `attr_ws_boundaries`: where the reader stops agreeing — a line feed
    between two attributes or before `>`, white space around `=`.
  * `C12_attr_order_reader` — permuting the attributes of any elements of the document (distinct names within
    a start tag) changes the reader's result only up to `DictEq`, Python's `==` on dicts
    (KskmProofs/Lemmas/XmlDictEq.lean); `C12_attr_order` — and `request_from_xml` / `response_from_xml` return
    the SAME object (or raise the same error): the glue cannot tell `DictEq` values apart
    (`requestFromDict_congr` / `responseFromDict_congr`, KskmProofs/Lemmas/XmlGlueEq.lean).
  * `C12_sibling_order` — permuting the CHILD ELEMENTS of any elements of the document (keys,
    signatures, signers, signature algorithms, bundles, and children with distinct names such as `Inception` /
    `Expiration` or `RequestPolicy` / `RequestBundle`): the reader's results are `DictPerm` (equal up to the
    order of the lists that collect same-named siblings: `C12_child_order_reader`), `request_from_xml` /
    `response_from_xml` both raise or both return the same object up to the representation of `set` fields —
    the bundle list position by position when ids are pairwise distinct (`SameRequest`) —, and
    `validate_request` / `validate_response` / `load_ksr` accept both or neither, `load_skr` the second when the first
    (`C12_sibling_order_verdict`, `C12_sibling_order_load_ksr`, `C12_sibling_order_load_skr`).  When only
    differently named siblings change places the loaders return the SAME object or the same error
    (`C12_child_order_distinct_names`).  Not invariant, with witnesses: the exception CLASS when several
    siblings are faulty (`sibling_order_error_class_witness`), the model's list order of a `set`
    (`sibling_order_set_witness`).
  * `C12_reader_prolog` — "anything preceding the KSR element is ignored" for a GRAMMAR of prologs (XML
    declaration, processing instructions, comments, DOCTYPE, white space — none containing the four
    characters `<KSR`); `ksr_in_comment_counterexample`: a comment that does contain `<KSR` is not ignored.
-/
import Kskm.XmlGlue
import KskmProofs.Lemmas.Literals
import KskmProofs.Lemmas.XmlClasses
import KskmProofs.Lemmas.XmlStore
import KskmProofs.Lemmas.XmlSwitches
import KskmProofs.Lemmas.XmlReaderW
import KskmProofs.Lemmas.XmlGlueEq
import KskmProofs.Lemmas.XmlProlog
import KskmProofs.Lemmas.XmlValidateSame
import KskmProofs.Lemmas.XmlChildPermExample
namespace Kskm.C12
open Kskm.Xml

/-! ## 1. Repeated siblings -/

/-- the dict value `_store_element` leaves for the values `vs` of one name, in document order -/
def repeated : List XVal → XVal
  | [v] => v
  | vs => .list vs

/-- **Repetition.** Storing the values of `n` same-named siblings (none of which is itself a list —
    element values are strings or dicts) under a name not yet present yields: nothing for n = 0, the
    value itself for n = 1, the list of all n values in document order for n ≥ 2; and no other name
    is affected. -/
theorem storeElement_repetition (res : Dict) (name : List Char) (hfresh : res.lookup name = none)
    (vs : List XVal) (hnl : ∀ v ∈ vs, v.isList = false) :
    (storeAll res name vs).lookup name = (if vs = [] then none else some (repeated vs)) ∧
    ∀ k, k ≠ name → (storeAll res name vs).lookup k = res.lookup k := by
  refine ⟨?_, fun k hk => storeAll_other name k hk vs res⟩
  match vs, hnl with
  | [], _ => simpa [storeAll] using hfresh
  | [v], _ =>
    simp only [storeAll, List.foldl, repeated, List.cons_ne_nil, ↓reduceIte]
    exact storeElement_fresh _ _ _ hfresh
  | v₁ :: v₂ :: r, hnl =>
    have h1 := storeElement_fresh res name v₁ hfresh
    have h2 := storeElement_second _ name v₁ v₂ h1 (hnl v₁ (by simp))
    have := storeAll_list name r _ _ h2
    simpa [storeAll, repeated] using this

/-- what the glue's idiom `x if isinstance(x, list) else [x]` makes of a repeated element: the list of
    its occurrences, for every repetition count ≥ 1 -/
theorem asList_repeated (vs : List XVal) (hne : vs ≠ []) (hnl : ∀ v ∈ vs, v.isList = false) :
    (repeated vs).asList = vs := by
  match vs, hne, hnl with
  | [v], _, hnl =>
    have := hnl v (by simp)
    cases v <;> simp_all [repeated, XVal.asList, XVal.isList]
  | _ :: _ :: _, _, _ => simp [repeated, XVal.asList]

/-! ## 2. The glue copes with both shapes — where it does -/

/-- **Key, Signature, SignatureAlgorithm**: every repetition count ≥ 1, single or list shape, yields
    the set of the parsed occurrences. -/
theorem C12_glue_keys (vs : List XVal) (hne : vs ≠ []) (hnl : ∀ v ∈ vs, v.isList = false) :
    keysOf (repeated vs) = (do let l ← vs.mapM keyOf; pure (dedup l)) := by
  unfold keysOf; rw [asList_repeated vs hne hnl]

theorem C12_glue_signatures (vs : List XVal) (hne : vs ≠ []) (hnl : ∀ v ∈ vs, v.isList = false) :
    signaturesOf (repeated vs) = (do let l ← vs.mapM signatureOf; pure (dedup l)) := by
  unfold signaturesOf; rw [asList_repeated vs hne hnl]

theorem C12_glue_algorithms (vs : List XVal) (hne : vs ≠ []) (hnl : ∀ v ∈ vs, v.isList = false) :
    signatureAlgorithmsOf (repeated vs) = (do let l ← vs.mapM algPolicyOf; pure (dedup l)) := by
  unfold signatureAlgorithmsOf; rw [asList_repeated vs hne hnl]

/-- **RequestBundle**: `request_from_xml` hands `request_bundles_from_list_of_dicts` the list of the
    occurrences whatever their number ≥ 1. -/
theorem C12_glue_request_bundles (gs : GlueSwitches) (vs : List XVal) (hne : vs ≠ [])
    (hnl : ∀ v ∈ vs, v.isList = false) :
    requestBundlesOf gs (repeated vs).asList = requestBundlesOf gs vs := by
  rw [asList_repeated vs hne hnl]

/-- **Signer**, repaired glue: every repetition count ≥ 1. -/
theorem C12_glue_signers (gs : GlueSwitches) (hgs : gs.wrapsSingleSigner = true) (vs : List XVal)
    (hne : vs ≠ []) (hnl : ∀ v ∈ vs, v.isList = false) (htr : ∀ v ∈ vs, v.truthy = true) :
    signersOf gs (repeated vs) = (do let l ← vs.mapM signerOf; pure (some (dedup l))) := by
  have ht : (repeated vs).truthy = true := by
    match vs, hne, htr with
    | [v], _, htr => simpa [repeated] using htr v (by simp)
    | _ :: _ :: _, _, _ => simp [repeated, XVal.truthy]
  unfold signersOf
  simp only [ht, Bool.not_true, Bool.false_eq_true, ↓reduceIte, hgs, asList_repeated vs hne hnl]
  rfl

/-- a `<Signer keyIdentifier="KC1"/>` as the reader stores it -/
def signerDict (kid : String) : XVal :=
  .dict [(kAttrs, .dict [("keyIdentifier".toList, .str kid.toList)]), (kValue, .str [])]

/-- **F11.** With the pinned glue exactly one Signer is a TypeError (the loop runs over the KEYS of the
    single dict), while 0 and 2 signers load. -/
theorem C12_glue_signers_counterexample (gs : GlueSwitches) (hgs : gs.wrapsSingleSigner = false) :
    signersOf gs (repeated [signerDict "KC1"]) = err .type ∧
    signersOf gs (.list []) = .ok none ∧
    signersOf gs (repeated [signerDict "KC1", signerDict "KC2"]) = .ok (some [some "KC1", some "KC2"]) ∧
    signersOf { gs with wrapsSingleSigner := true } (repeated [signerDict "KC1"]) = .ok (some [some "KC1"]) := by
  obtain ⟨a, b, c, d⟩ := gs
  simp only at hgs
  subst hgs
  simp only [signerDict, kAttrs_eq, kValue_eq]
  chars
  -- `signersOf` consults no other switch: it computes with `b`, `c`, `d` variables
  exact ⟨rfl, rfl, rfl, rfl⟩

/-- **ResponseBundle**, repaired glue: every repetition count ≥ 1. -/
theorem C12_glue_response_bundles (gs : GlueSwitches) (hgs : gs.wrapsSingleResponseBundle = true)
    (vs : List XVal) (hne : vs ≠ []) (hnl : ∀ v ∈ vs, v.isList = false) :
    responseBundlesOf gs (repeated vs) =
      (do let l ← vs.mapM responseBundleOf; pure (if gs.sortsResponseBundles then sortByKey l else l)) := by
  unfold responseBundlesOf
  simp only [hgs, ↓reduceIte, asList_repeated vs hne hnl]

/-- **F12.** With the pinned glue exactly one ResponseBundle is a TypeError, whatever it contains. -/
theorem C12_glue_response_bundles_counterexample (gs : GlueSwitches)
    (hgs : gs.wrapsSingleResponseBundle = false) (attrs value : XVal) :
    responseBundlesOf gs (repeated [.dict [(kAttrs, attrs), (kValue, value)]]) = err .type := by
  simp [responseBundlesOf, hgs, repeated, XVal.iter, List.mapM_cons, responseBundleOf, XVal.getItem, bind,
    Except.bind, err]

/-- The tree in /repo: for each of the two switches tabulated from the code, the statement that
    applies. -/
theorem C12_glue_current_tree :
    (if KskmGen.wrapsSingleSigner = true then
        ∀ vs, vs ≠ [] → (∀ v ∈ vs, v.isList = false) → (∀ v ∈ vs, v.truthy = true) →
          signersOf pyGlueSwitches (repeated vs) = (do let l ← vs.mapM signerOf; pure (some (dedup l)))
      else signersOf pyGlueSwitches (repeated [signerDict "KC1"]) = err .type) ∧
    (if KskmGen.wrapsSingleResponseBundle = true then
        ∀ vs, vs ≠ [] → (∀ v ∈ vs, v.isList = false) →
          responseBundlesOf pyGlueSwitches (repeated vs) =
            (do let l ← vs.mapM responseBundleOf
                pure (if pyGlueSwitches.sortsResponseBundles then sortByKey l else l))
      else ∀ attrs value,
        responseBundlesOf pyGlueSwitches (repeated [.dict [(kAttrs, attrs), (kValue, value)]]) = err .type) := by
  constructor
  · cases h : KskmGen.wrapsSingleSigner with
    | true =>
      simp only [↓reduceIte]
      exact fun vs h1 h2 h3 => C12_glue_signers pyGlueSwitches h vs h1 h2 h3
    | false =>
      simp only [Bool.false_eq_true, ↓reduceIte]
      exact (C12_glue_signers_counterexample pyGlueSwitches h).1
  · cases h : KskmGen.wrapsSingleResponseBundle with
    | true =>
      simp only [↓reduceIte]
      exact fun vs h1 h2 => C12_glue_response_bundles pyGlueSwitches h vs h1 h2
    | false =>
      simp only [Bool.false_eq_true, ↓reduceIte]
      exact fun attrs value => C12_glue_response_bundles_counterexample pyGlueSwitches h attrs value

/-! ### F13: where the optional `timestamp` is looked for -/

def s (x : String) : XVal := .str x.toList
def d (kvs : List (String × XVal)) : XVal := .dict (kvs.map fun p => (p.1.toList, p.2))

/-- a minimal request body: policy with one RSA algorithm, no bundles -/
def minimalRequestBody : XVal :=
  d [("RequestPolicy", d [("ZSK", d [
      ("PublishSafety", s "P10D"), ("RetireSafety", s "P10D"), ("MaxSignatureValidity", s "P21D"),
      ("MinSignatureValidity", s "P21D"), ("MaxValidityOverlap", s "P12D"), ("MinValidityOverlap", s "P9D"),
      ("SignatureAlgorithm", d [("attrs", d [("algorithm", s "8")]),
        ("value", d [("RSA", d [("attrs", d [("size", s "2048"), ("exponent", s "65537")]), ("value", s "")])])])])])]

/-- `<KSR id domain serial [timestamp]><Request [timestamp]>…` as the reader stores it -/
def ksrDict (ksrTimestamp requestTimestamp : Option String) : XVal :=
  let ksrAttrs := [("id", s "4fe9bb10"), ("serial", s "99"), ("domain", s ".")]
    ++ (match ksrTimestamp with | some t => [("timestamp", s t)] | none => [])
  let request := match requestTimestamp with
    | some t => d [("attrs", d [("timestamp", s t)]), ("value", minimalRequestBody)]
    | none => minimalRequestBody
  d [("KSR", d [("attrs", d ksrAttrs), ("value", d [("Request", request)])])]

/-- **F13.** The schema puts the optional timestamp on `Request`; there it makes the glue fail
    (`KeyError: 'RequestPolicy'`, because an element with attributes is stored as `{attrs, value}`);
    the glue reads it from `KSR`, where the schema has no such attribute.  Without a timestamp the
    document loads. -/
theorem timestamp_placement_counterexample (gs : GlueSwitches) :
    requestFromDict gs (ksrDict none (some "2018-01-01T00:00:00Z")) = err .key ∧
    (requestFromDict gs (ksrDict (some "2018-01-01T00:00:00Z") none)).map (·.timestamp) =
      .ok (some 1514764800000000) ∧
    (requestFromDict gs (ksrDict none none)).map (·.timestamp) = .ok none := by
  -- the document's own strings as character lists first (see KskmProofs/Lemmas/Literals.lean)
  simp only [ksrDict, minimalRequestBody, d, s, List.map]
  chars
  -- the switches only matter for bundles, and these documents have none: the glue computes with `gs` a variable
  exact ⟨rfl, rfl, rfl⟩

/-! ## 3. Order of bundles -/

theorem expirationLe_trans (a b c : Bundle) (h1 : decide (a.expiration ≤ b.expiration) = true)
    (h2 : decide (b.expiration ≤ c.expiration) = true) : decide (a.expiration ≤ c.expiration) = true := by
  simp only [decide_eq_true_eq] at *; omega

theorem expirationLe_total (a b : Bundle) :
    (decide (a.expiration ≤ b.expiration) || decide (b.expiration ≤ a.expiration)) = true := by
  simp only [Bool.or_eq_true, decide_eq_true_eq]; omega

/-- Sorting by expiration yields the same list for every permutation of the input when
    expirations are pairwise distinct. -/
theorem C12_order (l₁ l₂ : List Bundle) (hp : l₁.Perm l₂)
    (hd : l₁.Pairwise (fun a b => a.expiration ≠ b.expiration)) :
    sortByExpiration l₁ = sortByExpiration l₂ :=
  mergeSort_eq_of_perm expirationLe_trans expirationLe_total hp (fun a ha b hb h1 h2 =>
    eq_of_pairwise_ne (·.expiration) hd a ha b hb (by simp only [decide_eq_true_eq] at h1 h2; omega))

/-- the result is in chronological order and contains exactly the bundles it was given -/
theorem sortByExpiration_sorted (l : List Bundle) :
    (sortByExpiration l).Pairwise (fun a b => a.expiration ≤ b.expiration) ∧ (sortByExpiration l).Perm l := by
  refine ⟨?_, List.mergeSort_perm l _⟩
  exact (List.pairwise_mergeSort expirationLe_trans expirationLe_total l).imp (by intro a b h; simpa using h)

/-! ### the repaired glue: sort key (expiration, inception, id) -/

/-- **C12_order, repaired glue.** Sorting by (expiration, inception, id) yields the same list for
    every permutation of the input whenever the bundle ids are pairwise distinct — equal expirations,
    equal inceptions included. -/
theorem C12_order_key (l₁ l₂ : List Bundle) (hp : l₁.Perm l₂)
    (hd : l₁.Pairwise (fun a b => a.id ≠ b.id)) : sortByKey l₁ = sortByKey l₂ :=
  sortByKey_perm_eq l₁ l₂ hp hd

/-- the result is ascending in the key — in particular chronological — and a permutation of the input -/
theorem sortByKey_sorted (l : List Bundle) :
    (sortByKey l).Pairwise (fun a b => bundleKeyLe a b = true) ∧
    (sortByKey l).Pairwise (fun a b => a.expiration ≤ b.expiration) ∧ (sortByKey l).Perm l := by
  have h := List.pairwise_mergeSort bundleKeyLe_trans bundleKeyLe_total l
  refine ⟨h, h.imp ?_, List.mergeSort_perm l _⟩
  intro a b hab
  rw [bundleKeyLe_iff] at hab
  omega

/-- a sort that answers a permutation of its input, and the same list for all orders of an input that is
    pairwise `P`, on two orders of one input -/
theorem sort_perm_facts {α} {P : α → α → Prop} (hsym : ∀ {a b}, P a b → P b a) (srt : List α → List α)
    (hs : ∀ l, (srt l).Perm l) (heq : ∀ l₁ l₂, l₁.Perm l₂ → l₁.Pairwise P → srt l₁ = srt l₂) {l₁ l₂ : List α}
    (hp : l₁.Perm l₂) : (srt l₁).Perm (srt l₂) ∧ ((srt l₁).Pairwise P → srt l₂ = srt l₁) :=
  ⟨(hs l₁).trans (hp.trans (hs l₂).symm), fun hd => (heq l₁ l₂ hp (((hs l₁).pairwise_iff hsym).mp hd)).symm⟩

/-- **Order independence through the request glue**, for either value of the switch: if a list of
    bundle dicts loads, every permutation of it loads too, to a permutation of the same bundles, and to
    the very same list when — repaired glue — the bundle ids are pairwise distinct, or — pinned glue —
    the expirations are. -/
theorem C12_order_bundles (gs : GlueSwitches) (bs₁ bs₂ : List XVal) (hp : bs₁.Perm bs₂) (r₁ : List Bundle)
    (h : requestBundlesOf gs bs₁ = .ok r₁) :
    ∃ r₂, requestBundlesOf gs bs₂ = .ok r₂ ∧ r₁.Perm r₂ ∧
      ((if gs.sortsRequestBundlesByTriple then r₁.Pairwise (fun a b => a.id ≠ b.id)
        else r₁.Pairwise (fun a b => a.expiration ≠ b.expiration)) → r₂ = r₁) := by
  unfold requestBundlesOf at h ⊢
  obtain ⟨l₁, l₂, hp2, rfl, h2⟩ := mapM_then_perm hp h
  refine ⟨_, h2, ?_⟩
  cases gs.sortsRequestBundlesByTriple with
  | true =>
    exact sort_perm_facts (fun h h' => h h'.symm) sortByKey (fun l => (sortByKey_sorted l).2.2) C12_order_key hp2
  | false =>
    exact sort_perm_facts (fun h h' => h h'.symm) sortByExpiration (fun l => (sortByExpiration_sorted l).2)
      C12_order hp2

/-- **Order independence through the response glue** (repaired: sorted like requests): every
    permutation of the `ResponseBundle` occurrences loads to the same list when ids are pairwise distinct.
    With the pinned glue (`sortsResponseBundles = false`) the result is just the permuted list. -/
theorem C12_order_response_bundles (gs : GlueSwitches) (hw : gs.wrapsSingleResponseBundle = true)
    (vs₁ vs₂ : List XVal) (hp : vs₁.Perm vs₂) (r₁ : List Bundle)
    (h : responseBundlesOf gs (.list vs₁) = .ok r₁) :
    ∃ r₂, responseBundlesOf gs (.list vs₂) = .ok r₂ ∧ r₁.Perm r₂ ∧
      (gs.sortsResponseBundles = true → r₁.Pairwise (fun a b => a.id ≠ b.id) → r₂ = r₁) := by
  unfold responseBundlesOf at h ⊢
  simp only [hw, ↓reduceIte, XVal.asList] at h ⊢
  obtain ⟨l₁, l₂, hp2, rfl, h2⟩ := mapM_then_perm hp h
  refine ⟨_, h2, ?_⟩
  cases gs.sortsResponseBundles with
  | true =>
    have := sort_perm_facts (fun h h' => h h'.symm) sortByKey (fun l => (sortByKey_sorted l).2.2) C12_order_key hp2
    exact ⟨this.1, fun _ => this.2⟩
  | false => exact ⟨hp2, fun hc => by cases hc⟩

/-- two bundles that differ only in their id -/
def tieA : Bundle := { id := "a", inception := 0, expiration := 10, keys := [], signatures := [] }
def tieB : Bundle := { id := "b", inception := 0, expiration := 10, keys := [], signatures := [] }

/-- **F8.** With the pinned glue and equal expirations the sort is stable: document order shows
    through, so the result does depend on the order of the bundles in the file — while the repaired
    key sorts the same two bundles the same way whichever comes first. -/
theorem C12_order_tie_counterexample :
    sortByExpiration [tieA, tieB] = [tieA, tieB] ∧ sortByExpiration [tieB, tieA] = [tieB, tieA] ∧
    sortByExpiration [tieA, tieB] ≠ sortByExpiration [tieB, tieA] := by
  have h1 : sortByExpiration [tieA, tieB] = [tieA, tieB] :=
    List.mergeSort_of_pairwise (by decide)
  have h2 : sortByExpiration [tieB, tieA] = [tieB, tieA] :=
    List.mergeSort_of_pairwise (by decide)
  refine ⟨h1, h2, ?_⟩
  rw [h1, h2]
  decide

theorem C12_order_tie_repaired : sortByKey [tieA, tieB] = sortByKey [tieB, tieA] :=
  C12_order_key _ _ (List.Perm.swap _ _ _) (by decide)

/-- two bundles that agree in expiration, inception and id but not in content -/
def dupA : Bundle := { id := "a", inception := 0, expiration := 10, keys := [], signatures := [] }
def dupB : Bundle := { id := "a", inception := 0, expiration := 10, keys := [], signatures := [], signers := some [] }

/-- What remains with the repaired glue: bundles with equal (expiration, inception, id) — which
    `check_unique_ids` refuses afterwards — still come out in document order. -/
theorem C12_order_key_tie :
    sortByKey [dupA, dupB] = [dupA, dupB] ∧ sortByKey [dupB, dupA] = [dupB, dupA] ∧ dupA ≠ dupB :=
  ⟨List.mergeSort_of_pairwise (by decide), List.mergeSort_of_pairwise (by decide), by decide⟩

/-- the tree in /repo, per switch tabulated from the code -/
theorem C12_order_current_tree (l₁ l₂ : List Bundle) (hp : l₁.Perm l₂) :
    (if KskmGen.sortsRequestBundlesByTriple = true then
        l₁.Pairwise (fun a b => a.id ≠ b.id) → sortByKey l₁ = sortByKey l₂
      else l₁.Pairwise (fun a b => a.expiration ≠ b.expiration) → sortByExpiration l₁ = sortByExpiration l₂) := by
  cases KskmGen.sortsRequestBundlesByTriple with
  | true => simp only [↓reduceIte]; exact C12_order_key l₁ l₂ hp
  | false => simp only [Bool.false_eq_true, ↓reduceIte]; exact C12_order l₁ l₂ hp

/-! ## 4. The reader against PlainXml -/

/-- the character classes of the running Python meet every requirement of the reader theorems -/
theorem pyClasses_sane : Sane pyClasses where
  word_not_space := by
    intro c hw
    cases hsp : pyClasses.isSpace c with
    | false => rfl
    | true => exact absurd ⟨hw, hsp⟩ (pyClasses_word_not_space c)
  word_not_strip := by
    intro c hw
    rw [pyClasses_strip_eq_space]
    cases hsp : pyClasses.isSpace c with
    | false => rfl
    | true => exact absurd ⟨hw, hsp⟩ (pyClasses_word_not_space c)
  space_sp := by decide +kernel
  space_gt := by decide +kernel
  strip_nl := by decide +kernel
  strip_lt := by decide +kernel
  strip_gt := by decide +kernel
  strip_quote := by decide +kernel
  strip_slash := by decide +kernel
  word_lt := pyClasses_word_punct.1
  word_gt := pyClasses_word_punct.2.1
  word_eq := pyClasses_word_punct.2.2.1
  word_slash := pyClasses_word_punct.2.2.2.2
  word_quote := pyClasses_word_punct.2.2.2.1

/-- **C12_reader, one space before each attribute.**  For ANY character classes with the sanity
    properties, either behaviour of the attribute loop, every plain tree `t` of at most five levels of
    element nesting and every white space `lead`, `trail` around it:
    the reader's result on the text of `t` is exactly the dict of the standard reading of that text. -/
theorem C12_reader_partial (cls : Classes) (hs : Sane cls) (sw : Switches) (t : PTree) (hp : PlainT cls t)
    (hh : heightT t ≤ 5) (lead trail : List Char) (hl : Ws cls lead) (ht : Ws cls trail) :
    parse cls sw (lead ++ renderT t ++ trail) = .ok (dictOf t) :=
  parse_plainT hs sw 5 t hp hh lead trail hl ht

/-- the recursion bound is the only size limit: a plain tree of any size and `d` levels loads with
    `recurse = d` -/
theorem C12_reader_partial_depth (cls : Classes) (hs : Sane cls) (sw : Switches) (d : Nat) (t : PTree)
    (hp : PlainT cls t) (hh : heightT t ≤ d) :
    parse cls sw (renderT t) d = .ok (dictOf t) := by
  simpa using parse_plainT hs sw d t hp hh [] [] (.nil cls) (.nil cls)

/-- **Anything preceding the KSR element is ignored**, provided the first `<KSR` of the file is the
    root element (a prolog or comment that itself contains `<KSR` is outside the property's domain). -/
theorem C12_reader_ksr (cls : Classes) (hs : Sane cls) (sw : Switches) (t : PTree) (hp : PlainT cls t)
    (hh : heightT t ≤ 5) (prolog trail : List Char) (ht : Ws cls trail)
    (hfirst : indexFrom kKSRopen (prolog ++ renderT t ++ trail) 0 = some prolog.length) :
    parseKsr cls sw (prolog ++ renderT t ++ trail) = .ok (dictOf t) := by
  rw [List.append_assoc] at hfirst ⊢
  rw [parseKsr_skip cls sw _ _ hfirst]
  exact C12_reader_partial cls hs sw t hp hh [] trail (.nil cls) ht

/-- under the classes of the running Python, for the code in /repo whatever its switch values -/
theorem C12_reader_py (t : PTree) (hp : PlainT pyClasses t) (hh : heightT t ≤ 5) (lead trail : List Char)
    (hl : Ws pyClasses lead) (ht : Ws pyClasses trail) :
    parse pyClasses pySwitches (lead ++ renderT t ++ trail) = .ok (dictOf t) :=
  C12_reader_partial pyClasses pyClasses_sane pySwitches t hp hh lead trail hl ht

/-
  The full statement of DESIGN §4 C12:

      theorem C12_reader : ∀ (t : PlainXml) (ℓ : Layout), parse (render ℓ t) = dictOf t

  with `ℓ` ranging over: white space between elements, spaces/tabs inside start tags, attribute order,
  self-closing vs empty-pair form, prolog/comments before `<KSR`.  It is proved in four parts:
    * `C12_reader_partial` / `C12_reader_ksr` above: every such layout with exactly one space in front of each
      attribute, the attributes in the order `dictOf` lists them, the prolog condition stated semantically
      (the first `<KSR` is the root element);
    * section 5, `C12_reader_layout`: any non-empty one-line white space in front of every attribute;
    * section 6, `C12_attr_order_reader` / `C12_attr_order`: attribute order — a Python dict compares without
      order, so the reader's results are `DictEq` (Python's `==`), and `request_from_xml` /
      `response_from_xml` return the same object;
    * section 7, `C12_reader_prolog`: a grammar of prologs in place of the semantic condition.
  Together: for every plain tree, every layout of it and every order of the attributes within each start
  tag, the reader returns a dict that is `==` to the standard reading, and the loaders return the same object.
  Excluded by `PlainT` because the reader really differs there (findings, replayed by the harness):
  white space before `>` in a start tag WITHOUT attributes (F17: `Gap` demands none), `>` inside an
  attribute value (F18: `PlainAttr`), an attribute-less self-closing tag `<n/>` (not in the schema); and, in
  a start tag WITH attributes, a line feed anywhere but directly after the element name, or white space
  around `=` (`attr_ws_boundaries`; the property is about start tags on one line).
  An element may not contain a descendant of its own name (`occursT`): `_find_end_of_element` supports
  exactly one level of same-name nesting and only when the outer start tag has the other form (with /
  without attributes) than the inner one — `nested_same_name_witness` below shows both sides.
-/

/-- the one level of same-name nesting the reader supports (the repo's `test_nested_tags`), and the
    shape it does not: outer and inner start tag of the same form -/
theorem nested_same_name_witness (sw : Switches) :
    parse pyClasses sw "<Signature keyIdentifier=\"Z\"><KeyTag>1</KeyTag><Signature>WL7</Signature></Signature>".toList =
      .ok [("Signature".toList, .dict [(kAttrs, .dict [("keyIdentifier".toList, .str "Z".toList)]),
        (kValue, .dict [("KeyTag".toList, .str "1".toList), ("Signature".toList, .str "WL7".toList)])])] ∧
    parse pyClasses sw "<Signature><Signature>WL7</Signature></Signature>".toList = .err .value := by
  rw [kAttrs_eq, kValue_eq]
  chars
  exact ⟨parseRec_of_strict pyClasses sw (by decide +kernel) nofun, parseRec_of_lax pyClasses sw (by decide +kernel)⟩

/-! ## 5. Any white space in front of the attributes -/

/-- under the classes of the running Python `\s` and `str.strip()` agree, so the white space admitted in
    front of an attribute is simply: non-empty, every character white space, no line feed -/
theorem attrWs_py (w : List Char) :
    AttrWs pyClasses w ↔ w ≠ [] ∧ ∀ c ∈ w, pyClasses.isSpace c = true ∧ c ≠ '\n' := by
  unfold AttrWs
  rw [pyClasses_strip_eq_space]
  constructor
  · exact fun h => ⟨h.1, fun c hc => ⟨(h.2 c hc).1, (h.2 c hc).2.2⟩⟩
  · exact fun h => ⟨h.1, fun c hc => ⟨(h.2 c hc).1, (h.2 c hc).1, (h.2 c hc).2⟩⟩

/-- **C12_reader, any layout of the start tags.**  For ANY character classes with the sanity properties,
    either behaviour of the attribute loop, every plain tree `w` of at most five levels of element nesting —
    with ANY non-empty one-line white space in front of every attribute, any one-line white space before `>` / `/>`,
    any white space between elements, either form of empty elements — and every white space around it:
    the reader's result is exactly the dict of the standard reading, in which none of that white space
    appears (`eraseT` forgets it). -/
theorem C12_reader_layout (cls : Classes) (hs : Sane cls) (sw : Switches) (w : WTree) (hp : PlainW cls w)
    (hh : heightW w ≤ 5) (lead trail : List Char) (hl : Ws cls lead) (ht : Ws cls trail) :
    parse cls sw (lead ++ renderW w ++ trail) = .ok (dictOf (eraseT w)) :=
  parse_plainW' hs sw 5 w (PlainW.lax hs w hp) hh lead trail hl ht

theorem C12_reader_layout_depth (cls : Classes) (hs : Sane cls) (sw : Switches) (d : Nat) (w : WTree)
    (hp : PlainW cls w) (hh : heightW w ≤ d) :
    parse cls sw (renderW w) d = .ok (dictOf (eraseT w)) := by
  simpa using parse_plainW' hs sw d w (PlainW.lax hs w hp) hh [] [] (.nil cls) (.nil cls)

/-- anything preceding the KSR element is ignored (semantic condition; `C12_reader_prolog` has a grammar) -/
theorem C12_reader_layout_ksr (cls : Classes) (hs : Sane cls) (sw : Switches) (w : WTree) (hp : PlainW cls w)
    (hh : heightW w ≤ 5) (prolog trail : List Char) (ht : Ws cls trail)
    (hfirst : indexFrom kKSRopen (prolog ++ renderW w ++ trail) 0 = some prolog.length) :
    parseKsr cls sw (prolog ++ renderW w ++ trail) = .ok (dictOf (eraseT w)) := by
  rw [List.append_assoc] at hfirst ⊢
  rw [parseKsr_skip cls sw _ _ hfirst]
  exact C12_reader_layout cls hs sw w hp hh [] trail (.nil cls) ht

/-- under the classes of the running Python, for the code in /repo whatever its switch values -/
theorem C12_reader_layout_py (w : WTree) (hp : PlainW pyClasses w) (hh : heightW w ≤ 5) (lead trail : List Char)
    (hl : Ws pyClasses lead) (ht : Ws pyClasses trail) :
    parse pyClasses pySwitches (lead ++ renderW w ++ trail) = .ok (dictOf (eraseT w)) :=
  C12_reader_layout pyClasses pyClasses_sane pySwitches w hp hh lead trail hl ht

/-- `C12_reader_partial` is the instance "exactly one space in front of each attribute" of
    `C12_reader_layout` (for classes whose `strip()` removes the space) -/
theorem C12_reader_partial_of_layout (cls : Classes) (hs : Sane cls) (hsp : cls.isStrip ' ' = true) (sw : Switches)
    (t : PTree) (hp : PlainT cls t) (hh : heightT t ≤ 5) (lead trail : List Char) (hl : Ws cls lead)
    (ht : Ws cls trail) : parse cls sw (lead ++ renderT t ++ trail) = .ok (dictOf t) := by
  have := C12_reader_layout cls hs sw (ofP t) (plainW_ofP hs hsp t hp) (by rw [heightW_ofP]; exact hh) lead trail hl ht
  rwa [renderW_ofP, eraseT_ofP] at this

/-- **Where the reader stops agreeing with XML inside a start tag that has attributes** (all replayed on
    the real code): a line feed between two attributes, or between the last attribute and `>`, is a
    ValueError (the start-tag expression does not cross a line); white space around `=` is never read
    (ValueError on the repaired tree, no termination on the pinned one — F1).  The reader is more lenient
    than XML in two places: it reads a line feed directly after the element name, and NO white space at
    all between two attributes. -/
theorem attr_ws_boundaries (sw : Switches) :
    parse pyClasses sw "<a x=\"1\"\ny=\"2\">v</a>".toList = .err .value ∧
    parse pyClasses sw "<a x=\"1\" y=\"2\"\n>v</a>".toList = .err .value ∧
    parse pyClasses sw "<a x =\"1\">v</a>".toList =
      (if sw.attrsLoopFailsOnNoMatch then .err .value else .outOfFuel) ∧
    parse pyClasses sw "<a x= \"1\">v</a>".toList =
      (if sw.attrsLoopFailsOnNoMatch then .err .value else .outOfFuel) ∧
    parse pyClasses sw "<a\nx=\"1\" y=\"2\">v</a>".toList =
      .ok [("a".toList, d [("attrs", d [("x", s "1"), ("y", s "2")]), ("value", s "v")])] ∧
    parse pyClasses sw "<a x=\"1\"y=\"2\">v</a>".toList =
      .ok [("a".toList, d [("attrs", d [("x", s "1"), ("y", s "2")]), ("value", s "v")])] := by
  simp only [d, s, List.map]
  chars
  -- 3, 4: `x =` and `x= "1"` are attribute texts the expression does not match
  refine ⟨parseRec_of_lax pyClasses sw (by decide +kernel), parseRec_of_lax pyClasses sw (by decide +kernel),
    parseRec_attrs_unmatched pyClasses sw 5 _ ['a'] [' '] ['x', ' ', '=', '"', '1', '"'] [] ?_ ?_ ?_,
    parseRec_attrs_unmatched pyClasses sw 5 _ ['a'] [' '] ['x', '=', ' ', '"', '1', '"'] [] ?_ ?_ ?_,
    parseRec_of_strict pyClasses sw (by decide +kernel) nofun, parseRec_of_strict pyClasses sw (by decide +kernel) nofun⟩ <;>
    decide +kernel

/-! ## 6. Attribute order -/

/-- **Attribute order, at the reader.**  Two plain documents that differ in the ORDER of the attributes
    within their start tags (and in any insignificant white space: `AttrPermT` compares the standard
    readings), attribute names distinct within each start tag: the reader returns two dicts that are equal
    as Python values (`DictEq`: `==` on dicts, which ignores insertion order, recursively). -/
theorem C12_attr_order_reader (cls : Classes) (hs : Sane cls) (sw : Switches) (w w' : WTree)
    (hp : PlainW cls w) (hp' : PlainW cls w') (hh : heightW w ≤ 5) (hh' : heightW w' ≤ 5)
    (hperm : AttrPermT (eraseT w) (eraseT w')) (hu : UniqueAttrsT (eraseT w))
    (lead trail lead' trail' : List Char) (hl : Ws cls lead) (ht : Ws cls trail) (hl' : Ws cls lead')
    (ht' : Ws cls trail') :
    ∃ r r', parse cls sw (lead ++ renderW w ++ trail) = .ok r ∧ parse cls sw (lead' ++ renderW w' ++ trail') = .ok r' ∧
      DictEq (.dict r) (.dict r') :=
  ⟨_, _, C12_reader_layout cls hs sw w hp hh lead trail hl ht, C12_reader_layout cls hs sw w' hp' hh' lead' trail' hl' ht',
    dictOf_attrPerm _ _ hperm hu⟩

/-- a loader built from `parse_ksr` and a glue function that cannot tell `DictEq` values apart gives the
    same outcome on two texts that the reader reads to `DictEq` dicts -/
theorem fromXmlWith_congr {α} (cls : Classes) (sw : Switches) (glue : XVal → Res α)
    (hglue : ∀ a b, DictEq a b → glue a = glue b) (x x' : List Char) (r r' : Dict)
    (h : parseKsr cls sw x = .ok r) (h' : parseKsr cls sw x' = .ok r') (he : DictEq (.dict r) (.dict r')) :
    fromXmlWith cls sw glue x = fromXmlWith cls sw glue x' := by
  unfold fromXmlWith
  rw [h, h']
  simp only
  rw [hglue _ _ he]

/-- **Attribute order, through the loaders.**  Two plain KSR/SKR documents, each behind a prolog of the
    grammar, that differ in the order of attributes within start tags (and in layout): `request_from_xml`
    returns the SAME `Request` — or raises the same error —, and so does `response_from_xml`; for either
    value of every behaviour switch. -/
theorem C12_attr_order (cls : Classes) (hs : Sane cls) (sw : Switches) (gs : GlueSwitches) (w w' : WTree)
    (hn : w.name = "KSR".toList) (hn' : w'.name = "KSR".toList)
    (hp : PlainW cls w) (hp' : PlainW cls w') (hh : heightW w ≤ 5) (hh' : heightW w' ≤ 5)
    (hperm : AttrPermT (eraseT w) (eraseT w')) (hu : UniqueAttrsT (eraseT w))
    (items items' : List PrologItem) (hi : ∀ it ∈ items, it.Ok) (hi' : ∀ it ∈ items', it.Ok)
    (trail trail' : List Char) (ht : Ws cls trail) (ht' : Ws cls trail') :
    requestFromXmlL cls sw gs (renderProlog items ++ renderW w ++ trail) =
      requestFromXmlL cls sw gs (renderProlog items' ++ renderW w' ++ trail') ∧
    responseFromXmlL cls sw gs (renderProlog items ++ renderW w ++ trail) =
      responseFromXmlL cls sw gs (renderProlog items' ++ renderW w' ++ trail') := by
  have h1 := C12_reader_layout_ksr cls hs sw w hp hh (renderProlog items) trail ht
    (index_after_skip _ _ _ (skip_prolog items hi) (ksr_prefix_renderW w hn))
  have h2 := C12_reader_layout_ksr cls hs sw w' hp' hh' (renderProlog items') trail' ht'
    (index_after_skip _ _ _ (skip_prolog items' hi') (ksr_prefix_renderW w' hn'))
  have he := dictOf_attrPerm _ _ hperm hu
  exact ⟨fromXmlWith_congr cls sw _ (fun _ _ => requestFromDict_congr gs) _ _ _ _ h1 h2 he,
    fromXmlWith_congr cls sw _ (fun _ _ => responseFromDict_congr gs) _ _ _ _ h1 h2 he⟩

/-- … in particular for `request_from_xml` / `response_from_xml` of the tree in /repo under the running
    Python's character classes: the two files load to the same object or fail alike -/
theorem C12_attr_order_py (w w' : WTree) (hn : w.name = "KSR".toList) (hn' : w'.name = "KSR".toList)
    (hp : PlainW pyClasses w) (hp' : PlainW pyClasses w') (hh : heightW w ≤ 5) (hh' : heightW w' ≤ 5)
    (hperm : AttrPermT (eraseT w) (eraseT w')) (hu : UniqueAttrsT (eraseT w))
    (items items' : List PrologItem) (hi : ∀ it ∈ items, it.Ok) (hi' : ∀ it ∈ items', it.Ok)
    (trail trail' : List Char) (ht : Ws pyClasses trail) (ht' : Ws pyClasses trail') (x x' : String)
    (hx : x.toList = renderProlog items ++ renderW w ++ trail)
    (hx' : x'.toList = renderProlog items' ++ renderW w' ++ trail') :
    requestFromXml x = requestFromXml x' ∧ responseFromXml x = responseFromXml x' := by
  obtain ⟨h1, h2⟩ := C12_attr_order pyClasses pyClasses_sane pySwitches pyGlueSwitches w w' hn hn' hp hp' hh hh' hperm hu
    items items' hi hi' trail trail' ht ht'
  unfold requestFromXml responseFromXml
  rw [hx, hx', h1, h2]
  exact ⟨rfl, rfl⟩

/-! ## 7. What may precede the KSR element -/

/-- **Anything preceding the KSR element is ignored**, for every prolog of the grammar of
    KskmProofs/Lemmas/XmlProlog.lean: XML declaration / processing instructions `<?…?>`, comments `<!--…-->`,
    `<!DOCTYPE…>`, `<`-free text between them — in any number and order, provided the four characters `<KSR` do
    not occur inside any of them. -/
theorem C12_reader_prolog (cls : Classes) (hs : Sane cls) (sw : Switches) (items : List PrologItem)
    (hi : ∀ it ∈ items, it.Ok) (w : WTree) (hn : w.name = "KSR".toList) (hp : PlainW cls w) (hh : heightW w ≤ 5)
    (trail : List Char) (ht : Ws cls trail) :
    parseKsr cls sw (renderProlog items ++ renderW w ++ trail) = .ok (dictOf (eraseT w)) :=
  C12_reader_layout_ksr cls hs sw w hp hh (renderProlog items) trail ht
    (index_after_skip _ _ _ (skip_prolog items hi) (ksr_prefix_renderW w hn))

/-- the same for the one-space rendering `renderT` of a `PTree` (the form `C12_reader_ksr` has, with the
    grammar in place of its semantic hypothesis) -/
theorem C12_reader_prolog_T (cls : Classes) (hs : Sane cls) (sw : Switches) (items : List PrologItem)
    (hi : ∀ it ∈ items, it.Ok) (t : PTree) (hn : t.name = "KSR".toList) (hp : PlainT cls t) (hh : heightT t ≤ 5)
    (trail : List Char) (ht : Ws cls trail) :
    parseKsr cls sw (renderProlog items ++ renderT t ++ trail) = .ok (dictOf t) := by
  apply C12_reader_ksr cls hs sw t hp hh (renderProlog items) trail ht
  have hpre : kKSRopen <+: renderT t := by
    have := ksr_prefix_renderW (ofP t) (by cases t <;> simpa [ofP, WTree.name, PTree.name] using hn)
    rwa [renderW_ofP] at this
  exact index_after_skip _ _ _ (skip_prolog items hi) hpre

/-- **The restriction is necessary**: a comment that contains `<KSR` is not ignored — `parse_ksr` starts
    reading inside the comment.  Here the reader returns a dict whose `KSR` is a STRING (the rest of the
    comment and the real start tag), where the standard reading has the element with its attribute; the
    glue then raises TypeError.  (Replayed on the real code: `{'KSR': '--><KSR id="1">v'}`.) -/
theorem ksr_in_comment_counterexample (sw : Switches) :
    parseKsr pyClasses sw "<!-- <KSR> --><KSR id=\"1\">v</KSR>".toList =
      .ok [("KSR".toList, s "--><KSR id=\"1\">v")] ∧
    parseKsr pyClasses sw "<!-- no such text --><KSR id=\"1\">v</KSR>".toList =
      .ok [("KSR".toList, d [("attrs", d [("id", s "1")]), ("value", s "v")])] ∧
    ∀ gs, requestFromDict gs (.dict [("KSR".toList, s "--><KSR id=\"1\">v")]) = err .type := by
  simp only [d, s, List.map]
  chars
  exact ⟨parseKsr_of_strict pyClasses sw (by decide +kernel) nofun, parseKsr_of_strict pyClasses sw (by decide +kernel) nofun,
    fun gs => rfl⟩

/-! ## Non-vacuity -/

/-- a small document in the reference clients' layout (indentation, self-closing `RSA`, a repeated
    element), as a PlainXml tree -/
def exampleTree : PTree :=
  .node "KSR".toList [("id".toList, "4fe9bb10".toList), ("domain".toList, ".".toList)] [] "\n  ".toList
    (.node "Request".toList [] [] "\n    ".toList
      (.leaf "TTL".toList [] [] "172800".toList)
      (.cons "\n    ".toList (.empty "RSA".toList [("size".toList, "2048".toList), ("exponent".toList, "65537".toList)] [])
        (.cons "\n    ".toList (.leaf "Signer".toList [("keyIdentifier".toList, "KC1".toList)] " ".toList [])
          (.cons "\t".toList (.empty "Signer".toList [("keyIdentifier".toList, "KC2".toList)] " ".toList) .nil)))
      "\n  ".toList)
    .nil "\n".toList

example : renderT exampleTree =
    ("<KSR id=\"4fe9bb10\" domain=\".\">\n  <Request>\n    <TTL>172800</TTL>\n    <RSA size=\"2048\" exponent=\"65537\"/>" ++
     "\n    <Signer keyIdentifier=\"KC1\" ></Signer>\t<Signer keyIdentifier=\"KC2\" />\n  </Request>\n</KSR>").toList := by
  rw [String.toList_append, exampleTree]
  chars
  decide +kernel

theorem exampleTree_plain : PlainT pyClasses exampleTree ∧ heightT exampleTree ≤ 5 := by
  rw [exampleTree]
  chars
  decide +kernel

/-- … which the reader therefore reads as its standard reading: `Signer` collected into a list -/
example : parse pyClasses pySwitches (renderT exampleTree ++ "\n".toList) = .ok (dictOf exampleTree) := by
  have := C12_reader_py exampleTree exampleTree_plain.1 exampleTree_plain.2 [] "\n".toList
    (by intro c hc; simp at hc) (by unfold Ws; decide +kernel)
  simpa using this

example : storeAll [] "Key".toList [s "1", s "2", s "3"] = [("Key".toList, .list [s "1", s "2", s "3"])] := by
  decide
example : storeAll [] "Key".toList [s "1"] = [("Key".toList, s "1")] := by decide
/-- distinct expirations: either document order sorts to the same list -/
example : sortByExpiration [tieA, { tieB with expiration := 5 }] = sortByExpiration [{ tieB with expiration := 5 }, tieA] :=
  C12_order _ _ (List.Perm.swap _ _ _) (by decide)

/-! ### non-vacuity of sections 5–7 -/

/-- `exampleTree` with tabs, several blanks and a form feed in front of the attributes, and the attributes
    of `KSR` and `RSA` in the other order -/
def exampleW : WTree :=
  .node "KSR".toList [("  ".toList, ("domain".toList, ".".toList)), ("\t ".toList, ("id".toList, "4fe9bb10".toList))] []
    "\n  ".toList
    (.node "Request".toList [] [] "\n    ".toList
      (.leaf "TTL".toList [] [] "172800".toList)
      (.cons "\n    ".toList (.empty "RSA".toList [("\t".toList, ("exponent".toList, "65537".toList)),
          (" \x0c ".toList, ("size".toList, "2048".toList))] [])
        (.cons "\n    ".toList (.leaf "Signer".toList [(" ".toList, ("keyIdentifier".toList, "KC1".toList))] " ".toList [])
          (.cons "\t".toList (.empty "Signer".toList [("   ".toList, ("keyIdentifier".toList, "KC2".toList))] " ".toList) .nil)))
      "\n  ".toList)
    .nil "\n".toList

example : renderW exampleW =
    ("<KSR  domain=\".\"\t id=\"4fe9bb10\">\n  <Request>\n    <TTL>172800</TTL>\n    <RSA\texponent=\"65537\" \x0c size=\"2048\"/>" ++
     "\n    <Signer keyIdentifier=\"KC1\" ></Signer>\t<Signer   keyIdentifier=\"KC2\" />\n  </Request>\n</KSR>").toList := by
  rw [String.toList_append, exampleW]
  chars
  decide +kernel

theorem exampleW_plain : PlainW pyClasses exampleW ∧ heightW exampleW ≤ 5 := by
  rw [exampleW]
  chars
  decide +kernel

/-- `exampleW` is `exampleTree` up to layout and attribute order, and no start tag repeats an attribute -/
theorem exampleW_perm : AttrPermT (eraseT exampleW) exampleTree ∧ UniqueAttrsT (eraseT exampleW) := by
  simp only [exampleW, exampleTree, eraseT, eraseF, wplain, AttrPermT, AttrPermF, UniqueAttrsT, UniqueAttrsF, List.map]
  refine ⟨⟨trivial, List.Perm.swap _ _ _, ⟨trivial, List.Perm.refl _, ⟨trivial, List.Perm.refl _, trivial⟩,
    ⟨trivial, List.Perm.swap _ _ _⟩, ⟨trivial, List.Perm.refl _, trivial⟩, ⟨trivial, List.Perm.refl _⟩, trivial⟩,
    trivial⟩, ?_⟩
  decide

/-- a prolog of the grammar: declaration, line break, a comment with markup in it, line break -/
def examplePrologItems : List PrologItem :=
  [.pi "xml version=\"1.0\" encoding=\"UTF-8\"".toList, .space "\n".toList,
   .comment " generated by <b>KSRSigner</b>; KSR follows ".toList, .space "\n".toList]

example : renderProlog examplePrologItems =
    "<?xml version=\"1.0\" encoding=\"UTF-8\"?>\n<!-- generated by <b>KSRSigner</b>; KSR follows -->\n".toList := by
  rw [examplePrologItems]
  chars
  decide +kernel

theorem examplePrologItems_ok : ∀ it ∈ examplePrologItems, it.Ok := by
  simp only [examplePrologItems, List.mem_cons, List.mem_nil_iff, or_false]
  rintro it (rfl | rfl | rfl | rfl) <;> simp only [PrologItem.Ok, NoKsr] <;> chars <;> decide +kernel

/-- the reader reads the differently laid out, differently ordered document behind that prolog, to a dict
    that is `==` to the one it reads from `exampleTree` -/
example : ∃ r r', parseKsr pyClasses pySwitches (renderProlog examplePrologItems ++ renderW exampleW ++ "\n".toList) = .ok r ∧
    parse pyClasses pySwitches (renderT exampleTree ++ "\n".toList) = .ok r' ∧ DictEq (.dict r) (.dict r') := by
  refine ⟨_, _, C12_reader_prolog pyClasses pyClasses_sane pySwitches _ examplePrologItems_ok exampleW rfl exampleW_plain.1
    exampleW_plain.2 "\n".toList (by unfold Ws; decide +kernel), ?_, dictOf_attrPerm _ _ exampleW_perm.1 exampleW_perm.2⟩
  have := C12_reader_py exampleTree exampleTree_plain.1 exampleTree_plain.2 [] "\n".toList
    (by intro c hc; simp at hc) (by unfold Ws; decide +kernel)
  simpa using this

/-- the two dicts differ as lists (document order of the attributes) — `DictEq` is not `=` -/
example : dictOf (eraseT exampleW) ≠ dictOf exampleTree := by decide +kernel

/-! ## 8. Sibling order at every level

"The result, and the verdict of validation, do not depend on the document order of bundles, keys, signatures
or child elements."  Sections 3 and 6 cover bundles (as a list handed to the glue) and attributes.  Here: ANY
permutation of the child elements of ANY elements of the document (`ChildPermT`,
KskmProofs/Lemmas/XmlChildPerm.lean) — `Key`, `Signature`, `Signer` siblings of a bundle, the
`SignatureAlgorithm` siblings of a policy, the bundles themselves, and children with distinct names
(`Inception` before or after `Expiration`, `RequestPolicy` before or after the `RequestBundle`s, …).

  1. reader: `_store_element` keeps same-named siblings as a list IN DOCUMENT ORDER, so the two dicts are not
     `==`; they are `DictPerm`: equal up to the order of the entries of those lists (`C12_child_order_reader`);
  2. glue: every such list ends in a Python `set` or in the sorted bundle list.  Both loaders raise or both
     return; the objects are the same up to the list representation of the `set` fields
     (`RequestSame` / `ResponseSame`, KskmProofs/Lemmas/XmlGlueSame.lean); with the sort by
     (expiration, inception, id) and pairwise distinct bundle ids — the hypothesis of `C12_order_key` — the
     bundle LISTS agree position by position (`SameRequest` / `SameResponsePerm`).  WHICH exception is raised
     when several siblings are faulty is the first one's in document order — only "both raise" is invariant
     (`sibling_order_error_class_witness`);
  3. verdict: `validate_request` accepts both or neither (rule by rule from C05 / C06 / C07,
     KskmProofs/Lemmas/XmlValidateSame.lean), likewise `validate_response`; hence `load_ksr` / `load_skr` return
     an object for both files or for neither (`load_skr`: stated in one direction, the hypotheses being symmetric).  An accepted KSR has pairwise distinct bundle ids, so no such
     hypothesis is left in `C12_sibling_order_load_ksr`.

Steps 2 and 3 use of the two documents only that the reader returns `DictPerm` dicts on their texts (`ReadPerm`), so
`C12_sibling_order_request` / `_verdict` / `_response` and `ReadPerm.loadKsr` / `.loadSkr` are stated about two such
texts; `readPerm_of_childPerm` is step 1 for two documents behind prologs, and `C12_sibling_order`, `…_load_ksr`,
`…_load_skr` are the instances. -/

/-- outcomes of a loader on two documents: both return, with `R`-related objects, or both raise; "still
    running" is not among the outcomes on plain documents -/
def LoadSame {α : Type} (R : α → α → Prop) : Load α → Load α → Prop
  | .done x, .done y => ResSame R x y
  | _, _ => False

theorem LoadSame.of_ok {α} {R : α → α → Prop} {r : α} {y : Load α} (h : LoadSame R (.done (.ok r)) y) :
    ∃ r', y = .done (.ok r') ∧ R r r' := by
  cases y with
  | hang => exact h.elim
  | done y =>
    cases y with
    | error e => exact (h : False).elim
    | ok r' => exact ⟨r', rfl, h⟩

/-- **Child order, at the reader.**  Two plain documents that differ in the ORDER of the child elements of
    their elements (and in any insignificant white space: `ChildPermT` compares the standard readings): the
    reader returns two dicts that are equal up to the order of the entries of the lists in which it collects
    same-named siblings (`DictPerm`). -/
theorem C12_child_order_reader (cls : Classes) (hs : Sane cls) (sw : Switches) (w w' : WTree)
    (hp : PlainW cls w) (hp' : PlainW cls w') (hh : heightW w ≤ 5) (hh' : heightW w' ≤ 5)
    (hperm : ChildPermT (eraseT w) (eraseT w'))
    (lead trail lead' trail' : List Char) (hl : Ws cls lead) (ht : Ws cls trail) (hl' : Ws cls lead')
    (ht' : Ws cls trail') :
    ∃ r r', parse cls sw (lead ++ renderW w ++ trail) = .ok r ∧ parse cls sw (lead' ++ renderW w' ++ trail') = .ok r' ∧
      DictPerm (.dict r) (.dict r') :=
  ⟨_, _, C12_reader_layout cls hs sw w hp hh lead trail hl ht, C12_reader_layout cls hs sw w' hp' hh' lead' trail' hl' ht',
    dictOf_childPerm _ _ hperm⟩

/-- the reader returns `DictPerm` dicts on the two texts: all that the theorems of this section use of two
    documents; `readPerm_of_childPerm` is where documents meet it -/
def ReadPerm (cls : Classes) (sw : Switches) (x x' : List Char) : Prop :=
  ∃ r r', parseKsr cls sw x = .ok r ∧ parseKsr cls sw x' = .ok r' ∧ DictPerm (.dict r) (.dict r')

section Texts
variable {cls : Classes} {sw : Switches} {x x' : List Char}

theorem ReadPerm.symm (h : ReadPerm cls sw x x') : ReadPerm cls sw x' x :=
  let ⟨r, r', h1, h2, he⟩ := h
  ⟨r', r, h2, h1, he.symm⟩

/-- a loader built from `parse_ksr` and a glue function that maps `DictPerm` dicts to `R`-related outcomes -/
theorem ReadPerm.load {α} (h : ReadPerm cls sw x x') {glue : XVal → Res α} {R : α → α → Prop}
    (hglue : ∀ a b, DictPerm a b → ResSame R (glue a) (glue b)) :
    LoadSame R (fromXmlWith cls sw glue x) (fromXmlWith cls sw glue x') := by
  obtain ⟨r, r', h1, h2, he⟩ := h
  unfold fromXmlWith
  rw [h1, h2]
  exact hglue _ _ he

/-- **Sibling order, in the property's words, for requests.**  Two texts whose readings differ only in the order
    of same-named siblings (`ReadPerm`): if the first loads, to `r`, the second loads too, to some `r'` with the
    same header, a declared policy with the same SET of algorithms and the same bundles up to the `set` fields;
    under the sort by (expiration, inception, id) and pairwise distinct bundle ids `r'` is `r` bundle by bundle:
    `SameRequest r r'` — Python's `r == r'`. -/
theorem C12_sibling_order_request (h : ReadPerm cls sw x x') (gs : GlueSwitches) {r : Request}
    (hr : requestFromXmlL cls sw gs x = .done (.ok r)) :
    ∃ r', requestFromXmlL cls sw gs x' = .done (.ok r') ∧
      RequestSame gs.sortsRequestBundlesByTriple r r' ∧ C06.DeclaredWellFormed r ∧
      (gs.sortsRequestBundlesByTriple = true →
        (r.bundles.Pairwise (fun a b => a.id ≠ b.id) ∨ r'.bundles.Pairwise (fun a b => a.id ≠ b.id)) →
        SameRequest r r') := by
  have hs := h.load (fun _ _ => requestFromDict_same gs)
  obtain ⟨d, _, hd⟩ := fromXmlWith_ok_iff.mp hr
  unfold requestFromXmlL at hr ⊢
  rw [hr] at hs
  obtain ⟨r', hr', hs⟩ := hs.of_ok
  exact ⟨r', hr', hs, C06.declaredWellFormed_of_parsed gs _ r hd, fun hgs hd => RequestSame.same (hgs ▸ hs) hd⟩

/-- **The verdict of validation does not depend on the order of child elements** (requests; the sort by
    (expiration, inception, id) of the repaired glue).  If both texts load, `validate_request` accepts both
    or neither — for every verifier, clock value and policy — and an accepted pair is `SameRequest`.  No
    hypothesis on the bundle ids is left: a request with a repeated id is refused in either order. -/
theorem C12_sibling_order_verdict (h : ReadPerm cls sw x x') {gs : GlueSwitches}
    (hgs : gs.sortsRequestBundlesByTriple = true) {r r' : Request}
    (hr : requestFromXmlL cls sw gs x = .done (.ok r)) (hr' : requestFromXmlL cls sw gs x' = .done (.ok r'))
    (verify : Verifier) (now : Int) (pol : RequestPolicy) :
    (validateRequest verify now r pol = .ok () ↔ validateRequest verify now r' pol = .ok ()) ∧
    (validateRequest verify now r pol = .ok () → SameRequest r r') := by
  obtain ⟨r'', hr'', hs, hwf, _⟩ := C12_sibling_order_request h gs hr
  cases Except.ok.inj (Load.done.inj (hr'.symm.trans hr''))
  exact validateRequest_requestSame (hgs ▸ hs) hwf verify now pol

/-- **… for responses**, with no hypothesis at all: if the first text loads, so does the second — to
    the same response up to `set` fields and bundle order (`ResponseSame`; bundle by bundle under the sort and
    distinct ids) — and `validate_response` and the gate of `load_skr` accept both or neither. -/
theorem C12_sibling_order_response (h : ReadPerm cls sw x x') (gs : GlueSwitches) {r : Response}
    (hr : responseFromXmlL cls sw gs x = .done (.ok r)) :
    ∃ r', responseFromXmlL cls sw gs x' = .done (.ok r') ∧
      ResponseSame gs.sortsResponseBundles r r' ∧
      (gs.sortsResponseBundles = true →
        (r.bundles.Pairwise (fun a b => a.id ≠ b.id) ∨ r'.bundles.Pairwise (fun a b => a.id ≠ b.id)) →
        SameResponsePerm r r') ∧
      ∀ (verify : Verifier) (pol : ResponsePolicy),
        (validateResponse verify r pol = .ok () ↔ validateResponse verify r' pol = .ok ()) ∧
        (loadSkrGate verify r pol = .ok () ↔ loadSkrGate verify r' pol = .ok ()) := by
  have hs := h.load (fun _ _ => responseFromDict_same gs)
  unfold responseFromXmlL at hr ⊢
  rw [hr] at hs
  obtain ⟨r', hr', hs⟩ := hs.of_ok
  exact ⟨r', hr', hs, fun hgs hd => ResponseSame.same (hgs ▸ hs) hd, fun verify pol =>
    ⟨validateResponse_same verify pol hs.bundles.1, loadSkrGate_same verify pol hs.bundles.1⟩⟩

/-- `load_ksr` on two files with such texts (size gate passed, the bytes decode to them; the repaired sort): the
    first returns a `Request` only if the second does, and the two are `SameRequest`.  The other direction is
    this one at `h.symm`. -/
theorem ReadPerm.loadKsr (h : ReadPerm cls sw x x') {gs : GlueSwitches} (hgs : gs.sortsRequestBundlesByTriple = true)
    (verify : Verifier) (now : Int) (pol : RequestPolicy) (ro : Bool) {f f' : FileOracle}
    (hsz : f.statSize ≤ KskmGen.maxKsrSize) (hsz' : f'.statSize ≤ KskmGen.maxKsrSize)
    (hd : f.decode (f.read KskmGen.maxKsrSize) = some x) (hd' : f'.decode (f'.read KskmGen.maxKsrSize) = some x')
    (r : Request) (hl : (loadKsr cls sw gs verify now f pol ro).result = .done (.ok r)) :
    ∃ r', (loadKsr cls sw gs verify now f' pol ro).result = .done (.ok r') ∧ SameRequest r r' := by
  obtain ⟨hr, hv⟩ := (loadKsr_ok_iff cls sw gs verify now f pol ro hsz _ hd r).mp hl
  obtain ⟨r', hr', _⟩ := C12_sibling_order_request h gs hr
  obtain ⟨hiff, hsame⟩ := C12_sibling_order_verdict h hgs hr hr' verify now pol
  exact ⟨r', (loadKsr_ok_iff cls sw gs verify now f' pol ro hsz' _ hd' r').mpr ⟨hr', hiff.mp hv⟩, hsame hv⟩

/-- `load_skr`, likewise, for every value of the switches -/
theorem ReadPerm.loadSkr (h : ReadPerm cls sw x x') (gs : GlueSwitches) (verify : Verifier) (pol : ResponsePolicy)
    {f f' : FileOracle} (hsz : f.statSize ≤ KskmGen.maxSkrSize) (hsz' : f'.statSize ≤ KskmGen.maxSkrSize)
    (hd : f.decode (f.read KskmGen.maxSkrSize) = some x) (hd' : f'.decode (f'.read KskmGen.maxSkrSize) = some x')
    (r : Response) (hl : (loadSkr cls sw gs verify f pol).result = .done (.ok r)) :
    ∃ r', (loadSkr cls sw gs verify f' pol).result = .done (.ok r') ∧ ResponseSame gs.sortsResponseBundles r r' := by
  obtain ⟨hr, hv⟩ := (loadSkr_ok_iff cls sw gs verify f pol hsz _ hd r).mp hl
  obtain ⟨r', hr', hs, _, hverd⟩ := C12_sibling_order_response h gs hr
  exact ⟨r', (loadSkr_ok_iff cls sw gs verify f' pol hsz' _ hd' r').mpr ⟨hr', (hverd verify pol).2.mp hv⟩, hs⟩

end Texts

/-- two plain KSR/SKR documents, each behind a prolog of the grammar, that differ in the order of the child
    elements of any of their elements (and in layout) -/
theorem readPerm_of_childPerm (cls : Classes) (hs : Sane cls) (sw : Switches) (w w' : WTree)
    (hn : w.name = "KSR".toList) (hn' : w'.name = "KSR".toList)
    (hp : PlainW cls w) (hp' : PlainW cls w') (hh : heightW w ≤ 5) (hh' : heightW w' ≤ 5)
    (hperm : ChildPermT (eraseT w) (eraseT w'))
    (items items' : List PrologItem) (hi : ∀ it ∈ items, it.Ok) (hi' : ∀ it ∈ items', it.Ok)
    (trail trail' : List Char) (ht : Ws cls trail) (ht' : Ws cls trail') :
    ReadPerm cls sw (renderProlog items ++ renderW w ++ trail) (renderProlog items' ++ renderW w' ++ trail') :=
  ⟨_, _, C12_reader_prolog cls hs sw items hi w hn hp hh trail ht,
    C12_reader_prolog cls hs sw items' hi' w' hn' hp' hh' trail' ht', dictOf_childPerm _ _ hperm⟩

/-- Two plain KSR/SKR documents, each behind a prolog of the grammar, that differ in the
    order of the child elements of any of their elements (and in layout): `request_from_xml` raises on both or
    returns on both — `Request`s that are the same up to the representation of the `set` fields (keys,
    signatures, signers, algorithms: permutations of the same duplicate-free lists), with the same bundles,
    position by position when the sort is by (expiration, inception, id) and the ids are pairwise distinct
    (`RequestSame`, `BundlesSame`) —, and so does `response_from_xml`; for either value of every behaviour
    switch. -/
theorem C12_sibling_order (cls : Classes) (hs : Sane cls) (sw : Switches) (gs : GlueSwitches) (w w' : WTree)
    (hn : w.name = "KSR".toList) (hn' : w'.name = "KSR".toList)
    (hp : PlainW cls w) (hp' : PlainW cls w') (hh : heightW w ≤ 5) (hh' : heightW w' ≤ 5)
    (hperm : ChildPermT (eraseT w) (eraseT w'))
    (items items' : List PrologItem) (hi : ∀ it ∈ items, it.Ok) (hi' : ∀ it ∈ items', it.Ok)
    (trail trail' : List Char) (ht : Ws cls trail) (ht' : Ws cls trail') :
    LoadSame (RequestSame gs.sortsRequestBundlesByTriple)
      (requestFromXmlL cls sw gs (renderProlog items ++ renderW w ++ trail))
      (requestFromXmlL cls sw gs (renderProlog items' ++ renderW w' ++ trail')) ∧
    LoadSame (ResponseSame gs.sortsResponseBundles)
      (responseFromXmlL cls sw gs (renderProlog items ++ renderW w ++ trail))
      (responseFromXmlL cls sw gs (renderProlog items' ++ renderW w' ++ trail')) :=
  have h := readPerm_of_childPerm cls hs sw w w' hn hn' hp hp' hh hh' hperm items items' hi hi' trail trail' ht ht'
  ⟨h.load fun _ _ => requestFromDict_same gs, h.load fun _ _ => responseFromDict_same gs⟩

/-- **`load_ksr` on two files that differ in the order of child elements** (size gate passed, the bytes decode
    to the two documents; the repaired sort): a `Request` comes back for both files or for neither, and the
    two are `SameRequest` — the same object for Python's `==`. -/
theorem C12_sibling_order_load_ksr (cls : Classes) (hs : Sane cls) (sw : Switches) (gs : GlueSwitches)
    (hgs : gs.sortsRequestBundlesByTriple = true) (w w' : WTree)
    (hn : w.name = "KSR".toList) (hn' : w'.name = "KSR".toList)
    (hp : PlainW cls w) (hp' : PlainW cls w') (hh : heightW w ≤ 5) (hh' : heightW w' ≤ 5)
    (hperm : ChildPermT (eraseT w) (eraseT w'))
    (items items' : List PrologItem) (hi : ∀ it ∈ items, it.Ok) (hi' : ∀ it ∈ items', it.Ok)
    (trail trail' : List Char) (ht : Ws cls trail) (ht' : Ws cls trail')
    (verify : Verifier) (now : Int) (pol : RequestPolicy) (ro : Bool) (f f' : FileOracle)
    (hsz : f.statSize ≤ KskmGen.maxKsrSize) (hsz' : f'.statSize ≤ KskmGen.maxKsrSize)
    (hd : f.decode (f.read KskmGen.maxKsrSize) = some (renderProlog items ++ renderW w ++ trail))
    (hd' : f'.decode (f'.read KskmGen.maxKsrSize) = some (renderProlog items' ++ renderW w' ++ trail')) :
    (∀ r, (loadKsr cls sw gs verify now f pol ro).result = .done (.ok r) →
      ∃ r', (loadKsr cls sw gs verify now f' pol ro).result = .done (.ok r') ∧ SameRequest r r') ∧
    (∀ r', (loadKsr cls sw gs verify now f' pol ro).result = .done (.ok r') →
      ∃ r, (loadKsr cls sw gs verify now f pol ro).result = .done (.ok r) ∧ SameRequest r r') := by
  have h := readPerm_of_childPerm cls hs sw w w' hn hn' hp hp' hh hh' hperm items items' hi hi' trail trail' ht ht'
  refine ⟨h.loadKsr hgs verify now pol ro hsz hsz' hd hd', fun r' hl' => ?_⟩
  obtain ⟨r, hl, hsame⟩ := h.symm.loadKsr hgs verify now pol ro hsz' hsz hd' hd r' hl'
  exact ⟨r, hl, hsame.symm⟩

/-- **`load_skr`, likewise** — for every value of the switches: when a `Response` comes back for the first file,
    one comes back for the second (and the hypotheses are symmetric); the same response up to `set` fields (and, without the sort or with repeated ids, bundle order). -/
theorem C12_sibling_order_load_skr (cls : Classes) (hs : Sane cls) (sw : Switches) (gs : GlueSwitches) (w w' : WTree)
    (hn : w.name = "KSR".toList) (hn' : w'.name = "KSR".toList)
    (hp : PlainW cls w) (hp' : PlainW cls w') (hh : heightW w ≤ 5) (hh' : heightW w' ≤ 5)
    (hperm : ChildPermT (eraseT w) (eraseT w'))
    (items items' : List PrologItem) (hi : ∀ it ∈ items, it.Ok) (hi' : ∀ it ∈ items', it.Ok)
    (trail trail' : List Char) (ht : Ws cls trail) (ht' : Ws cls trail')
    (verify : Verifier) (pol : ResponsePolicy) (f f' : FileOracle)
    (hsz : f.statSize ≤ KskmGen.maxSkrSize) (hsz' : f'.statSize ≤ KskmGen.maxSkrSize)
    (hd : f.decode (f.read KskmGen.maxSkrSize) = some (renderProlog items ++ renderW w ++ trail))
    (hd' : f'.decode (f'.read KskmGen.maxSkrSize) = some (renderProlog items' ++ renderW w' ++ trail'))
    (r : Response) (hl : (loadSkr cls sw gs verify f pol).result = .done (.ok r)) :
    ∃ r', (loadSkr cls sw gs verify f' pol).result = .done (.ok r') ∧ ResponseSame gs.sortsResponseBundles r r' :=
  (readPerm_of_childPerm cls hs sw w w' hn hn' hp hp' hh hh' hperm items items' hi hi' trail trail' ht ht').loadSkr
    gs verify pol hsz hsz' hd hd' r hl

/-- **When only differently named siblings change places** (`ChildMoveT`: same-named siblings keep their
    relative order — `Inception` after `Expiration`, `RequestPolicy` after the `RequestBundle`s, a `Signer` between
    two `Key`s): the reader's dicts are `==` and the loaders return the SAME object, or raise the same error. -/
theorem C12_child_order_distinct_names (cls : Classes) (hs : Sane cls) (sw : Switches) (gs : GlueSwitches) (w w' : WTree)
    (hn : w.name = "KSR".toList) (hn' : w'.name = "KSR".toList)
    (hp : PlainW cls w) (hp' : PlainW cls w') (hh : heightW w ≤ 5) (hh' : heightW w' ≤ 5)
    (hmove : ChildMoveT (eraseT w) (eraseT w'))
    (items items' : List PrologItem) (hi : ∀ it ∈ items, it.Ok) (hi' : ∀ it ∈ items', it.Ok)
    (trail trail' : List Char) (ht : Ws cls trail) (ht' : Ws cls trail') :
    requestFromXmlL cls sw gs (renderProlog items ++ renderW w ++ trail) =
      requestFromXmlL cls sw gs (renderProlog items' ++ renderW w' ++ trail') ∧
    responseFromXmlL cls sw gs (renderProlog items ++ renderW w ++ trail) =
      responseFromXmlL cls sw gs (renderProlog items' ++ renderW w' ++ trail') := by
  have h1 := C12_reader_prolog cls hs sw items hi w hn hp hh trail ht
  have h2 := C12_reader_prolog cls hs sw items' hi' w' hn' hp' hh' trail' ht'
  have he := dictOf_childMove _ _ hmove
  exact ⟨fromXmlWith_congr cls sw _ (fun _ _ => requestFromDict_congr gs) _ _ _ _ h1 h2 he,
    fromXmlWith_congr cls sw _ (fun _ _ => responseFromDict_congr gs) _ _ _ _ h1 h2 he⟩

/-! ### what is NOT invariant, and why the statements above have the form they have -/

/-- **The model's lists show the document order; the Python sets do not.**  Two `SignatureAlgorithm` siblings in
    the two orders load to the lists `[8, 10]` and `[10, 8]`: `=` on the model's `Request` would be false where
    Python's `==` is true — hence `SameRequest` (permutations of duplicate-free lists). -/
theorem sibling_order_set_witness (gs : GlueSwitches) :
    (requestFromDict gs (.dict (dictOf (eraseT SiblingExample.doc)))).map (·.zskPolicy.algorithms) =
      .ok [SiblingExample.p8, SiblingExample.p10] ∧
    (requestFromDict gs (.dict (dictOf (eraseT SiblingExample.docP)))).map (·.zskPolicy.algorithms) =
      .ok [SiblingExample.p10, SiblingExample.p8] ∧
    [SiblingExample.p8, SiblingExample.p10].Perm [SiblingExample.p10, SiblingExample.p8] ∧
    [SiblingExample.p8, SiblingExample.p10] ≠ [SiblingExample.p10, SiblingExample.p8] := by
  exact ⟨(SiblingExample.doc_algs gs).1, (SiblingExample.doc_algs gs).2, List.Perm.swap _ _ _, by decide⟩

/-- **Which exception comes out depends on the order when several siblings are faulty**: `_keys_from_list`
    raises at the first faulty `Key` in document order — a `KeyError` for an element without attributes, a
    `TypeError` for a text-only element.  Both orders raise (that is what `C12_sibling_order` states); the
    classes differ. -/
theorem sibling_order_error_class_witness :
    ListPerm [.dict [], .str []] [.str [], .dict []] ∧
    keysOf (.list [.dict [], .str []]) = err .key ∧ keysOf (.list [.str [], .dict []]) = err .type :=
  ⟨.swap _ _ _, by decide, by decide⟩

/-! ### non-vacuity of section 8 -/

/-- the hypotheses of `C12_sibling_order` hold of `SiblingExample.doc` / `docP` (KskmProofs/Lemmas/XmlChildPermExample.lean:
    a request policy with six durations and two signature algorithms, five levels deep; in `docP` the children of
    `ZSK` stand in another order, with other white space) behind `examplePrologItems` … -/
example : SiblingExample.doc.name = "KSR".toList ∧ SiblingExample.docP.name = "KSR".toList ∧
    PlainW pyClasses SiblingExample.doc ∧ PlainW pyClasses SiblingExample.docP ∧
    heightW SiblingExample.doc ≤ 5 ∧ heightW SiblingExample.docP ≤ 5 ∧
    ChildPermT (eraseT SiblingExample.doc) (eraseT SiblingExample.docP) ∧
    (∀ it ∈ examplePrologItems, it.Ok) ∧ Ws pyClasses "\n".toList :=
  ⟨SiblingExample.doc_names.1, SiblingExample.doc_names.2, SiblingExample.doc_plain.1, SiblingExample.docP_plain.1,
    SiblingExample.doc_plain.2, SiblingExample.docP_plain.2, SiblingExample.doc_perm, examplePrologItems_ok,
    by unfold Ws; decide +kernel⟩

/-- … so the theorem applies: its conclusion for the two texts (the type is the instance of `C12_sibling_order`) -/
example := C12_sibling_order pyClasses pyClasses_sane pySwitches pyGlueSwitches SiblingExample.doc SiblingExample.docP
  SiblingExample.doc_names.1 SiblingExample.doc_names.2 SiblingExample.doc_plain.1 SiblingExample.docP_plain.1
  SiblingExample.doc_plain.2 SiblingExample.docP_plain.2 SiblingExample.doc_perm examplePrologItems []
  examplePrologItems_ok (by intro it h; simp at h) "\n".toList [] (by unfold Ws; decide +kernel)
  (by intro c hc; simp at hc)

/-- … and the outcome is "both return" (not "both raise"): the first document loads, behind the prolog -/
example : ∃ r, requestFromXmlL pyClasses pySwitches pyGlueSwitches
      (renderProlog examplePrologItems ++ renderW SiblingExample.doc ++ "\n".toList) = .done (.ok r) ∧
    r.zskPolicy.algorithms = [SiblingExample.p8, SiblingExample.p10] := by
  obtain ⟨r, hr, ha⟩ := SiblingExample.doc_request pyGlueSwitches
  exact ⟨r, SiblingExample.fromXmlWith_ok (C12_reader_prolog pyClasses pyClasses_sane pySwitches examplePrologItems
    examplePrologItems_ok SiblingExample.doc SiblingExample.doc_names.1 SiblingExample.doc_plain.1
    SiblingExample.doc_plain.2 "\n".toList (by unfold Ws; decide +kernel)) hr, ha⟩

/-- `docM` (`RetireSafety` before `PublishSafety`) meets the hypotheses of `C12_child_order_distinct_names` -/
example : PlainW pyClasses SiblingExample.docM ∧ heightW SiblingExample.docM ≤ 5 ∧
    ChildMoveT (eraseT SiblingExample.doc) (eraseT SiblingExample.docM) :=
  ⟨SiblingExample.docM_plain.1, SiblingExample.docM_plain.2, SiblingExample.doc_move⟩

/-- the two readings differ as values — `DictPerm` is not `=` -/
example : dictOf (eraseT SiblingExample.docP) ≠ dictOf (eraseT SiblingExample.doc) := SiblingExample.doc_dict_ne

end Kskm.C12
