/-
  C13 — loading any file terminates promptly: a fully validated object or a clean error.

  The reader of /repo has two `while` loops that advance only when a regular expression matches; the
  model (Kskm/Xml.lean) gives each loop explicit fuel and answers `outOfFuel` when it is used up.
  The theorems below say, for EVERY input string and ANY character classes:

  * each iteration of either loop hands a strictly shorter string to the next one, or ends the loop —
    with ONE exception: on the pinned tree an attribute string the expression does not match is looked
    at again, unchanged (`parseAttrs_progress`, second alternative);
  * hence with the repaired attribute loop (`attrsLoopFailsOnNoMatch = true`) `len + 1` units of fuel
    are never used up anywhere (`no_fuel_exhaustion`), the loops run at most `len` times, every index
    lies inside the input and every slice is a slice of the input (`iteration_bounds`);
  * with the pinned attribute loop (`= false`) the model answers `outOfFuel` for every amount of fuel on
    the concrete witness `id='foo'` (`parseAttrs_diverges`) — the real code hangs on it (finding F1,
    replayed under a watchdog by harness/corr_C13.py);
  * `C13_current_tree` instantiates whichever of the two applies to the switch value that
    harness/extract_tables.py tabulates from the code (`KskmGen.attrsLoopFailsOnNoMatch`);
  * `load_all_or_nothing`: `load_ksr` / `load_skr` return an object only after the whole document was
    read into it AND `validate_request` / `validate_response` accepted it; `size_gate`: a file larger than
    the cap is refused without `read` being consulted.

  Not proved (cannot be, in a functional model): wall-clock time inside the `re` engine — the
  quadratic start-tag expression (F5) is observed by the watchdog of the correspondence run.
-/
import Kskm.XmlGlue
import KskmProofs.Lemmas.XmlFuel
import KskmProofs.Lemmas.XmlSwitches
import KskmProofs.Lemmas.XmlClasses
import KskmProofs.Lemmas.Literals
namespace Kskm.C13
open Kskm.Xml

/-! ## 1. Progress of the two loops -/

/-- **Attribute loop.** One iteration on a non-empty string either
    (1) matches and goes on with a remainder that is at least five characters shorter and is a piece
        of the string it was given, or
    (2) does not match — then it returns / raises, or, with the pinned code
        (`attrsLoopFailsOnNoMatch = false`), goes round again with the SAME (stripped) string. -/
theorem parseAttrs_progress (cls : Classes) (sw : Switches) (fuel : Nat) (a : List Char) (acc : Attrs)
    (ha : a ≠ []) :
    (∃ n v rest, rest.length + 5 ≤ a.length ∧ rest <:+: a ∧
        parseAttrs cls sw (fuel + 1) a acc = parseAttrs cls sw fuel rest (dictSet acc n v)) ∨
    (matchAttr cls (strip cls.isStrip a) = none ∧
        parseAttrs cls sw (fuel + 1) a acc =
          if (strip cls.isStrip a).isEmpty then
            (if sw.attrsBlankFails then .err .value else .ok acc)
          else if sw.attrsLoopFailsOnNoMatch then .err .value
          else parseAttrs cls sw fuel (strip cls.isStrip a) acc) := by
  have hne : a.isEmpty = false := by cases a <;> simp_all
  cases hm : matchAttr cls (strip cls.isStrip a) with
  | some t =>
    obtain ⟨n, v, rest⟩ := t
    left
    refine ⟨n, v, rest, ?_, ?_, ?_⟩
    · have := matchAttr_consumes cls _ n v rest hm
      have := strip_length_le cls.isStrip a
      omega
    · exact (matchAttr_infix cls _ n v rest hm).2.2.trans (strip_infix _ _)
    · rw [parseAttrs]; simp [hne, hm]
  | none =>
    right
    refine ⟨rfl, ?_⟩
    rw [parseAttrs]
    simp only [hne, Bool.false_eq_true, ↓reduceIte, hm]
    split
    · rename_i hs
      have : strip cls.isStrip a = [] := by simpa using hs
      split
      · rfl
      · rw [this, parseAttrs_nil]
    · rfl

/-- **Element loop.** An iteration that goes round again hands over a string that is at least three
    characters shorter and is a piece of the one it was given. -/
theorem parseRecursively_progress (cls : Classes) (sw : Switches) (inner : List Char → Out Dict)
    (xml xml' : List Char) (res res' : Dict) (h : parseStep cls sw inner xml res = .next xml' res') :
    xml'.length + 3 ≤ xml.length ∧ xml' <:+: xml :=
  parseStep_progress cls sw inner xml xml' res res' h

/-! ## 2. With the repaired attribute loop, fuel never runs out -/

/-- **No fuel exhaustion**, for every input, any character classes, any recursion bound. -/
theorem no_fuel_exhaustion (cls : Classes) (sw : Switches) (hsw : sw.attrsLoopFailsOnNoMatch = true) :
    (∀ a, parseAttrs cls sw (a.length + 1) a [] ≠ .outOfFuel) ∧
    (∀ d xml, parseRec cls sw d xml ≠ .outOfFuel) ∧
    (∀ xml, parse cls sw xml ≠ .outOfFuel) ∧
    (∀ xml, parseKsr cls sw xml ≠ .outOfFuel) := by
  refine ⟨fun a => parseAttrs_ne_outOfFuel cls sw hsw _ a [] (by omega),
    parseRec_ne_outOfFuel cls sw hsw, fun xml => parseRec_ne_outOfFuel cls sw hsw 5 xml, ?_⟩
  intro xml
  unfold parseKsr
  split
  · simp
  · exact parseRec_ne_outOfFuel cls sw hsw 5 _

theorem loaders_terminate (cls : Classes) (sw : Switches) (gs : GlueSwitches)
    (hsw : sw.attrsLoopFailsOnNoMatch = true) (xml : List Char) :
    requestFromXmlL cls sw gs xml ≠ .hang ∧ responseFromXmlL cls sw gs xml ≠ .hang := by
  have h := (no_fuel_exhaustion cls sw hsw).2.2.2 xml
  unfold requestFromXmlL responseFromXmlL fromXmlWith
  constructor
  · split
    · simp
    · simp
    · rename_i hh; exact absurd hh h
  · split
    · simp
    · simp
    · rename_i hh; exact absurd hh h

/-! ## 3. With the pinned attribute loop, a concrete input diverges (finding F1) -/

/-- a non-empty string that `strip` leaves alone and the expression does not match is looked at
    again and again: no amount of fuel suffices -/
theorem parseAttrs_diverges_of (cls : Classes) (sw : Switches) (hsw : sw.attrsLoopFailsOnNoMatch = false)
    (a : List Char) (ha : a ≠ []) (hstrip : strip cls.isStrip a = a) (hm : matchAttr cls a = none) :
    ∀ (fuel : Nat) (acc : Attrs), parseAttrs cls sw fuel a acc = .outOfFuel
  | 0, acc => by cases a <;> simp_all [parseAttrs]
  | fuel + 1, acc => by rw [parseAttrs_unmatched cls sw ha hstrip hm, hsw]; rfl

/-- **The witness** `id='foo'` (single quotes): for ANY word/space classes, provided `i` and `'` are
    not whitespace for `strip`, and for EVERY amount of fuel. -/
theorem parseAttrs_diverges (cls : Classes) (sw : Switches) (hsw : sw.attrsLoopFailsOnNoMatch = false)
    (h1 : cls.isStrip 'i' = false) (h2 : cls.isStrip '\'' = false) :
    ∀ (fuel : Nat) (acc : Attrs), parseAttrs cls sw fuel "id='foo'".toList acc = .outOfFuel := by
  apply parseAttrs_diverges_of cls sw hsw
  · decide
  · have : "id='foo'".toList = ['i', 'd', '=', '\'', 'f', 'o', 'o', '\''] := by decide
    rw [this]
    simp [strip, lstrip, rstrip, List.dropWhile, h1, h2]
  · exact matchAttr_none_of_no_quote cls _ (by decide)

theorem parseAttrs_diverges_py (sw : Switches) (hsw : sw.attrsLoopFailsOnNoMatch = false) :
    ∀ (fuel : Nat) (acc : Attrs), parseAttrs pyClasses sw fuel "id='foo'".toList acc = .outOfFuel :=
  parseAttrs_diverges pyClasses sw hsw (by decide +kernel) (by decide +kernel)

/-- … and so the whole document `<KSR id='foo'></KSR>` of DESIGN §5 F1 never loads -/
theorem parse_diverges_py (sw : Switches) (gs : GlueSwitches) (hsw : sw.attrsLoopFailsOnNoMatch = false) :
    parseKsr pyClasses sw "<KSR id='foo'></KSR>".toList = .outOfFuel ∧
    requestFromXmlL pyClasses sw gs "<KSR id='foo'></KSR>".toList = .hang := by
  have key : parseKsr pyClasses sw "<KSR id='foo'></KSR>".toList = .outOfFuel := by
    chars
    refine (parseKsr_of_index (i := 0) ?_).trans ((parseRec_attrs_unmatched pyClasses sw 5 _ ['K', 'S', 'R'] [' ']
      ['i', 'd', '=', '\'', 'f', 'o', 'o', '\''] [] ?_ ?_ ?_).trans (by rw [hsw]; rfl)) <;> decide +kernel
  refine ⟨key, ?_⟩
  unfold requestFromXmlL fromXmlWith
  rw [key]

/-! ## 4. Iteration bounds, index bounds, slices -/

/-- **Bounds.** With the repaired attribute loop:
    * the attribute loop runs at most `|attrs|` times, the element loop at most `|xml|` times
      (any fuel beyond `len + 1` gives the same answer as `len + 1`, and that answer is not `outOfFuel`);
    * the recursion is at most `recurse + 1 = 6` levels deep: level 0 does not descend;
    * every element consumes ≥ 3 characters, every index lies inside the input, and the name, the value
      and the attribute text of every element are contiguous pieces of the input. -/
theorem iteration_bounds (cls : Classes) (sw : Switches) (hsw : sw.attrsLoopFailsOnNoMatch = true) :
    (∀ (a : List Char) (acc : Attrs) (n : Nat), a.length + 1 ≤ n →
        parseAttrs cls sw n a acc = parseAttrs cls sw (a.length + 1) a acc) ∧
    (∀ (inner : List Char → Out Dict), (∀ v, inner v ≠ .outOfFuel) →
        ∀ (xml : List Char) (res : Dict) (n : Nat), xml.length + 1 ≤ n →
          parseLoop cls sw inner n xml res = parseLoop cls sw inner (xml.length + 1) xml res) ∧
    (∀ xml, parse cls sw xml = parseRec cls sw 5 xml) ∧
    (∀ xml, parseRec cls sw 0 xml = parseLoop cls sw (fun _ => .err .value) (xml.length + 1) xml []) ∧
    (∀ d xml, parseRec cls sw (d + 1) xml = parseLoop cls sw (parseRec cls sw d) (xml.length + 1) xml []) ∧
    (∀ (xml : List Char) (el : Element) (e : Nat), parseFirstElement cls sw xml = .ok (el, e) →
        3 ≤ e ∧ e ≤ xml.length ∧ el.value <:+: xml ∧ el.name <:+: xml) ∧
    (∀ (xml n ws a s : List Char), matchTag1 cls xml = some (n, ws, a, s) → a <:+: xml) := by
  refine ⟨?_, ?_, fun _ => rfl, fun _ => rfl, fun _ _ => rfl, parseFirstElement_bounds cls sw, ?_⟩
  · intro a acc n hn
    exact parseAttrs_fuel_stable cls sw _ a acc (parseAttrs_ne_outOfFuel cls sw hsw _ a acc (by omega)) n hn
  · intro inner hinner xml res n hn
    exact parseLoop_fuel_stable cls sw inner _ xml res
      (parseLoop_ne_outOfFuel cls sw hsw inner hinner _ xml res (by omega)) n hn
  · intro xml n ws a s h
    obtain ⟨rest, hx, _⟩ := matchTag1_decomp cls xml n ws a s h
    rw [hx]
    exact ⟨'<' :: (n ++ ws), s ++ '>' :: rest, by simp [List.append_assoc]⟩

/-- the recursion bound bites: six levels of nesting load, seven do not (the repo's
    `test_too_much_recursion`, at the default bound) -/
theorem recursion_bound_witness (sw : Switches) :
    parse pyClasses sw "<a><b><c><d><e><f>x</f></e></d></c></b></a>".toList =
      .ok [("a".toList, .dict [("b".toList, .dict [("c".toList, .dict [("d".toList, .dict [("e".toList,
        .dict [("f".toList, .str "x".toList)])])])])])] ∧
    parse pyClasses sw "<a><b><c><d><e><f><g>x</g></f></e></d></c></b></a>".toList = .err .value := by
  chars
  exact ⟨parseRec_of_strict pyClasses sw (by decide +kernel) nofun, parseRec_of_lax pyClasses sw (by decide +kernel)⟩

/-! ## 5. What the tree in /repo does -/

/-- The behaviour switch tabulated from the code decides which statement holds of the current tree:
    repaired ⇒ nothing ever runs out of fuel; pinned ⇒ the F1 witness diverges. -/
theorem C13_current_tree :
    if KskmGen.attrsLoopFailsOnNoMatch = true then
      (∀ xml, parseKsr pyClasses pySwitches xml ≠ .outOfFuel) ∧
      (∀ xml, requestFromXmlL pyClasses pySwitches pyGlueSwitches xml ≠ .hang ∧
        responseFromXmlL pyClasses pySwitches pyGlueSwitches xml ≠ .hang)
    else
      (∀ fuel, parseAttrs pyClasses pySwitches fuel "id='foo'".toList [] = .outOfFuel) ∧
      requestFromXmlL pyClasses pySwitches pyGlueSwitches "<KSR id='foo'></KSR>".toList = .hang := by
  cases h : KskmGen.attrsLoopFailsOnNoMatch with
  | true =>
    have hsw : pySwitches.attrsLoopFailsOnNoMatch = true := h
    simp only [↓reduceIte]
    exact ⟨(no_fuel_exhaustion pyClasses pySwitches hsw).2.2.2, loaders_terminate pyClasses pySwitches pyGlueSwitches hsw⟩
  | false =>
    have hsw : pySwitches.attrsLoopFailsOnNoMatch = false := h
    simp only [Bool.false_eq_true, ↓reduceIte]
    exact ⟨fun fuel => parseAttrs_diverges_py pySwitches hsw fuel [], (parse_diverges_py pySwitches pyGlueSwitches hsw).2⟩

/-! ## 6. Load → validate composition, size gate -/

/-- `load_ksr` hands back `req` exactly when the file is within the cap, decodes, parses completely into `req`,
    and `validate_request` accepts it -/
theorem loadKsr_result_ok_iff (cls : Classes) (sw : Switches) (gs : GlueSwitches) (verify : Verifier) (now : Int)
    (f : FileOracle) (pol : RequestPolicy) (ro : Bool) (req : Request) :
    (loadKsr cls sw gs verify now f pol ro).result = .done (.ok req) ↔
      f.statSize ≤ KskmGen.maxKsrSize ∧
      ∃ xml, f.decode (f.read KskmGen.maxKsrSize) = some xml ∧
        requestFromXmlL cls sw gs xml = .done (.ok req) ∧
        validateRequest verify now req pol = .ok () := by
  constructor
  · intro h
    unfold loadKsr at h
    split at h
    · simp [err] at h
    · rename_i hsz
      refine ⟨by omega, ?_⟩
      simp only at h
      split at h
      · simp [err] at h
      · rename_i xml hd
        refine ⟨xml, hd, ?_⟩
        split at h
        · simp at h
        · simp at h
        · rename_i req' hr
          split at h
          · rename_i hv
            simp only [pure, Except.pure, Load.done.injEq, Except.ok.injEq] at h
            subst h
            exact ⟨hr, hv⟩
          · split at h <;> simp [violation, err] at h
          · simp at h
  · rintro ⟨hsz, xml, hd, hx, hv⟩
    have hn : ¬ f.statSize > KskmGen.maxKsrSize := by omega
    simp only [loadKsr, hn, ↓reduceIte, hd, hx, hv]
    rfl

/-- **All or nothing (KSR).** `load_ksr` hands back a `Request` only if the file was within the cap,
    decoded, was parsed completely into exactly that request, and `validate_request` accepted it. -/
theorem load_all_or_nothing (cls : Classes) (sw : Switches) (gs : GlueSwitches) (verify : Verifier) (now : Int)
    (f : FileOracle) (pol : RequestPolicy) (ro : Bool) (req : Request)
    (h : (loadKsr cls sw gs verify now f pol ro).result = .done (.ok req)) :
    f.statSize ≤ KskmGen.maxKsrSize ∧
    ∃ xml, f.decode (f.read KskmGen.maxKsrSize) = some xml ∧
      requestFromXmlL cls sw gs xml = .done (.ok req) ∧
      validateRequest verify now req pol = .ok () :=
  (loadKsr_result_ok_iff cls sw gs verify now f pol ro req).mp h

/-- the gate of `load_skr` lets through exactly what `validate_response` accepts -/
theorem loadSkrGate_ok_iff (verify : Verifier) (resp : Response) (pol : ResponsePolicy) :
    loadSkrGate verify resp pol = .ok () ↔ validateResponse verify resp pol = .ok () := by
  unfold loadSkrGate
  cases hv : validateResponse verify resp pol with
  | ok u => simp
  | error e => cases e <;> simp [err]

/-- `load_skr`, likewise; the gate is `validate_response` with its policy violations turned into `RuntimeError` -/
theorem loadSkr_result_ok_iff (cls : Classes) (sw : Switches) (gs : GlueSwitches) (verify : Verifier)
    (f : FileOracle) (pol : ResponsePolicy) (resp : Response) :
    (loadSkr cls sw gs verify f pol).result = .done (.ok resp) ↔
      f.statSize ≤ KskmGen.maxSkrSize ∧
      ∃ xml, f.decode (f.read KskmGen.maxSkrSize) = some xml ∧
        responseFromXmlL cls sw gs xml = .done (.ok resp) ∧
        loadSkrGate verify resp pol = .ok () := by
  constructor
  · intro h
    unfold loadSkr at h
    split at h
    · simp [err] at h
    · rename_i hsz
      refine ⟨by omega, ?_⟩
      simp only at h
      split at h
      · simp [err] at h
      · rename_i xml hd
        refine ⟨xml, hd, ?_⟩
        split at h
        · simp at h
        · simp at h
        · rename_i resp' hr
          split at h
          · rename_i hv
            simp only [pure, Except.pure, Load.done.injEq, Except.ok.injEq] at h
            subst h
            exact ⟨hr, hv⟩
          · simp at h
  · rintro ⟨hsz, xml, hd, hx, hv⟩
    have hn : ¬ f.statSize > KskmGen.maxSkrSize := by omega
    simp only [loadSkr, hn, ↓reduceIte, hd, hx, hv]
    rfl

/-- **All or nothing (SKR)**, with `validate_response` (bundle count and every signature). -/
theorem load_skr_all_or_nothing (cls : Classes) (sw : Switches) (gs : GlueSwitches) (verify : Verifier)
    (f : FileOracle) (pol : ResponsePolicy) (resp : Response)
    (h : (loadSkr cls sw gs verify f pol).result = .done (.ok resp)) :
    f.statSize ≤ KskmGen.maxSkrSize ∧
    ∃ xml, f.decode (f.read KskmGen.maxSkrSize) = some xml ∧
      responseFromXmlL cls sw gs xml = .done (.ok resp) ∧
      validateResponse verify resp pol = .ok () := by
  obtain ⟨hsz, xml, hd, hr, hv⟩ := (loadSkr_result_ok_iff cls sw gs verify f pol resp).mp h
  exact ⟨hsz, xml, hd, hr, (loadSkrGate_ok_iff verify resp pol).mp hv⟩

/-- **Size gate.** A file that `fstat` reports larger than the cap is refused with `RuntimeError`, and
    `read` is not consulted: the outcome does not mention the file's content at all. -/
theorem size_gate (cls : Classes) (sw : Switches) (gs : GlueSwitches) (verify : Verifier) (now : Int)
    (f : FileOracle) (pol : RequestPolicy) (ro : Bool) (h : KskmGen.maxKsrSize < f.statSize) :
    loadKsr cls sw gs verify now f pol ro = { result := .done (err .runtime), readCalled := false } := by
  unfold loadKsr
  simp [h]

theorem size_gate_skr (cls : Classes) (sw : Switches) (gs : GlueSwitches) (verify : Verifier)
    (f : FileOracle) (pol : ResponsePolicy) (h : KskmGen.maxSkrSize < f.statSize) :
    loadSkr cls sw gs verify f pol = { result := .done (err .runtime), readCalled := false } := by
  unfold loadSkr
  simp [h]

/-- conversely, `read` is called once the size is within the cap -/
theorem size_gate_reads_within_cap (cls : Classes) (sw : Switches) (gs : GlueSwitches) (verify : Verifier)
    (now : Int) (f : FileOracle) (pol : RequestPolicy) (ro : Bool) (h : f.statSize ≤ KskmGen.maxKsrSize) :
    (loadKsr cls sw gs verify now f pol ro).readCalled = true := by
  unfold loadKsr
  have : ¬ f.statSize > KskmGen.maxKsrSize := by omega
  simp [this]

/-- the caps regenerated from the code are the documented 1 MiB -/
theorem size_caps : KskmGen.maxKsrSize = 2 ^ 20 ∧ KskmGen.maxSkrSize = 2 ^ 20 := by decide

/-! ## 7. The tables the executable instance is built from -/

/-- the three expressions the matchers were derived from are the ones in the source -/
theorem regex_literals_pinned :
    KskmGen.regexLiterals.lookup "src/kskm/common/xml_parser.py:re.match#1" = some "<(\\w+?)(\\s+?)(.+?)(/*)>" ∧
    KskmGen.regexLiterals.lookup "src/kskm/common/xml_parser.py:re.match#2" = some "<(\\w+)>" ∧
    KskmGen.regexLiterals.lookup "src/kskm/common/xml_parser.py:re.match#3" = some "^(\\w+)=\"(.+?)\"\\s*(.*)" :=
  ⟨rfl, rfl, rfl⟩

/-- **Sanity of the running Python's classes**, on which the deterministic reading of the lazy / greedy
    quantifiers rests: no character is both `\w` and `\s`; none of `< > = " /` is a word character;
    `\s` and `str.strip()` agree on the characters that matter here. -/
theorem classes_sane :
    (∀ c, ¬ (pyClasses.isWord c = true ∧ pyClasses.isSpace c = true)) ∧
    pyClasses.isWord '<' = false ∧ pyClasses.isWord '>' = false ∧ pyClasses.isWord '=' = false ∧
    pyClasses.isWord '"' = false ∧ pyClasses.isWord '/' = false ∧ pyClasses.isWord '_' = true ∧
    pyClasses.isSpace ' ' = true ∧ pyClasses.isSpace '\n' = true ∧ pyClasses.isSpace '\t' = true ∧
    pyClasses.isStrip ' ' = true ∧ pyClasses.isStrip '\n' = true ∧ pyClasses.isStrip '<' = false ∧
    KskmGen.spaceRanges = KskmGen.stripRanges := by
  obtain ⟨h1, h2, h3, h4, h5⟩ := pyClasses_word_punct
  exact ⟨pyClasses_word_not_space, h1, h2, h3, h4, h5, by decide +kernel⟩

/-! ## Non-vacuity -/

/-- the repo's own `test_shortest_possible`, under both switch settings -/
example (sw : Switches) : parse pyClasses sw "\n        <KSR id=\"foo\">hello</KSR>\n        ".toList =
    .ok [("KSR".toList, .dict [(kAttrs, .dict [("id".toList, .str "foo".toList)]), (kValue, .str "hello".toList)])] := by
  rw [kAttrs_eq, kValue_eq]
  chars
  exact parseRec_of_strict pyClasses sw (by decide +kernel) nofun

/-- an input meeting the hypotheses of `parseAttrs_progress` alternative (1): two attributes -/
example : parseAttrs pyClasses ⟨true, true⟩ 20 "id=\"foo\" domain=\".\"".toList [] =
    .ok [("id".toList, "foo".toList), ("domain".toList, ".".toList)] := by chars; decide +kernel

/-- the repaired loop on the F1 witness: a clean ValueError -/
example : parseAttrs pyClasses ⟨true, true⟩ 9 "id='foo'".toList [] = .err .value := by chars; decide +kernel

/-- a file oracle over the cap -/
example : (loadKsr pyClasses ⟨true, true⟩ ⟨true, true, true, true⟩ (fun _ _ _ _ => .unknown) 0
    { statSize := 2 ^ 20 + 1, read := fun _ => [], decode := fun _ => none } KskmGen.requestPolicyDefaults).readCalled
    = false := by
  rw [size_gate _ _ _ _ _ _ _ _ (by decide)]

end Kskm.C13
