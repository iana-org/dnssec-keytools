/-
  C14 — DNSSEC wire-format primitives agree with the RFCs for every key.

  Specifications are written here from the RFC text, independently of the model definitions in
  `Kskm.Dnssec` / `Kskm.Signature`; the theorems state model = specification for *every* octet string.
-/
import Kskm.Signature
import KskmGen.Tables
import KskmProofs.Lemmas.Bytes
import KskmProofs.Lemmas.Res
namespace Kskm.C14

/-! ## Key tag — RFC 4034 Appendix B

    for ( ac = 0, i = 0; i < keysize; ++i ) ac += (i & 1) ? key[i] : key[i] << 8;
    ac += (ac >> 16) & 0xFFFF;  return ac & 0xFFFF;                                         -/

/-- Σ over octets from position `i` on: odd positions add the octet, even ones the octet shifted. -/
def rfcSum : Bytes → Nat → Nat
  | [], _ => 0
  | b :: r, i => (if i % 2 = 1 then b.toNat else b.toNat * 256) + rfcSum r (i + 1)

def rfc4034KeyTag (rdata : Bytes) : Nat :=
  let ac := rfcSum rdata 0
  let ac := ac + (ac / 65536) % 65536
  ac % 65536

theorem keyTagAcc_eq (r : Bytes) : ∀ (odd : Bool) (i s : Nat), (i % 2 = 1 ↔ odd = true) →
    keyTagAcc r odd s = s + rfcSum r i := by
  induction r with
  | nil => intro odd i s _; simp [keyTagAcc, rfcSum]
  | cons b r ih =>
    intro odd i s h
    simp only [keyTagAcc, rfcSum]
    rw [ih (!odd) (i + 1)]
    · cases odd <;> simp_all <;> omega
    · cases odd <;> simp_all <;> omega

/-- **Key tag.** For every RDATA octet string the computed tag is the RFC 4034 App. B value. -/
theorem keyTag_eq_rfc4034 (rdata : Bytes) : keyTagOfRdata rdata = rfc4034KeyTag rdata := by
  simp only [keyTagOfRdata, rfc4034KeyTag, keyTagAcc_eq rdata false 0 0 (by simp), Nat.zero_add]
  omega

theorem keyTag_lt (rdata : Bytes) : keyTagOfRdata rdata < 65536 := by
  simp only [keyTagOfRdata]; omega

/-! ## DNSKEY RDATA — RFC 4034 §2.1 -/

/-- **RDATA layout.** Flags (2 octets, network order), protocol, algorithm, then the key. -/
theorem rdata_layout (f p a : Nat) (pk : Bytes) (hf : f < 65536) (hp : p < 256) (ha : a < 256) :
    ∃ f1 f0 pb ab : UInt8,
      rdataOf f p a pk = f1 :: f0 :: pb :: ab :: pk ∧
      f1.toNat * 256 + f0.toNat = f ∧ pb.toNat = p ∧ ab.toNat = a := by
  refine ⟨UInt8.ofNat (f / 256), UInt8.ofNat f, UInt8.ofNat p, UInt8.ofNat a, rfl, ?_, ?_, ?_⟩
  · simp only [UInt8.toNat_ofNat']; omega
  · exact UInt8.toNat_ofNat_of_lt' hp
  · exact UInt8.toNat_ofNat_of_lt' ha

/-- `key_to_rdata` succeeds exactly on in-range fields and a key text that decodes, and yields that
    layout over the decoded key. -/
theorem keyToRdata_ok_iff (k : Key) (r : Bytes) :
    keyToRdata k = .ok r ↔
      (inRange 16 k.flags = true ∧ inRange 8 k.protocol = true ∧ k.algorithm < 256) ∧
      ∃ pk, Base64.decode k.publicKey = some pk ∧
        r = rdataOf k.flags.toNat k.protocol.toNat k.algorithm pk := by
  unfold keyToRdata
  cases Base64.decode k.publicKey <;> simp only [res_ok] <;> simp [and_assoc, eq_comm (a := r)]

theorem keyToRdata_spec (k : Key) (pk : Bytes) (hd : Base64.decode k.publicKey = some pk)
    (hf : 0 ≤ k.flags ∧ k.flags < 65536) (hp : 0 ≤ k.protocol ∧ k.protocol < 256) (ha : k.algorithm < 256) :
    keyToRdata k = .ok (rdataOf k.flags.toNat k.protocol.toNat k.algorithm pk) :=
  (keyToRdata_ok_iff k _).mpr ⟨⟨by simp [inRange]; omega, by simp [inRange]; omega, ha⟩, pk, hd, rfl⟩

/-- out-of-range fields are an error (Python `struct.error`), never a silently truncated RDATA -/
theorem keyToRdata_range_guard (k : Key)
    (h : ¬ (0 ≤ k.flags ∧ k.flags < 65536 ∧ 0 ≤ k.protocol ∧ k.protocol < 256 ∧ k.algorithm < 256)) :
    keyToRdata k = err .struct := by
  have : (inRange 16 k.flags && inRange 8 k.protocol && decide (k.algorithm < 256)) = false := by
    simp only [inRange, Bool.and_eq_false_iff, decide_eq_false_iff_not]
    omega
  simp [keyToRdata, this]

/-- **DS digest input** (RFC 4034 §5.1.4, RFC 4509): owner name of the root in wire form, then RDATA. -/
theorem ds_input (k : Key) (r : Bytes) (h : keyToRdata k = .ok r) : dsInput k = .ok (0 :: r) := by
  simp [dsInput, h, bind, Except.bind, pure, Except.pure]

/-! ## RSA public keys — RFC 3110 §2 -/


/-- the exponent octets carry no leading zero (minimal length, as RFC 3110 asks) -/
theorem natToBytes_head_ne_zero (e : Nat) : ∀ b r, natToBytes e = b :: r → b ≠ 0 := by
  induction e using Nat.strongRecOn with
  | _ e ih =>
    intro b r h
    rw [natToBytes] at h
    split at h
    · simp at h
    · rename_i hne
      by_cases hq : e / 256 = 0
      · rw [hq, natToBytes] at h
        simp at h
        obtain ⟨rfl, _⟩ := h
        exact ofNat_ne_zero (by omega) (by omega)
      · have hne' := natToBytes_ne_nil (e / 256) (by omega)
        cases hq' : natToBytes (e / 256) with
        | nil => exact absurd hq' hne'
        | cons b' r' =>
          rw [hq'] at h
          simp at h
          exact h.1 ▸ ih (e / 256) (by omega) b' r' hq'

/-- **RFC 3110 round trip, encode then decode**, for every exponent ≥ 1 whose length fits the
    two-octet length field (1 … 65535 octets) and every modulus octet string. -/
theorem rsa_decode_encode (e : Nat) (n b : Bytes) (he : 0 < e)
    (h : rsaEncodeBytes e n = .ok b) :
    rsaDecodeBytes b = .ok { bits := n.length * 8, exponent := e, n := n } := by
  unfold rsaEncodeBytes at h
  have hne := natToBytes_ne_nil e he
  have hlen : 0 < (natToBytes e).length := List.length_pos_iff.mpr hne
  simp only at h
  split at h
  · rename_i hlong
    split at h
    · rename_i hlt
      simp only [pure, Except.pure, Except.ok.injEq] at h
      subst h
      simp only [be16, List.cons_append, List.nil_append, rsaDecodeBytes, ↓reduceIte]
      have h1 : (UInt8.ofNat ((natToBytes e).length / 256)).toNat * 256
          + (UInt8.ofNat (natToBytes e).length).toNat = (natToBytes e).length := by
        simp [UInt8.toNat_ofNat']; omega
      simp only [h1, List.take_left', List.drop_left', beNat_natToBytes, pure, Except.pure]
    · simp [err] at h
  · rename_i hshort
    simp only [pure, Except.pure, Except.ok.injEq] at h
    subst h
    have hb : UInt8.ofNat (natToBytes e).length ≠ 0 := ofNat_ne_zero hlen (by omega)
    have h1 : (UInt8.ofNat (natToBytes e).length).toNat = (natToBytes e).length :=
      UInt8.toNat_ofNat_of_lt' (show _ < 256 by omega)
    simp only [be8, List.cons_append, List.nil_append, rsaDecodeBytes, hb, ↓reduceIte, h1,
      List.take_left', List.drop_left', beNat_natToBytes, pure, Except.pure]

/-- The three-octet length form is used exactly when the exponent is longer than 255 octets. -/
theorem rsa_encode_long_form_iff (e : Nat) (n b : Bytes) (h : rsaEncodeBytes e n = .ok b) :
    (b.head? = some 0 ∧ 0 < e) ↔ 255 < (natToBytes e).length := by
  unfold rsaEncodeBytes at h
  simp only at h
  split at h
  · rename_i hlong
    split at h
    · simp only [pure, Except.pure, Except.ok.injEq] at h
      subst h
      have : 0 < e := by
        rcases Nat.eq_zero_or_pos e with h0 | h0
        · subst h0; rw [natToBytes] at hlong; simp at hlong
        · exact h0
      simp [hlong, this]
    · simp [err] at h
  · rename_i hshort
    simp only [pure, Except.pure, Except.ok.injEq] at h
    subst h
    constructor
    · rintro ⟨hh, he⟩
      simp [be8] at hh
      have hne := natToBytes_ne_nil e he
      have hlen : 0 < (natToBytes e).length := List.length_pos_iff.mpr hne
      exact absurd hh (ofNat_ne_zero hlen (by omega))
    · intro h; omega

/-- exponents longer than 65535 octets cannot be encoded and are refused, not truncated -/
theorem rsa_encode_too_long (e : Nat) (n : Bytes) (h : 65536 ≤ (natToBytes e).length) :
    rsaEncodeBytes e n = err .struct := by
  unfold rsaEncodeBytes
  simp only
  rw [if_pos (by omega), if_neg (by omega)]

/-! ## ECDSA public keys — RFC 6605 §4 (bare x‖y) versus SEC 1 (0x04‖x‖y) -/

/-- A SEC 1 uncompressed point of the right curve loses exactly its `0x04` octet. -/
theorem ecdsa_strip_prefix (q : Bytes) (a want : Nat) (hw : expectedEcdsaKeySize a = .ok want)
    (hq : q.length * 8 / 2 = want) : ecdsaWithoutPrefix (4 :: q) a = .ok q := by
  have hne : ¬ (q.length + 1) * 8 / 2 = want := by omega
  simp [ecdsaWithoutPrefix, hw, bind, Except.bind, getEcdsaPubkeySize, hne, pure, Except.pure]

/-- An RFC 6605 key (already bare, right size) is returned unchanged, whatever its first octet. -/
theorem ecdsa_bare_unchanged (q : Bytes) (a want : Nat) (hw : expectedEcdsaKeySize a = .ok want)
    (hq : q.length * 8 / 2 = want) : ecdsaWithoutPrefix q a = .ok q := by
  simp [ecdsaWithoutPrefix, hw, bind, Except.bind, getEcdsaPubkeySize, hq, pure, Except.pure]

theorem expectedEcdsaKeySize_cases (a want : Nat) (h : expectedEcdsaKeySize a = .ok want) :
    (a = 13 ∧ want = 256) ∨ (a = 14 ∧ want = 384) := by
  unfold expectedEcdsaKeySize at h
  split at h
  · left; simp_all [pure, Except.pure, algECDSAP256]
  · split at h
    · right; simp_all [pure, Except.pure, algECDSAP384]
    · simp [err] at h

/-- the stripper returns the key as it is or without one leading `0x04` -/
theorem ecdsaWithoutPrefix_cases {pk p : Bytes} {a : Nat} (h : ecdsaWithoutPrefix pk a = .ok p) :
    p = pk ∨ pk = 4 :: p := by
  unfold ecdsaWithoutPrefix at h
  revert h; simp only [res_ok]
  rintro ⟨_, _, h⟩
  split at h
  · cases pk with
    | nil => cases h
    | cons b r =>
      by_cases hb : b = 4 <;> simp only [hb, ↓reduceIte, pure, Except.pure, Except.ok.injEq] at h <;> subst h
      · exact Or.inr (by rw [hb])
      · exact Or.inl rfl
  · cases h; exact Or.inl rfl

/-- **Curve/size mismatches are rejected**: an ECDSA `Key` is constructed only when, after removal
    of at most one leading `0x04`, the point has exactly the curve's size (64 / 96 octets). -/
theorem ecdsa_key_size_enforced (k : Key) (pk : Bytes) (hal : isAlgorithmEcdsa k.algorithm = true)
    (hd : Base64.decode k.publicKey = some pk) (hv : k.validate = .ok ()) :
    ∃ p want, ecdsaWithoutPrefix pk k.algorithm = .ok p ∧
      expectedEcdsaKeySize k.algorithm = .ok want ∧ p.length * 8 / 2 = want ∧
      (p = pk ∨ pk = 4 :: p) := by
  unfold Key.validate at hv
  simp only [hal, ↓reduceIte, hd] at hv
  revert hv; simp only [res_ok]
  rintro ⟨p, hp, want, hw, hs, _⟩
  exact ⟨p, want, hp, hw, by simpa [getEcdsaPubkeySize] using hs, ecdsaWithoutPrefix_cases hp⟩

/-! ## Revocation — RFC 5011 §7 -/

/-- **Revoking sets only the REVOKE bit and recomputes the tag.** -/
theorem revoke_sets_only_bit_and_retags (k k' : Key) (h : k.asRevoked = .ok k') :
    ∃ r, k'.flags = ((setRevokeBit k.flags.toNat : Nat) : Int) ∧ 0 ≤ k.flags ∧
      k'.keyIdentifier = k.keyIdentifier ∧ k'.ttl = k.ttl ∧ k'.protocol = k.protocol ∧
      k'.algorithm = k.algorithm ∧ k'.publicKey = k.publicKey ∧
      keyToRdata k' = .ok r ∧ k'.keyTag = (rfc4034KeyTag r : Nat) := by
  unfold Key.asRevoked calculateKeyTag at h
  revert h; simp only [res_ok]
  rintro ⟨hneg, _, ⟨r, hr, rfl⟩, rfl⟩
  exact ⟨r, rfl, by omega, rfl, rfl, rfl, rfl, rfl, by simpa [keyToRdata] using hr, by simp [keyTag_eq_rfc4034]⟩

/-- the REVOKE bit ends up set, every other bit is as before (stated arithmetically) -/
theorem setRevokeBit_spec (n : Nat) :
    setRevokeBit n / 128 % 2 = 1 ∧ setRevokeBit n % 128 = n % 128 ∧
    setRevokeBit n / 256 = n / 256 ∧ (n / 128 % 2 = 1 → setRevokeBit n = n) := by
  unfold setRevokeBit; split <;> omega

/-! ## RRSIG to-be-signed octets — RFC 4034 §3.1.8.1 and §6.3 -/

/-- RFC 4034 §3.1.8.1: `RRSIG_RDATA | RR(1) | RR(2) …` for the RDATAs `l`, taken in the order given -/
def rfc4034TBS (tc alg labels ottl exp inc tag : Nat) (l : List Bytes) : Bytes :=
  rrsigHeader tc alg labels ottl exp inc tag ++ [0] ++ (l.map (rrWire [0] tc ottl)).flatten

/-- The canonical order of RFC 4034 §6.3, characterised declaratively: *any* arrangement `l` of the RDATAs
    that is a permutation of them and is ascending in the unsigned left-justified octet order. -/
def CanonicalOrder (l rdatas : List Bytes) : Prop :=
  l.Perm rdatas ∧ l.Pairwise (fun a b => bytesLe a b = true)

/-- **TBS = RFC.** Whatever canonical arrangement an independent implementation picks, the model's
    to-be-signed octets are exactly the RFC's, for every field value and every set of RDATAs. -/
theorem makeRawRrsig_eq_rfc (tc alg labels ottl exp inc tag : Nat) (rdatas l : List Bytes)
    (hl : CanonicalOrder l rdatas) :
    rawRrsigOf tc alg labels ottl exp inc tag rdatas = rfc4034TBS tc alg labels ottl exp inc tag l := by
  have hs : rdatas.mergeSort bytesLe = l :=
    mergeSort_eq_of_sorted_perm bytesLe_trans bytesLe_total hl.1 hl.2 fun a _ b _ => bytesLe_antisymm a b
  simp [rawRrsigOf, rfc4034TBS, hs]

/-- a canonical arrangement always exists, so the theorem above is never vacuous -/
theorem canonicalOrder_exists (rdatas : List Bytes) : ∃ l, CanonicalOrder l rdatas :=
  ⟨rdatas.mergeSort bytesLe, List.mergeSort_perm rdatas bytesLe,
    List.pairwise_mergeSort bytesLe_trans bytesLe_total rdatas⟩

/-- **Order independence.** The octets do not depend on the order in which the key set is visited. -/
theorem rawRrsig_perm (tc alg labels ottl exp inc tag : Nat) (r₁ r₂ : List Bytes) (h : r₁.Perm r₂) :
    rawRrsigOf tc alg labels ottl exp inc tag r₁ = rawRrsigOf tc alg labels ottl exp inc tag r₂ := by
  obtain ⟨l, hl⟩ := canonicalOrder_exists r₂
  rw [makeRawRrsig_eq_rfc _ _ _ _ _ _ _ r₂ l hl,
    makeRawRrsig_eq_rfc _ _ _ _ _ _ _ r₁ l ⟨hl.1.trans h.symm, hl.2⟩]

/-! ## Tables regenerated from /repo agree with the numbers the model uses -/

theorem tables_algorithm_classes :
    KskmGen.rsaAlgorithms = [5, 8, 10] ∧ KskmGen.ecdsaAlgorithms = [13, 14] ∧
    KskmGen.eddsaAlgorithms = [15, 16] ∧
    KskmGen.flagsDNSKEY = [("SEP", 1), ("REVOKE", 128), ("ZONE", 256)] ∧
    KskmGen.typeDNSSEC = [("DNSKEY", 48)] := by decide

/-! ## Non-vacuity: concrete instances meeting the hypotheses above -/

example : keyTagOfRdata [1, 1, 3, 8, 3, 1, 0, 1, 0xff] = 1548 := by decide
example : rsaEncodeBytes 65537 [0x80, 1] = .ok [3, 1, 0, 1, 0x80, 1] := by decide +kernel
example : rsaDecodeBytes [3, 1, 0, 1, 0x80, 1] = .ok { bits := 16, exponent := 65537, n := [0x80, 1] } := by
  decide
example : CanonicalOrder [[1], [1, 0], [2]] [[2], [1, 0], [1]] := by
  refine ⟨?_, by decide⟩
  exact List.Perm.trans (List.Perm.swap' _ _ (List.Perm.refl _)) <| by decide

end Kskm.C14
