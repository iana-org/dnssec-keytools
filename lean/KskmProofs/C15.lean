/-
  C15 — the PKCS#11 layer finds the right key and hands the token the right octets:
  mechanism / padding / environment; sessions, lookup by label (healthy token `storeToken` of
  Lemmas/HsmStore.lean, and every token where the statement allows), module order, attribute → key
  conversion, the one signing operation.  The views `foundKey`, `ecDerive`, `refusedIn` are in
  KskmProofs/Lemmas/Hsm.lean, each tied to the model by a proved equation.
-/
import Kskm.Hsm
import KskmGen.Tables
import KskmProofs.Lemmas.HsmStore
import KskmProofs.Lemmas.KmHsmEq
import KskmProofs.Lemmas.Base64
import KskmProofs.Lemmas.Literals
import KskmProofs.C14
import KskmProofs.Lemmas.C15HsmConfig
import KskmProofs.Lemmas.SignerInv
namespace Kskm.C15

/-- the PKCS#11 numbers used by the model are the ones PyKCS11 exports -/
theorem ckm_constants :
    KskmGen.ckm = [("CKM_RSA_X_509", ckmRsaX509), ("CKM_SHA1_RSA_PKCS", ckmSha1RsaPkcs),
      ("CKM_SHA256_RSA_PKCS", ckmSha256RsaPkcs), ("CKM_SHA512_RSA_PKCS", ckmSha512RsaPkcs),
      ("CKM_ECDSA", ckmEcdsa), ("CKM_ECDSA_SHA256", ckmEcdsaSha256),
      ("CKM_ECDSA_SHA384", ckmEcdsaSha384), ("CKM_EDDSA", ckmEddsa)] := by decide

/-- **Mechanism table.** For every DNSSEC algorithm number and hashing mode, the model's mechanism
    choice equals what `_format_data_for_signing` does in /repo (tabulated by execution on every
    run), except that the tabulation probes with an RSA key and therefore records no mechanism where
    the code fails before choosing. -/
theorem mechanism_table :
    ∀ row ∈ KskmGen.mechanismTable,
      (row.2.2.1.isSome → mechanismFor row.2.1 row.1 = row.2.2.1) := by decide +kernel

/-- the documented map: (algorithm, hash on token) ↦ mechanism -/
theorem mechanism_documented :
    mechanismFor false 8 = some ckmRsaX509 ∧ mechanismFor false 10 = some ckmRsaX509 ∧
    mechanismFor false 13 = some ckmEcdsa ∧ mechanismFor false 14 = some ckmEcdsa ∧
    mechanismFor true 8 = some ckmSha256RsaPkcs ∧ mechanismFor true 10 = some ckmSha512RsaPkcs ∧
    mechanismFor true 13 = some ckmEcdsaSha256 ∧ mechanismFor true 14 = some ckmEcdsaSha384 ∧
    (∀ a, a < 256 → a ∉ [5, 8, 10, 13, 14, 15, 16] → mechanismFor false a = none ∧ mechanismFor true a = none) := by
  refine ⟨rfl, rfl, rfl, rfl, rfl, rfl, rfl, rfl, ?_⟩
  decide +kernel

/-- DigestInfo prefixes are the RFC 8017 §9.2 note 1 values the code uses (regenerated table) -/
theorem digestinfo_table :
    KskmGen.digestInfoPrefix =
      [(5, digestInfoSha1.map (·.toNat)), (8, digestInfoSha256.map (·.toNat)),
       (10, digestInfoSha512.map (·.toNat))] := by decide

/-- **Raw RSA input.** For every modulus length `k` with `k ≥ |T| + 11` the block handed over is
    `00 01 PS 00 T` with `PS` = `k − |T| − 3` octets `FF`, at least eight of them, and is exactly `k`
    octets long. -/
theorem emsa_eq_rfc8017 (k : Nat) (t : Bytes) (h : t.length + 11 ≤ k) :
    ∃ ps : Bytes, emsaBlock k t = [0x00, 0x01] ++ ps ++ [0x00] ++ t ∧
      ps.length = k - t.length - 3 ∧ 8 ≤ ps.length ∧ (∀ b ∈ ps, b = 0xff) ∧
      (emsaBlock k t).length = k := by
  refine ⟨List.replicate (k - t.length - 3) 0xff, rfl, by simp, by simp; omega, ?_, ?_⟩
  · intro b hb; exact (List.mem_replicate.mp hb).2
  · simp [emsaBlock]; omega

/-- when the modulus is too short for the encoding the block is NOT `k` octets long (so a healthy
    token refuses it): the tool never silently truncates `T` -/
theorem emsa_short_modulus (k : Nat) (t : Bytes) (h : k < t.length + 3) :
    (emsaBlock k t).length = t.length + 3 := by
  simp [emsaBlock]; omega

theorem onHsm_false (key : P11Key) (hk : key.hashUsingHsm ≠ some true) :
    (key.hashUsingHsm == some true) = false := by
  cases hh : key.hashUsingHsm with
  | none => rfl
  | some b => cases b <;> simp_all

/-- `_format_data_for_signing` with hashing on the token: the data as they are, under the algorithm's
    hashing mechanism -/
theorem formatDataForSigning_onToken (hash : Hasher) (key : P11Key) (data : Bytes) (alg : Nat)
    (hk : key.hashUsingHsm = some true) (ha : alg ∈ [5, 8, 10, 13, 14]) :
    ∃ mech, mechanismFor true alg = some mech ∧
      formatDataForSigning hash key data alg = .ok { data, mechanism := mech, hashUsingHsm := true } := by
  have hon : (key.hashUsingHsm == some true) = true := by simp [hk]
  unfold formatDataForSigning
  simp only [hon]
  simp only [List.mem_cons, List.mem_nil_iff, or_false] at ha
  rcases ha with rfl | rfl | rfl | rfl | rfl <;> exact ⟨_, rfl, rfl⟩

/-- … with hashing on the host, ECDSA: the matching digest under `CKM_ECDSA` -/
theorem formatDataForSigning_hostEcdsa (hash : Hasher) (key : P11Key) (data : Bytes) (alg : Nat)
    (hk : key.hashUsingHsm ≠ some true) (ha : alg = 13 ∨ alg = 14) :
    formatDataForSigning hash key data alg =
      match hash (if alg = 13 then .sha256 else .sha384) data with
      | none => unsupported
      | some d => .ok { data := d, mechanism := ckmEcdsa, hashUsingHsm := false } := by
  unfold formatDataForSigning
  simp only [onHsm_false key hk]
  rcases ha with rfl | rfl <;> rfl

/-- … with hashing on the host, RSA: the EMSA-PKCS1-v1_5 block of DigestInfo ‖ digest under `CKM_RSA_X_509`;
    the failures in the order of the code (digest, key text, decoding) -/
theorem formatDataForSigning_hostRsa (hash : Hasher) (key : P11Key) (data : Bytes) (alg : Nat)
    (hsh : HashAlg) (oid : Bytes) (hk : key.hashUsingHsm ≠ some true) (ha : alg = 5 ∨ alg = 8 ∨ alg = 10)
    (hd : rsaDigestFor alg = some (hsh, oid)) :
    formatDataForSigning hash key data alg =
      match hash hsh data with
      | none => unsupported
      | some digest =>
        match key.publicKey with
        | none => err .runtime
        | some pk =>
          if pk.isEmpty then err .runtime else
          match rsaDecode pk alg with
          | .error e => .error e
          | .ok pub =>
            .ok { data := emsaBlock (pub.bits / 8) (oid ++ digest), mechanism := ckmRsaX509,
                  hashUsingHsm := false } := by
  unfold formatDataForSigning
  simp only [onHsm_false key hk]
  rcases ha with rfl | rfl | rfl <;> obtain ⟨rfl, rfl⟩ := Prod.mk.inj (Option.some.inj hd) <;> rfl

/-- **Hash on token: data untouched, mechanism matching the algorithm.** -/
theorem hash_on_token_untouched (hash : Hasher) (key : P11Key) (data : Bytes) (alg : Nat) (d : DataToSign)
    (hk : key.hashUsingHsm = some true) (ha : alg ∈ [5, 8, 10, 13, 14])
    (h : formatDataForSigning hash key data alg = .ok d) :
    d.data = data ∧ some d.mechanism = mechanismFor true alg ∧ d.hashUsingHsm = true := by
  obtain ⟨mech, hm, he⟩ := formatDataForSigning_onToken hash key data alg hk ha
  obtain rfl := Except.ok.inj (he.symm.trans h)
  exact ⟨rfl, hm.symm, rfl⟩

/-- **Raw ECDSA: the matching digest, nothing else.** -/
theorem raw_ecdsa_is_digest (hash : Hasher) (key : P11Key) (data : Bytes) (alg : Nat) (d : DataToSign)
    (hk : key.hashUsingHsm ≠ some true) (ha : alg = 13 ∨ alg = 14)
    (h : formatDataForSigning hash key data alg = .ok d) :
    d.mechanism = ckmEcdsa ∧
    hash (if alg = 13 then .sha256 else .sha384) data = some d.data := by
  rw [formatDataForSigning_hostEcdsa hash key data alg hk ha] at h
  split at h
  · cases h
  · obtain rfl := Except.ok.inj h
    exact ⟨rfl, ‹_›⟩

/-- **Raw RSA: the full-modulus-length EMSA encoding of the digest matching the algorithm.** -/
theorem raw_rsa_is_emsa (hash : Hasher) (key : P11Key) (data : Bytes) (alg : Nat) (d : DataToSign)
    (hk : key.hashUsingHsm ≠ some true) (ha : alg = 8 ∨ alg = 10)
    (h : formatDataForSigning hash key data alg = .ok d) :
    ∃ pk pub digest, key.publicKey = some pk ∧ rsaDecode pk alg = .ok pub ∧
      hash (if alg = 8 then .sha256 else .sha512) data = some digest ∧
      d.mechanism = ckmRsaX509 ∧
      d.data = emsaBlock (pub.bits / 8) ((if alg = 8 then digestInfoSha256 else digestInfoSha512) ++ digest) := by
  rw [formatDataForSigning_hostRsa hash key data alg (if alg = 8 then .sha256 else .sha512)
    (if alg = 8 then digestInfoSha256 else digestInfoSha512) hk (.inr ha)
    (by rcases ha with rfl | rfl <;> rfl)] at h
  split at h
  · cases h
  · split at h
    · cases h
    · split at h
      · cases h
      · split at h
        · cases h
        · obtain rfl := Except.ok.inj h
          exact ⟨_, _, _, ‹_›, ‹_›, ‹_›, rfl, rfl⟩

/-- **Symmetric key types are never used**: no operation reaches the token, for every token. -/
theorem symmetric_never_signs (hash : Hasher) (key : P11Key) (data : Bytes) (alg : Nat) (tok : Token)
    (s : TokState) (hk : key.keyType = .aes ∨ key.keyType = .des3) :
    signUsingP11 hash key data alg tok s = (.error (.error .value), s) := by
  rcases hk with h | h <;> simp [signUsingP11, h, TokM.err, TokM.fail, bind]

/-- **The process environment is restored.** For every environment and every HSM `env` map (any
    keys, any values, added or overriding), after the save / update / restore sequence of
    `KSKM_P11Module.__init__` every variable has exactly its original value (or is absent again). -/
theorem env_restored (e : Env) (h : List (String × String)) (k : String) :
    envRestore (envUpdate e h) (envSaved e h) k = e k := by
  rw [restore_fold (envSaved e h) _ k (e k)]
  · by_cases hk : (envSaved e h).any (·.1 = k) = true
    · simp [hk]
    · have hk' : h.any (·.1 = k) = false := by
        have : (envSaved e h).any (·.1 = k) = h.any (·.1 = k) := by
          simp only [envSaved, List.any_map]; rfl
        rw [← this]; exact Bool.eq_false_iff.mpr hk
      simp only [hk, Bool.false_eq_true, ↓reduceIte]
      exact update_untouched h e k hk'
  · intro p hp hpk
    simp only [envSaved, List.mem_map] at hp
    obtain ⟨q, _, rfl⟩ := hp
    simp at hpk ⊢
    rw [hpk]

/-- while the module is loaded every variable of the map has its configured value (last one wins) -/
theorem env_during (e : Env) (h : List (String × String)) (k v : String)
    (hlast : ∃ pre post, h = pre ++ [(k, v)] ++ post ∧ post.any (·.1 = k) = false) :
    envUpdate e h k = some v := by
  obtain ⟨pre, post, rfl, hpost⟩ := hlast
  unfold envUpdate
  rw [List.foldl_append, List.foldl_append]
  have := update_untouched post ((pre.foldl (fun acc p => acc.set p.1 p.2) e).set k v) k hpost
  unfold envUpdate at this
  simp only [List.foldl_cons, List.foldl_nil]
  rw [this]
  simp [Env.set]

example : (emsaBlock 128 (digestInfoSha256 ++ List.replicate 32 0xab)).length = 128 := by decide
example : mechanismFor true 8 = some 64 := by decide

/-- **Failed slots are dropped, the others kept in order** — for EVERY token (any fault plan).
    `l` is what was logged; `refusedIn m.path l sl` says the oracle answered `.error` to the
    open-session or to the login on slot `sl`.  The resulting `sessions` are exactly the slots (in
    order) that were not refused, `slots` lost exactly the refused ones, nothing else changes. -/
theorem sessions_drop_failed (m : P11Module) (tok : Token) (slots : List Nat) (hnd : slots.Nodup) :
    ∀ (acc : P11Module) (s : TokState), ∃ m' s' l,
      openSessions m slots acc tok s = (.ok m', s') ∧ s'.log = l ++ s.log ∧
      (∀ x, x ∉ slots → refusedIn m.path l x = false) ∧
      m' = { acc with
        sessions := acc.sessions ++ slots.filter (fun sl => !refusedIn m.path l sl),
        slots := acc.slots.filter (fun sl => !refusedIn m.path l sl) } := by
  induction slots with
  | nil =>
    intro acc s
    refine ⟨acc, s, [], rfl, rfl, fun _ _ => rfl, ?_⟩
    cases acc; simp only [refusedIn, List.any_nil, Bool.not_false, List.filter_nil, List.append_nil]
    congr 1
    exact (List.filter_eq_self.mpr (fun _ _ => rfl)).symm
  | cons slot rest ih =>
    intro acc s
    have hnotin : slot ∉ rest := (List.nodup_cons.mp hnd).1
    obtain ⟨l₁, hl1, hr1s, hr1x⟩ := openOne_log m slot tok s
    rw [openSessions_cons_run]
    obtain ⟨m', s', l₂, hrun, hl2, h2, hm'⟩ := ih (List.nodup_cons.mp hnd).2
      (if (openOne m slot tok s).1 then keepSlot acc slot else dropSlot acc slot) (openOne m slot tok s).2
    have hrs : refusedIn m.path (l₂ ++ l₁) slot = !(openOne m slot tok s).1 := by
      rw [refusedIn_append, h2 slot hnotin, hr1s, Bool.false_or]
    have hrx : ∀ x, x ≠ slot → refusedIn m.path (l₂ ++ l₁) x = refusedIn m.path l₂ x := by
      intro x hx; rw [refusedIn_append, hr1x x hx, Bool.or_false]
    have hfr : rest.filter (fun sl => !refusedIn m.path (l₂ ++ l₁) sl) =
        rest.filter (fun sl => !refusedIn m.path l₂ sl) := by
      apply List.filter_congr
      intro x hx
      rw [hrx x (fun h => hnotin (h ▸ hx))]
    refine ⟨m', s', l₂ ++ l₁, hrun, by rw [hl2, hl1, List.append_assoc], ?_, ?_⟩
    · intro x hx
      have hx1 : x ≠ slot := fun h => hx (h ▸ List.mem_cons_self)
      have hx2 : x ∉ rest := fun h => hx (List.mem_cons_of_mem _ h)
      rw [hrx x hx1, h2 x hx2]
    · rw [hm']
      cases hk : (openOne m slot tok s).1
      · rw [hk] at hrs
        simp only [Bool.false_eq_true, ↓reduceIte, dropSlot, List.filter_cons, hrs, hfr,
          List.filter_filter]
        congr 1
        apply List.filter_congr
        intro x _
        by_cases hx : x = slot
        · subst hx; simp [hrs]
        · rw [hrx x hx]; simp [hx]
      · rw [hk] at hrs
        simp only [↓reduceIte, keepSlot, List.filter_cons, hrs, hfr, List.append_assoc,
          List.singleton_append]
        congr 1
        apply List.filter_congr
        intro x _
        by_cases hx : x = slot
        · subst hx; rw [hrs, h2 x hnotin]; rfl
        · rw [hrx x hx]

/-- the same on a healthy token, where `ok` says which logins succeed (no distinctness hypothesis needed) -/
theorem sessions_drop_failed_store (st : Store) (ok : String → Nat → Bool) (m : P11Module)
    (slots : List Nat) : ∀ (acc : P11Module) (s : TokState), ∃ s',
      openSessions m slots acc (storeToken st ok) s =
        (.ok { acc with
          sessions := acc.sessions ++ slots.filter (fun sl => ok m.path sl),
          slots := acc.slots.filter (fun x => !(slots.contains x && !ok m.path x)) }, s') := by
  induction slots with
  | nil =>
    intro acc s
    refine ⟨s, ?_⟩
    cases acc
    simp only [openSessions, TokM.pure_run, List.filter_nil, List.append_nil, List.contains_nil,
      Bool.false_and, Bool.not_false]
    congr 3
    exact (List.filter_eq_self.mpr (fun _ _ => rfl)).symm
  | cons sl rest ih =>
    intro acc s
    rw [openSessions_cons_run]
    have hone : (openOne m sl (storeToken st ok) s).1 = ok m.path sl := by
      unfold openOne
      simp only [storeToken_open, storeToken_login]
      cases hok : ok m.path sl <;> simp
      split <;> simp
    rw [hone]
    obtain ⟨s', hs'⟩ := ih (if ok m.path sl = true then keepSlot acc sl else dropSlot acc sl)
      (openOne m sl (storeToken st ok) s).2
    refine ⟨s', ?_⟩
    rw [hs']
    cases hok : ok m.path sl
    · simp only [Bool.false_eq_true, ↓reduceIte, dropSlot, List.filter_cons, hok, List.filter_filter]
      congr 3
      apply List.filter_congr
      intro x _
      by_cases hx : x = sl
      · subst hx; simp [hok]
      · simp [hx]
    · simp only [↓reduceIte, keepSlot, List.filter_cons, hok, List.append_assoc, List.singleton_append]
      congr 3
      apply List.filter_congr
      intro x _
      by_cases hx : x = sl
      · subst hx; simp [hok]
      · simp [hx]

/-- the log entries of querying the slots `pre`, all of which answered "no such object" (newest first) -/
def emptyAnswers (m : P11Module) (label : String) (cls : Nat) (pre : List Nat) : List (TokOp × TokAns) :=
  (pre.map fun sl => (findOp m label cls sl, TokAns.handles [])).reverse

def afterEmpty (m : P11Module) (label : String) (cls : Nat) (pre : List Nat) (s : TokState) : TokState :=
  { count := s.count + pre.length, log := emptyAnswers m label cls pre ++ s.log }

/-- slots without a matching object are passed over, one `findObjects` each -/
theorem find_skip_empty (st : Store) (ok : String → Nat → Bool) (m : P11Module) (label : String)
    (cls : Nat) (hh : Option Bool) (pre rest : List Nat)
    (hpre : ∀ sl ∈ pre, matching st m label cls sl = []) (s : TokState) :
    findInSlots m label cls hh (pre ++ rest) (storeToken st ok) s =
      findInSlots m label cls hh rest (storeToken st ok) (afterEmpty m label cls pre s) := by
  induction pre generalizing s with
  | nil => simp [afterEmpty, emptyAnswers]
  | cons sl pre ih =>
    have h0 : matching st m label cls sl = [] := hpre sl List.mem_cons_self
    rw [List.cons_append, findInSlots_cons_empty _ _ _ _ _ _ _ _ (by rw [storeToken_find, h0]; rfl),
      ih (fun x hx => hpre x (List.mem_cons_of_mem _ hx))]
    congr 1
    simp [afterEmpty, emptyAnswers, TokState.push]
    omega

/-- **(a) No slot has a matching object ⇒ "not found"**, after exactly one query per slot. -/
theorem find_none (st : Store) (ok : String → Nat → Bool) (m : P11Module) (label : String)
    (cls : Nat) (hh : Option Bool) (slots : List Nat)
    (hall : ∀ sl ∈ slots, matching st m label cls sl = []) (s : TokState) :
    findInSlots m label cls hh slots (storeToken st ok) s =
      (.ok none, afterEmpty m label cls slots s) := by
  have := find_skip_empty st ok m label cls hh slots [] hall s
  rw [List.append_nil] at this
  rw [this]; rfl

/-- **(b) The first slot that has any matching object has exactly one ⇒ the outcome is that of
    reading this object** (`foundKey` on its handle): the `findObjects` queries issued are exactly
    those for the slots up to and including `s₀`; what comes after `s₀` plays no role. -/
theorem find_first (st : Store) (ok : String → Nat → Bool) (m : P11Module) (label : String)
    (cls : Nat) (hh : Option Bool) (pre post : List Nat) (s₀ : Nat) (o : StoreObj)
    (hpre : ∀ sl ∈ pre, matching st m label cls sl = [])
    (hone : matching st m label cls s₀ = [o]) (s : TokState) :
    findInSlots m label cls hh (pre ++ s₀ :: post) (storeToken st ok) s =
      foundKey m label cls hh s₀ o.handle (storeToken st ok)
        ((afterEmpty m label cls pre s).push (findOp m label cls s₀) (.handles [o.handle])) := by
  rw [find_skip_empty st ok m label cls hh pre _ hpre s,
    findInSlots_cons_one _ _ _ _ _ _ _ _ o.handle (by rw [storeToken_find, hone]; rfl)]

/-- **(c) Two objects under one label in the first non-empty slot are an error**, whatever later
    slots hold. -/
theorem find_duplicate (st : Store) (ok : String → Nat → Bool) (m : P11Module) (label : String)
    (cls : Nat) (hh : Option Bool) (pre post : List Nat) (s₀ : Nat) (o₁ o₂ : StoreObj) (os : List StoreObj)
    (hpre : ∀ sl ∈ pre, matching st m label cls sl = [])
    (htwo : matching st m label cls s₀ = o₁ :: o₂ :: os) (s : TokState) :
    findInSlots m label cls hh (pre ++ s₀ :: post) (storeToken st ok) s =
      (.error (.error .runtime),
        (afterEmpty m label cls pre s).push (findOp m label cls s₀)
          (.handles (o₁.handle :: o₂.handle :: os.map (·.handle)))) := by
  rw [find_skip_empty st ok m label cls hh pre _ hpre s,
    findInSlots_cons_many _ _ _ _ _ _ _ _ o₁.handle o₂.handle (os.map (·.handle))
      (by rw [storeToken_find, htwo]; rfl)]

/-- later slots are never queried: the outcome *and the operation log* are those of the search cut
    off after `s₀` -/
theorem find_first_ignores_later (st : Store) (ok : String → Nat → Bool) (m : P11Module)
    (label : String) (cls : Nat) (hh : Option Bool) (pre post : List Nat) (s₀ : Nat)
    (hpre : ∀ sl ∈ pre, matching st m label cls sl = [])
    (hne : matching st m label cls s₀ ≠ []) (s : TokState) :
    findInSlots m label cls hh (pre ++ s₀ :: post) (storeToken st ok) s =
      findInSlots m label cls hh (pre ++ [s₀]) (storeToken st ok) s := by
  cases hm : matching st m label cls s₀ with
  | nil => exact absurd hm hne
  | cons o₁ r =>
    cases r with
    | nil => rw [find_first st ok m label cls hh pre post s₀ o₁ hpre hm,
        find_first st ok m label cls hh pre [] s₀ o₁ hpre hm]
    | cons o₂ os => rw [find_duplicate st ok m label cls hh pre post s₀ o₁ o₂ os hpre hm,
        find_duplicate st ok m label cls hh pre [] s₀ o₁ o₂ os hpre hm]

/-- **find_iff (found ⇒).** A key is returned only if, in the first slot (in session order) that
    has any object of the class under the label, exactly one object carries it; the key returned
    lives in that slot, its handle is that object's handle, and the operations issued are the
    `findObjects` for the slots up to `s₀` followed only by attribute reads of that one object. -/
theorem find_iff (st : Store) (ok : String → Nat → Bool) (m : P11Module) (label : String)
    (cls : Nat) (hh : Option Bool) (slots : List Nat) (s s' : TokState) (key : P11Key)
    (hr : findInSlots m label cls hh slots (storeToken st ok) s = (.ok (some key), s')) :
    ∃ pre s₀ post o, slots = pre ++ s₀ :: post ∧
      (∀ sl ∈ pre, matching st m label cls sl = []) ∧ matching st m label cls s₀ = [o] ∧
      key.slot = s₀ ∧ key.module = m.path ∧ key.label = label ∧ key.keyClass = cls ∧
      key.hashUsingHsm = hh ∧
      key.privHandle = (if cls ≠ ckoPublic then some o.handle else none) ∧
      key.pubHandle = (if cls ≠ ckoSecret then some o.handle else none) ∧
      ∃ reads, s'.log = reads ++ (findOp m label cls s₀, .handles [o.handle]) ::
          emptyAnswers m label cls pre ++ s.log ∧
        ∀ e ∈ reads, IsGetAttrOf m.path s₀ o.handle e.1 := by
  rcases all_or_firstSuch (fun sl => matching st m label cls sl = []) slots with hall | ⟨pre, s₀, post, he, hp, hn⟩
  · rw [find_none st ok m label cls hh slots hall s] at hr
    simp at hr
  · subst he
    cases hm : matching st m label cls s₀ with
    | nil => exact absurd hm hn
    | cons o r =>
      cases r with
      | cons o₂ os =>
        rw [find_duplicate st ok m label cls hh pre post s₀ o o₂ os hp hm] at hr
        simp at hr
      | nil =>
        rw [find_first st ok m label cls hh pre post s₀ o hp hm] at hr
        obtain ⟨t, pk, hk⟩ := foundKey_ok _ _ _ _ _ _ _ _ _ _ hr
        obtain ⟨reads, hlog, _, hreads⟩ := (foundKey_emits m label cls hh s₀ o.handle).run hr
        simp only [Option.some.injEq] at hk
        subst hk
        refine ⟨pre, s₀, post, o, rfl, hp, hm, rfl, rfl, rfl, rfl, rfl, rfl, rfl, reads, ?_, hreads⟩
        rw [hlog]; simp [afterEmpty]

/-- **find_iff (not found ⇔).** "Not found" is answered exactly when no session slot holds an
    object of the class under the label. -/
theorem find_none_iff (st : Store) (ok : String → Nat → Bool) (m : P11Module) (label : String)
    (cls : Nat) (hh : Option Bool) (slots : List Nat) (s : TokState) :
    (∃ s', findInSlots m label cls hh slots (storeToken st ok) s = (.ok none, s')) ↔
      ∀ sl ∈ slots, matching st m label cls sl = [] := by
  constructor
  · rintro ⟨s', hr⟩
    rcases all_or_firstSuch (fun sl => matching st m label cls sl = []) slots with hall | ⟨pre, s₀, post, he, hp, hn⟩
    · exact hall
    · subst he
      cases hm : matching st m label cls s₀ with
      | nil => exact absurd hm hn
      | cons o r =>
        cases r with
        | cons o₂ os =>
          rw [find_duplicate st ok m label cls hh pre post s₀ o o₂ os hp hm] at hr
          simp at hr
        | nil =>
          rw [find_first st ok m label cls hh pre post s₀ o hp hm] at hr
          obtain ⟨t, pk, hk⟩ := foundKey_ok _ _ _ _ _ _ _ _ _ _ hr
          simp at hk
  · intro hall
    exact ⟨_, find_none st ok m label cls hh slots hall s⟩

/-- Two or more objects under the label in the first slot that has any: `find_key_by_label` stops with a
    runtime error (corollary of (c); the converse is not claimed). -/
theorem two_objects_error (st : Store) (ok : String → Nat → Bool) (m : P11Module) (label : String)
    (cls : Nat) (hh : Option Bool) (pre post : List Nat) (s₀ : Nat)
    (hpre : ∀ sl ∈ pre, matching st m label cls sl = [])
    (htwo : 2 ≤ (matching st m label cls s₀).length) (s : TokState) :
    ∃ s', findInSlots m label cls hh (pre ++ s₀ :: post) (storeToken st ok) s =
      (.error (.error .runtime), s') := by
  cases hm : matching st m label cls s₀ with
  | nil => simp [hm] at htwo
  | cons o r =>
    cases r with
    | nil => simp [hm] at htwo
    | cons o₂ os => exact ⟨_, find_duplicate st ok m label cls hh pre post s₀ o o₂ os hpre hm s⟩

/-- any key returned by the per-module lookup lives in that module, in one of its session slots,
    under the requested label and class (every token) -/
theorem findInSlots_some (m : P11Module) (label : String) (cls : Nat) (hh : Option Bool) (tok : Token) :
    ∀ (slots : List Nat) (s s' : TokState) (k : P11Key),
      findInSlots m label cls hh slots tok s = (.ok (some k), s') →
      k.module = m.path ∧ k.slot ∈ slots ∧ k.label = label ∧ k.keyClass = cls ∧ k.hashUsingHsm = hh :=
  fun slots s s' k h => findInSlots_yields m label cls hh slots tok s _ s' h k rfl

/-- **Modules are consulted in order and a hit ends the search** (every token): if a key comes
    back, the module list splits as `pre ++ m :: post` where the lookups in `pre` all answered
    "not found", the key was found in `m`, the final state is the state right after `m`'s lookup —
    so no operation at all is issued on the modules in `post` — and the result does not depend on
    `post`. -/
theorem getP11Key_first_module (label : String) (isPublic : Bool) (hh : Option Bool) (tok : Token) :
    ∀ (mods : List P11Module) (s s' : TokState) (k : P11Key),
      getP11Key label isPublic hh mods tok s = (.ok (some k), s') →
      ∃ pre m post s₁, mods = pre ++ m :: post ∧
        getP11Key label isPublic hh pre tok s = (.ok none, s₁) ∧
        findInSlots m label (classOf isPublic) hh m.sessions tok s₁ = (.ok (some k), s') ∧
        k.module = m.path ∧ k.slot ∈ m.sessions ∧
        (∀ post', getP11Key label isPublic hh (pre ++ m :: post') tok s = (.ok (some k), s')) ∧
        ∃ l, s'.log = l ++ s.log ∧ ∀ e ∈ l, IsReadAmong (pre ++ [m]) e.1 := by
  intro mods
  induction mods with
  | nil => intro s s' k h; simp [getP11Key] at h
  | cons m rest ih =>
    intro s s' k h
    cases hf : findInSlots m label (classOf isPublic) hh m.sessions tok s with
    | mk r s1 =>
      cases r with
      | error e => rw [getP11Key_cons_error _ _ _ _ _ _ _ _ e hf] at h; simp at h
      | ok o =>
        cases o with
        | some k' =>
          rw [getP11Key_cons_hit _ _ _ _ _ _ _ _ k' hf] at h
          simp only [Prod.mk.injEq, Except.ok.injEq, Option.some.injEq] at h
          obtain ⟨rfl, rfl⟩ := h
          obtain ⟨hm, hs, _⟩ := findInSlots_some _ _ _ _ _ _ _ _ _ hf
          refine ⟨[], m, rest, s, rfl, rfl, hf, hm, hs, ?_, ?_⟩
          · intro post'; exact getP11Key_cons_hit _ _ _ _ _ _ _ _ _ hf
          · obtain ⟨l, hl, _, hp⟩ := (findInSlots_emits m label (classOf isPublic) hh m.sessions).run hf
            exact ⟨l, hl, fun e he => ⟨m, by simp, hp e he⟩⟩
        | none =>
          rw [getP11Key_cons_miss _ _ _ _ _ _ _ _ hf] at h
          obtain ⟨pre, m', post, s₁, he, hpre, hfound, hm, hs, hind, l, hl, hp⟩ := ih _ _ _ h
          obtain ⟨l0, hl0, _, hp0⟩ := (findInSlots_emits m label (classOf isPublic) hh m.sessions).run hf
          refine ⟨m :: pre, m', post, s₁, by rw [he]; rfl, ?_, hfound, hm, hs, ?_, l ++ l0, ?_, ?_⟩
          · rw [getP11Key_cons_miss _ _ _ _ _ _ _ _ hf]; exact hpre
          · intro post'
            rw [List.cons_append, getP11Key_cons_miss _ _ _ _ _ _ _ _ hf]; exact hind post'
          · rw [hl, hl0, List.append_assoc]
          · intro e he
            rcases List.mem_append.mp he with h1 | h1
            · obtain ⟨x, hx, hr⟩ := hp e h1
              exact ⟨x, List.mem_cons_of_mem _ hx, hr⟩
            · exact ⟨m, by simp, hp0 e h1⟩

/-- **`sign_using_p11` issues at most one token operation**; when it issues one it is
    `C_Sign(module, slot, private handle, mechanism, octets)` with mechanism and octets exactly as
    `_format_data_for_signing` produced them, and it returns `ok b` exactly when the token answered
    that operation with the signature `b`.  Every token, every state. -/
theorem sign_issues_exactly_one_op (hash : Hasher) (key : P11Key) (data : Bytes) (alg : Nat)
    (tok : Token) (s : TokState) :
    ((signUsingP11 hash key data alg tok s).2 = s ∧ ∀ b, (signUsingP11 hash key data alg tok s).1 ≠ .ok b) ∨
    ∃ h d, key.privHandle = some h ∧ formatDataForSigning hash key data alg = .ok d ∧
      key.keyType ≠ .aes ∧ key.keyType ≠ .des3 ∧
      (signUsingP11 hash key data alg tok s).2 =
        s.push (.sign key.module key.slot h d.mechanism d.data)
          (tok s.count (.sign key.module key.slot h d.mechanism d.data)) ∧
      ∀ b, (signUsingP11 hash key data alg tok s).1 = .ok b ↔
        tok s.count (.sign key.module key.slot h d.mechanism d.data) = .sig b :=
  signUsingP11_cases hash key data alg tok s

/-- the text of an RFC 3110 encoding of (exponent, modulus) decodes, for every RSA algorithm number, to the
    modulus and the exponent -/
theorem rsaDecode_encode_text (n e b : Bytes) (hpos : 1 ≤ beNat e)
    (henc : rsaEncodeBytes (beNat e) n = .ok b) (alg : Nat) (halg : isAlgorithmRsa alg = true) :
    rsaDecode (Base64.encode b) alg = .ok { bits := 8 * n.length, exponent := beNat e, n := n } := by
  have hdec := C14.rsa_decode_encode (beNat e) n b (by omega) henc
  simp [rsaDecode, Base64.decode_encode, hdec, bind, Except.bind, halg, pure, Except.pure, Nat.mul_comm]

/-- **RSA: the key text derived from the token attributes decodes to the token's modulus and
    exponent.**  For every token that answers KEY_TYPE ↦ RSA, MODULUS ↦ `n`, PUBLIC_EXPONENT ↦ `e`
    for this object (at whatever operation index), with `int(e) ≥ 1` and `|e| < 65536`: the derived
    text `txt` satisfies, for every RSA algorithm number, `decode txt = (8·|n| bits, int(e), n)`. -/
theorem derived_key_is_token_key_rsa (tok : Token) (path : String) (slot h : Nat) (n e : Bytes)
    (hkt : ∀ i, tok i (.getAttr path slot h ["KEY_TYPE"]) = .attrs [.num ckkRsa])
    (hn : ∀ i, tok i (.getAttr path slot h ["MODULUS"]) = .attrs [.bytes n])
    (he : ∀ i, tok i (.getAttr path slot h ["PUBLIC_EXPONENT"]) = .attrs [.bytes e])
    (hpos : 1 ≤ beNat e) (hlen : e.length < 65536) (s : TokState) :
    ∃ txt s', p11ObjectToPublicKey path slot h tok s = (.ok (some txt), s') ∧
      (∀ alg, isAlgorithmRsa alg = true →
        rsaDecode txt alg = .ok { bits := 8 * n.length, exponent := beNat e, n := n }) ∧
      s'.log = [(.getAttr path slot h ["PUBLIC_EXPONENT"], .attrs [.bytes e]),
                (.getAttr path slot h ["MODULUS"], .attrs [.bytes n]),
                (.getAttr path slot h ["KEY_TYPE"], .attrs [.num ckkRsa])] ++ s.log := by
  obtain ⟨b, henc⟩ := rsaEncodeBytes_ok n e hlen
  refine ⟨Base64.encode b, ((s.push (.getAttr path slot h ["KEY_TYPE"]) (.attrs [.num ckkRsa])).push
    (.getAttr path slot h ["MODULUS"]) (.attrs [.bytes n])).push
    (.getAttr path slot h ["PUBLIC_EXPONENT"]) (.attrs [.bytes e]), ?_, rsaDecode_encode_text n e b hpos henc, rfl⟩
  rw [p11ObjectToPublicKey_rsa_run hkt hn he s, rsaEncode_of_bytes henc]
  rfl

/-- the state after the three attribute reads of the EC branch -/
def afterEcReads (path : String) (slot h : Nat) (point params : Bytes) (s : TokState) : TokState :=
  ((s.push (.getAttr path slot h ["KEY_TYPE"]) (.attrs [.num ckkEc])).push
    (.getAttr path slot h ["EC_POINT"]) (.attrs [.bytes point])).push
    (.getAttr path slot h ["EC_PARAMS"]) (.attrs [.bytes params])

/-- hypotheses "the token answers KEY_TYPE ↦ EC, EC_POINT ↦ point, EC_PARAMS ↦ params for this
    object", at whatever operation index -/
structure EcAnswers (tok : Token) (path : String) (slot h : Nat) (point params : Bytes) : Prop where
  keyType : ∀ i, tok i (.getAttr path slot h ["KEY_TYPE"]) = .attrs [.num ckkEc]
  point : ∀ i, tok i (.getAttr path slot h ["EC_POINT"]) = .attrs [.bytes point]
  params : ∀ i, tok i (.getAttr path slot h ["EC_PARAMS"]) = .attrs [.bytes params]

/-- **EC: the outcome of the conversion as a function of the token's answers** (point present, of a
    length the DER header arithmetic admits): `ecDerive` (Lemmas/Hsm.lean) removes a DER OCTET
    STRING header if present, demands 65 / 97 octets for P-256 / P-384 and answers the base64 of
    what remains. -/
theorem derived_key_ec (tok : Token) (path : String) (slot h : Nat) (point params : Bytes)
    (ha : EcAnswers tok path slot h point params) (hlen : 2 ≤ point.length ∧ point.length < 258)
    (s : TokState) :
    p11ObjectToPublicKey path slot h tok s =
      (ecDerive point params, afterEcReads path slot h point params s) := by
  cases point with
  | nil => simp at hlen
  | cons a r => exact p11ObjectToPublicKey_ec_run ha.keyType ha.point ha.params hlen s

/-- the size the code expects for the curve named by the EC_PARAMS OID: 65 / 97 octets
    (`0x04 ‖ x ‖ y`) -/
def ecPointOctets (params : Bytes) : Option Nat :=
  if params = ecOidP256 then some 65 else if params = ecOidP384 then some 97 else none

theorem ecPointOctets_cases {params : Bytes} {k : Nat} (hk : ecPointOctets params = some k) :
    (params = ecOidP256 ∧ k = 65) ∨ (params = ecOidP384 ∧ k = 97) := by
  unfold ecPointOctets at hk
  split at hk
  · left; exact ⟨‹_›, by simpa using hk.symm⟩
  · split at hk
    · right; exact ⟨‹_›, by simpa using hk.symm⟩
    · simp at hk

theorem ecPointOctets_size {params : Bytes} {k : Nat} (hk : ecPointOctets params = some k) :
    k = 65 ∨ k = 97 :=
  (ecPointOctets_cases hk).imp And.right And.right

/-- the EC branch in terms of the expected size: the size test `(len − 1) · 8 / 2 = 256 / 384` of the code
    is `len = 65 / 97` -/
theorem ecDeriveWith_eq (b : Bool) (point params : Bytes) :
    ecDeriveWith b point params =
      match ecPointOctets params with
      | none => err .runtime
      | some k =>
        if (ecUnwrapWith b point).length = k then .ok (some (Base64.encode (ecUnwrapWith b point)))
        else err .runtime := by
  unfold ecDeriveWith ecPointOctets
  by_cases h1 : params = ecOidP256
  · simp only [if_pos h1]
    by_cases hl : (ecUnwrapWith b point).length = 65
    · rw [if_neg (by omega), if_pos hl]; rfl
    · rw [if_pos (by omega), if_neg hl]
  · by_cases h2 : params = ecOidP384
    · simp only [if_neg h1, if_pos h2]
      by_cases hl : (ecUnwrapWith b point).length = 97
      · rw [if_neg (by omega), if_pos hl]; rfl
      · rw [if_pos (by omega), if_neg hl]
    · simp only [if_neg h1, if_neg h2]

theorem ecDeriveWith_of_length (b : Bool) (point params : Bytes) (k : Nat) (hk : ecPointOctets params = some k)
    (hl : (ecUnwrapWith b point).length = k) :
    ecDeriveWith b point params = .ok (some (Base64.encode (ecUnwrapWith b point))) := by
  rw [ecDeriveWith_eq, hk]
  exact if_pos hl

theorem ecDeriveWith_of_length_ne (b : Bool) (point params : Bytes) (k : Nat)
    (hk : ecPointOctets params = some k) (hl : (ecUnwrapWith b point).length ≠ k) :
    ecDeriveWith b point params = .error (.error .runtime) := by
  rw [ecDeriveWith_eq, hk]
  exact if_neg hl

theorem ecDerive_of_length (point params : Bytes) (k : Nat) (hk : ecPointOctets params = some k)
    (hl : (ecUnwrap point).length = k) :
    ecDerive point params = .ok (some (Base64.encode (ecUnwrap point))) :=
  ecDeriveWith_of_length _ point params k hk hl

/-- **EC, point wrapped in a DER OCTET STRING** (`04 len 04 x y`, as SoftHSM2 answers): for P-256 /
    P-384 with `x‖y` of 64 / 96 octets, the derived key text is the base64 of `04 ‖ x ‖ y`
    (65 / 97 octets).  NOTE: the `0x04` octet is KEPT — this is what /repo does (DESIGN §5, F4). -/
theorem derived_key_ec_wrapped (tok : Token) (path : String) (slot h : Nat) (xy params : Bytes) (k : Nat)
    (hk : ecPointOctets params = some k) (hxy : xy.length + 1 = k)
    (ha : EcAnswers tok path slot h (4 :: UInt8.ofNat k :: 4 :: xy) params) (s : TokState) :
    p11ObjectToPublicKey path slot h tok s =
      (.ok (some (Base64.encode (4 :: xy))),
        afterEcReads path slot h (4 :: UInt8.ofNat k :: 4 :: xy) params s) ∧
    (4 :: xy).length = k ∧ (k = 65 ∨ k = 97) := by
  have hk' := ecPointOctets_size hk
  have hun : ecUnwrap (4 :: UInt8.ofNat k :: 4 :: xy) = 4 :: xy :=
    ecUnwrapWith_wrapped _ xy k hk' hxy
  refine ⟨?_, by simp; omega, hk'⟩
  rw [derived_key_ec tok path slot h _ params ha (by simp; omega) s,
    ecDerive_of_length _ params k hk (by rw [hun]; simp; omega), hun]

/-- **EC, bare point** (`04 x y` of 65 / 97 octets, not of the wrapped form): the derived key text is
    the base64 of the point as the token gave it, first octet included.  (The code does not look at
    the first octet of a bare point.  Holds under either unwrap rule.  A bare point whose 2nd and 3rd
    octets happen to be `len−2, 04` — X starts `3f 04` / `5f 04` — is excluded here by `hbare`: the
    pinned rule mistakes it for a wrapped one and refuses it (finding F24), the repaired rule takes it as
    it is; see "The unwrap rule" below and `derived_key_ec_bare_current_tree`.) -/
theorem derived_key_ec_bare (tok : Token) (path : String) (slot h : Nat) (point params : Bytes) (k : Nat)
    (hk : ecPointOctets params = some k) (hl : point.length = k)
    (hbare : point.take 3 ≠ [4, UInt8.ofNat (point.length - 2), 4])
    (ha : EcAnswers tok path slot h point params) (s : TokState) :
    p11ObjectToPublicKey path slot h tok s =
      (.ok (some (Base64.encode point)), afterEcReads path slot h point params s) := by
  have hk' := ecPointOctets_size hk
  have hun : ecUnwrap point = point := ecUnwrapWith_of_not_prefix _ point hbare
  rw [derived_key_ec tok path slot h _ params ha (by omega) s,
    ecDerive_of_length _ params k hk (by rw [hun]; exact hl), hun]

/-! ## The unwrap rule: what tells a bare point from a wrapped one (finding F24)

The token returns CKA_EC_POINT either bare (`04 x y`, 65 / 97 octets for P-256 / P-384) or as a DER OCTET
STRING (`04 (1+2n) 04 x y`, 67 / 99 octets).  By PKCS#11 / SEC 1 the curve's point size decides which.  The
code's rule is tabulated from the tree by execution (`KskmGen.ecUnwrapChecksLength`); `ecUnwrapWith` /
`ecDeriveWith` (Kskm/Hsm.lean, Lemmas/Hsm.lean) are the rule and the EC branch for either value, and
`derived_key_ec` + `ecDerive_eq_with` tie them to `p11ObjectToPublicKey` at the value of the current tree.
  * repaired rule (`true`): EVERY string of the curve's point size is taken as it is
    (`ec_bare_any_octets_repaired`), a wrapped point gives its inner octets (`ec_wrapped_either_rule`);
  * pinned rule (`false`): a bare point that starts with the three octets of a wrapper of itself is refused
    (`ec_bare_refused_pinned`, witness `ec_bare_refused_pinned_witness`: the P-256 key d = 20220);
  * `derived_key_ec_bare_current_tree` states whichever applies to the checked-out tree, about
    `p11ObjectToPublicKey` itself. -/

/-- the bare point `04 ‖ X ‖ Y` of the P-256 key with private scalar d = 20220: X starts `3f 04`, so the 65
    octets start `04 3f 04` — tag, length 65 − 2, inner 04 of a DER wrapper of the string itself -/
def f24BarePoint : Bytes :=
  [0x04, 0x3f, 0x04, 0x19, 0xf4, 0x7d, 0x59, 0x77, 0x28, 0xf6, 0x61, 0x0f, 0x15, 0xa2, 0x28, 0xd2,
   0x43, 0x1f, 0x53, 0x8c, 0x9a, 0xf6, 0x2a, 0xf5, 0x7b, 0x7e, 0x65, 0xcb, 0xd9, 0x3b, 0x83, 0xf6,
   0x92, 0x29, 0x63, 0x13, 0x47, 0x24, 0xf2, 0x9e, 0x39, 0x3b, 0x02, 0xe6, 0xed, 0xa8, 0x38, 0xae,
   0x2b, 0x7f, 0x8f, 0xa6, 0xdb, 0x34, 0xc3, 0x81, 0x83, 0x80, 0xda, 0xc4, 0x4b, 0x4f, 0xad, 0x9d,
   0xf0]

/-- **Repaired rule: the point size decides.**  For P-256 / P-384 EVERY string of 65 / 97 octets —
    whatever its octets, `04 3f 04 …` / `04 5f 04 …` included — is taken as the bare point itself: the
    derived key text is the base64 of the string as it is (its first octet kept: finding F4). -/
theorem ec_bare_any_octets_repaired (point params : Bytes) (k : Nat)
    (hk : ecPointOctets params = some k) (hl : point.length = k) :
    ecDeriveWith true point params = .ok (some (Base64.encode point)) := by
  have hk' := ecPointOctets_size hk
  have hun : ecUnwrapWith true point = point :=
    ecUnwrapWith_true_of_point_length point (by omega)
  rw [ecDeriveWith_of_length true point params k hk (by rw [hun]; exact hl), hun]

/-- **Either rule: a wrapped point gives its inner octets.**  `04 k 04 x y` with k = 65 (P-256) / 97
    (P-384) = 1 + |x y|, i.e. a string of 67 / 99 octets: the derived key text is the base64 of the inner
    65 / 97 octets `04 x y`. -/
theorem ec_wrapped_either_rule (b : Bool) (xy params : Bytes) (k : Nat)
    (hk : ecPointOctets params = some k) (hxy : xy.length + 1 = k) :
    ecDeriveWith b (4 :: UInt8.ofNat k :: 4 :: xy) params = .ok (some (Base64.encode (4 :: xy))) ∧
    (4 :: UInt8.ofNat k :: 4 :: xy).length = k + 2 ∧ (4 :: xy).length = k ∧ (k = 65 ∨ k = 97) := by
  have hk' := ecPointOctets_size hk
  have hun : ecUnwrapWith b (4 :: UInt8.ofNat k :: 4 :: xy) = 4 :: xy := ecUnwrapWith_wrapped b xy k hk' hxy
  have hl : (4 :: xy).length = k := by simp; omega
  refine ⟨?_, by simp; omega, hl, hk'⟩
  rw [ecDeriveWith_of_length b _ params k hk (by rw [hun]; exact hl), hun]

/-- **Pinned rule: F24.**  A BARE point of the curve's size (65 / 97 octets) that starts with the three
    octets of a wrapper of itself — `04 3f 04` / `04 5f 04`: X starts `3f 04` / `5f 04`, one key in 65536 —
    loses two octets and is refused with the size error: a legitimate key on the token is not found. -/
theorem ec_bare_refused_pinned (point params : Bytes) (k : Nat)
    (hk : ecPointOctets params = some k) (hl : point.length = k)
    (h3 : point.take 3 = [4, UInt8.ofNat (k - 2), 4]) :
    ecDeriveWith false point params = .error (.error .runtime) := by
  have hk' := ecPointOctets_size hk
  have hun : ecUnwrapWith false point = point.drop 2 :=
    ecUnwrapWith_false_of_prefix point (by rw [hl]; exact h3)
  have hlen : (point.drop 2).length = k - 2 := by simp [hl]
  exact ecDeriveWith_of_length_ne false point params k hk (by rw [hun, hlen]; omega)

/-- the witness: the 65-octet bare point `04 3f 04 …` of the real P-256 key d = 20220 is refused by the
    pinned rule — and taken as it is by the repaired one -/
theorem ec_bare_refused_pinned_witness :
    f24BarePoint.length = 65 ∧ f24BarePoint.take 3 = [0x04, 0x3f, 0x04] ∧
    ecDeriveWith false f24BarePoint ecOidP256 = .error (.error .runtime) ∧
    ecUnwrapWith true f24BarePoint = f24BarePoint := by
  refine ⟨by decide, by decide, by decide +kernel, by decide +kernel⟩

/-- **The checked-out tree** (the switch is tabulated from the code by execution on every run), about
    `_p11_object_to_public_key` itself: with the repaired rule every object whose CKA_EC_POINT has the
    curve's point size yields the base64 of these octets as they are, whatever they are; with the pinned
    rule the P-256 key d = 20220, stored bare, ends in the runtime error (F24). -/
theorem derived_key_ec_bare_current_tree :
    if KskmGen.ecUnwrapChecksLength = true then
      ∀ (tok : Token) (path : String) (slot h : Nat) (point params : Bytes) (k : Nat),
        ecPointOctets params = some k → point.length = k → EcAnswers tok path slot h point params →
        ∀ s, p11ObjectToPublicKey path slot h tok s =
          (.ok (some (Base64.encode point)), afterEcReads path slot h point params s)
    else
      ∀ (tok : Token) (path : String) (slot h : Nat), EcAnswers tok path slot h f24BarePoint ecOidP256 →
        ∀ s, p11ObjectToPublicKey path slot h tok s =
          (.error (.error .runtime), afterEcReads path slot h f24BarePoint ecOidP256 s) := by
  cases hsw : KskmGen.ecUnwrapChecksLength with
  | true =>
    simp only [↓reduceIte]
    intro tok path slot h point params k hk hl ha s
    have hk' := ecPointOctets_size hk
    rw [derived_key_ec tok path slot h _ params ha (by omega) s, ecDerive_eq_with, hsw,
      ec_bare_any_octets_repaired point params k hk hl]
  | false =>
    simp only [Bool.false_eq_true, ↓reduceIte]
    intro tok path slot h ha s
    rw [derived_key_ec tok path slot h _ ecOidP256 ha (by decide) s, ecDerive_eq_with, hsw,
      ec_bare_refused_pinned_witness.2.2.1]

/-- **EC, unknown curve OID ⇒ runtime error** (no key text is made up). -/
theorem derived_key_ec_unknown_curve (tok : Token) (path : String) (slot h : Nat) (point params : Bytes)
    (hk : ecPointOctets params = none) (hlen : 2 ≤ point.length ∧ point.length < 258)
    (ha : EcAnswers tok path slot h point params) (s : TokState) :
    p11ObjectToPublicKey path slot h tok s =
      (.error (.error .runtime), afterEcReads path slot h point params s) := by
  rw [derived_key_ec tok path slot h _ params ha hlen s, ecDerive_eq_with, ecDeriveWith_eq, hk]
  rfl

/-- **EC, wrong length for the curve ⇒ runtime error**: after removal of a DER header if present,
    anything but 65 (P-256) / 97 (P-384) octets is refused. -/
theorem derived_key_ec_wrong_length (tok : Token) (path : String) (slot h : Nat) (point params : Bytes)
    (k : Nat) (hk : ecPointOctets params = some k) (hl : (ecUnwrap point).length ≠ k)
    (hlen : 2 ≤ point.length ∧ point.length < 258)
    (ha : EcAnswers tok path slot h point params) (s : TokState) :
    p11ObjectToPublicKey path slot h tok s =
      (.error (.error .runtime), afterEcReads path slot h point params s) := by
  rw [derived_key_ec tok path slot h _ params ha hlen s, ecDerive_eq_with,
    ecDeriveWith_of_length_ne _ point params k hk hl]

/-- **EC, absent point ⇒ no public key** (`ok none`; the caller then looks for the public object),
    and the curve parameters are not even read. -/
theorem derived_key_ec_absent (tok : Token) (path : String) (slot h : Nat) (pt : AttrAns)
    (hkt : ∀ i, tok i (.getAttr path slot h ["KEY_TYPE"]) = .attrs [.num ckkEc])
    (hpt : ∀ i, tok i (.getAttr path slot h ["EC_POINT"]) = .attrs [pt])
    (habs : pt = .none ∨ pt = .bytes []) (s : TokState) :
    p11ObjectToPublicKey path slot h tok s =
      (.ok none, (s.push (.getAttr path slot h ["KEY_TYPE"]) (.attrs [.num ckkEc])).push
          (.getAttr path slot h ["EC_POINT"]) (.attrs [pt])) :=
  p11ObjectToPublicKey_ec_absent hkt hpt habs s

/-- **(b) with the conversion left open**: the first slot holding the label holds one object, of a key
    type `find_key_by_label` knows, whose conversion yields `pk` ⇒ the lookup returns its record with that
    key text (RSA: `find_first_rsa`; EC, and a private object without a readable point: Lemmas/C01Ec.lean) -/
theorem find_first_conv (st : Store) (ok : String → Nat → Bool) (m : P11Module) (label : String)
    (cls : Nat) (hh : Option Bool) (pre post : List Nat) (s₀ : Nat) (o : StoreObj) (n : Nat) (t : KeyType)
    (pk : Option String)
    (hpre : ∀ sl ∈ pre, matching st m label cls sl = [])
    (hone : matching st m label cls s₀ = [o])
    (hfind : (st m.path s₀).find? (·.handle == o.handle) = some o) (hkt : o.keyType = some n)
    (ht : keyTypeOf n = some t)
    (hconv : ∀ s, ∃ s1, p11ObjectToPublicKey m.path s₀ o.handle (storeToken st ok) s = (.ok pk, s1))
    (hcls : cls ≠ ckoSecret) (s : TokState) :
    ∃ s', findInSlots m label cls hh (pre ++ s₀ :: post) (storeToken st ok) s =
        (.ok (some (keyRecord m label cls hh s₀ o.handle t pk)), s') := by
  obtain ⟨s1, hrun⟩ := hconv
    ((afterEmpty m label cls pre s).push (findOp m label cls s₀) (.handles [o.handle]))
  refine ⟨s1.read m.path s₀ o.handle "KEY_TYPE" (.num n), ?_⟩
  rw [find_first st ok m label cls hh pre post s₀ o hpre hone]
  unfold foundKey
  rw [if_pos hcls, bind_run_ok _ _ _ _ _ _ hrun,
    foundKeyTail_run m label cls hh s₀ o.handle pk _ s1 n t (o.attr_keyType _ hkt ▸ storeToken_answers st ok hfind _ _) ht]

/-- the conversion of an RSA object of a healthy token with readable modulus and exponent: the RFC 3110
    text, from any state -/
theorem rsa_conv (st : Store) (ok : String → Nat → Bool) (path : String) (slot : Nat) (o : StoreObj)
    (n e raw : Bytes) (hfind : (st path slot).find? (·.handle == o.handle) = some o)
    (hkt : o.keyType = some ckkRsa) (hn : o.modulus = some n) (he : o.publicExponent = some e)
    (henc : rsaEncodeBytes (beNat e) n = .ok raw) (s : TokState) :
    ∃ s1, p11ObjectToPublicKey path slot o.handle (storeToken st ok) s =
      (.ok (some (Base64.encode raw)), s1) := by
  have hrun := p11ObjectToPublicKey_rsa_run (o.attr_keyType _ hkt ▸ storeToken_answers st ok hfind _)
    (by have := storeToken_answers st ok hfind "MODULUS"; rwa [o.attr_modulus, hn] at this)
    (by have := storeToken_answers st ok hfind "PUBLIC_EXPONENT"; rwa [o.attr_publicExponent, he] at this) s
  rw [rsaEncode_of_bytes henc] at hrun
  exact ⟨_, hrun⟩

/-- **(b), fully evaluated for an RSA object with all attributes present** (public or private
    class): the key record returned names module, slot and handle of that object and carries a
    public key text that decodes — for every RSA algorithm — to the object's modulus and exponent. -/
theorem find_first_rsa (st : Store) (ok : String → Nat → Bool) (m : P11Module) (label : String)
    (cls : Nat) (hh : Option Bool) (pre post : List Nat) (s₀ : Nat) (o : StoreObj) (n e : Bytes)
    (hpre : ∀ sl ∈ pre, matching st m label cls sl = [])
    (hone : matching st m label cls s₀ = [o])
    (hfind : (st m.path s₀).find? (·.handle == o.handle) = some o)
    (hkt : o.keyType = some ckkRsa) (hn : o.modulus = some n) (he : o.publicExponent = some e)
    (hcls : cls ≠ ckoSecret) (hpos : 1 ≤ beNat e) (hlen : e.length < 65536) (s : TokState) :
    ∃ txt s', findInSlots m label cls hh (pre ++ s₀ :: post) (storeToken st ok) s =
        (.ok (some { label, keyType := .rsa, keyClass := cls, hashUsingHsm := hh,
                     publicKey := some txt, module := m.path, slot := s₀,
                     privHandle := if cls ≠ ckoPublic then some o.handle else none,
                     pubHandle := if cls ≠ ckoSecret then some o.handle else none }), s') ∧
      ∀ alg, isAlgorithmRsa alg = true →
        rsaDecode txt alg = .ok { bits := 8 * n.length, exponent := beNat e, n := n } := by
  obtain ⟨raw, henc⟩ := rsaEncodeBytes_ok n e hlen
  obtain ⟨s', h⟩ := find_first_conv st ok m label cls hh pre post s₀ o ckkRsa .rsa (some (Base64.encode raw))
    hpre hone hfind hkt rfl (rsa_conv st ok m.path s₀ o n e raw hfind hkt hn he henc) hcls s
  exact ⟨_, s', h, rsaDecode_encode_text n e raw hpos henc⟩

/-- modules none of whose session slots holds a matching object answer "not found" (one `findObjects` per
    session slot), and the search goes on from the state they leave -/
theorem getP11Key_skip_modules (st : Store) (ok : String → Nat → Bool) (label : String)
    (isPublic : Bool) (hh : Option Bool) (pre : List P11Module)
    (hpre : ∀ m ∈ pre, ∀ sl ∈ m.sessions, matching st m label (classOf isPublic) sl = [])
    (s : TokState) :
    ∃ s₁, getP11Key label isPublic hh pre (storeToken st ok) s = (.ok none, s₁) ∧
      ∀ rest, getP11Key label isPublic hh (pre ++ rest) (storeToken st ok) s =
        getP11Key label isPublic hh rest (storeToken st ok) s₁ := by
  induction pre generalizing s with
  | nil => exact ⟨s, rfl, fun _ => rfl⟩
  | cons m pre ih =>
    have hm := find_none st ok m label (classOf isPublic) hh m.sessions (hpre m List.mem_cons_self) s
    obtain ⟨s₁, h1, h2⟩ := ih (fun x hx => hpre x (List.mem_cons_of_mem _ hx))
      (afterEmpty m label (classOf isPublic) m.sessions s)
    refine ⟨s₁, ?_, fun rest => ?_⟩
    · rw [getP11Key_cons_miss _ _ _ _ _ _ _ _ hm, h1]
    · rw [List.cons_append, getP11Key_cons_miss _ _ _ _ _ _ _ _ hm, h2]

/-- **the label lives in one place**: in module order and, within the module, session-slot order, the first
    slot that holds a matching object is `slot` of `m`, and it holds exactly one, convertible as in
    `find_first_conv` ⇒ `get_p11_key` returns the record of that object -/
theorem getP11Key_first_conv (st : Store) (ok : String → Nat → Bool) (mods : List P11Module) (label : String)
    (isPublic : Bool) (hh : Option Bool) (m : P11Module) (slot : Nat) (o : StoreObj) (n : Nat) (t : KeyType)
    (pk : Option String)
    (hmods : ∃ pre post, mods = pre ++ m :: post ∧
      ∀ m' ∈ pre, ∀ sl ∈ m'.sessions, matching st m' label (classOf isPublic) sl = [])
    (hsess : ∃ spre spost, m.sessions = spre ++ slot :: spost ∧
      ∀ sl ∈ spre, matching st m label (classOf isPublic) sl = [])
    (hone : matching st m label (classOf isPublic) slot = [o])
    (hfind : (st m.path slot).find? (·.handle == o.handle) = some o) (hkt : o.keyType = some n)
    (ht : keyTypeOf n = some t)
    (hconv : ∀ s, ∃ s1, p11ObjectToPublicKey m.path slot o.handle (storeToken st ok) s = (.ok pk, s1))
    (s : TokState) :
    ∃ s', getP11Key label isPublic hh mods (storeToken st ok) s =
        (.ok (some (keyRecord m label (classOf isPublic) hh slot o.handle t pk)), s') := by
  obtain ⟨pre, post, rfl, hpre⟩ := hmods
  obtain ⟨spre, spost, hs, hspre⟩ := hsess
  obtain ⟨s₁, _, h1⟩ := getP11Key_skip_modules st ok label isPublic hh pre hpre s
  obtain ⟨s', h2⟩ := find_first_conv st ok m label (classOf isPublic) hh spre spost slot o n t pk hspre hone
    hfind hkt ht hconv (by cases isPublic <;> decide) s₁
  rw [← hs] at h2
  exact ⟨s', by rw [h1, getP11Key_cons_hit _ _ _ _ _ _ _ _ _ h2]⟩

theorem getP11Key_store_none (st : Store) (ok : String → Nat → Bool) (label : String)
    (isPublic : Bool) (hh : Option Bool) (mods : List P11Module)
    (hall : ∀ m ∈ mods, ∀ sl ∈ m.sessions, matching st m label (classOf isPublic) sl = [])
    (s : TokState) :
    ∃ s', getP11Key label isPublic hh mods (storeToken st ok) s = (.ok none, s') :=
  let ⟨s₁, h, _⟩ := getP11Key_skip_modules st ok label isPublic hh mods hall s
  ⟨s₁, h⟩

/-- **two objects under one label in a slot stop `get_p11_key`** with the runtime error, even when a
    later slot or a later module holds exactly one such object -/
theorem getP11Key_duplicate (st : Store) (ok : String → Nat → Bool) (label : String)
    (isPublic : Bool) (hh : Option Bool) (pre post : List P11Module) (m : P11Module)
    (spre spost : List Nat) (s₀ : Nat)
    (hpre : ∀ m' ∈ pre, ∀ sl ∈ m'.sessions, matching st m' label (classOf isPublic) sl = [])
    (hm : m.sessions = spre ++ s₀ :: spost)
    (hspre : ∀ sl ∈ spre, matching st m label (classOf isPublic) sl = [])
    (htwo : 2 ≤ (matching st m label (classOf isPublic) s₀).length) (s : TokState) :
    ∃ s', getP11Key label isPublic hh (pre ++ m :: post) (storeToken st ok) s =
      (.error (.error .runtime), s') := by
  obtain ⟨s₁, _, h⟩ := getP11Key_skip_modules st ok label isPublic hh pre hpre s
  obtain ⟨s', h'⟩ := two_objects_error st ok m label (classOf isPublic) hh spre spost s₀ hspre htwo s₁
  rw [← hm] at h'
  exact ⟨s', by rw [h, getP11Key_cons_error _ _ _ _ _ _ _ _ _ h']⟩

/-- a successful `sign_using_p11` logged exactly one operation, the `C_Sign` below -/
theorem sign_ok_log (hash : Hasher) (key : P11Key) (data : Bytes) (alg : Nat) (tok : Token)
    (s s' : TokState) (b : Bytes) (h : signUsingP11 hash key data alg tok s = (.ok b, s')) :
    ∃ hnd d, key.privHandle = some hnd ∧ formatDataForSigning hash key data alg = .ok d ∧
      s'.log = (.sign key.module key.slot hnd d.mechanism d.data, .sig b) :: s.log ∧
      s'.count = s.count + 1 := by
  obtain ⟨d, hnd, hf, hp, _, _, _, rfl⟩ := signUsingP11_ok h
  exact ⟨hnd, d, hp, hf, rfl, rfl⟩

/-- raw RSA (algorithms 8, 10; hashing on the host): what the token signed is the
    full-modulus-length EMSA-PKCS1-v1_5 block of the matching digest, under `CKM_RSA_X_509` -/
theorem signed_octets_raw_rsa (hash : Hasher) (key : P11Key) (data : Bytes) (alg : Nat) (tok : Token)
    (s s' : TokState) (b : Bytes) (hk : key.hashUsingHsm ≠ some true) (ha : alg = 8 ∨ alg = 10)
    (h : signUsingP11 hash key data alg tok s = (.ok b, s')) :
    ∃ hnd pk pub digest, key.privHandle = some hnd ∧ key.publicKey = some pk ∧
      rsaDecode pk alg = .ok pub ∧ hash (if alg = 8 then .sha256 else .sha512) data = some digest ∧
      s'.log = (.sign key.module key.slot hnd ckmRsaX509
        (emsaBlock (pub.bits / 8) ((if alg = 8 then digestInfoSha256 else digestInfoSha512) ++ digest)),
        .sig b) :: s.log := by
  obtain ⟨hnd, d, hp, hf, hl, _⟩ := sign_ok_log hash key data alg tok s s' b h
  obtain ⟨pk, pub, digest, h1, h2, h3, h4, h5⟩ := raw_rsa_is_emsa hash key data alg d hk ha hf
  exact ⟨hnd, pk, pub, digest, hp, h1, h2, h3, by rw [hl, h4, h5]⟩

/-- raw ECDSA (13, 14): what the token signed is the matching digest, under `CKM_ECDSA` -/
theorem signed_octets_raw_ecdsa (hash : Hasher) (key : P11Key) (data : Bytes) (alg : Nat) (tok : Token)
    (s s' : TokState) (b : Bytes) (hk : key.hashUsingHsm ≠ some true) (ha : alg = 13 ∨ alg = 14)
    (h : signUsingP11 hash key data alg tok s = (.ok b, s')) :
    ∃ hnd digest, key.privHandle = some hnd ∧
      hash (if alg = 13 then .sha256 else .sha384) data = some digest ∧
      s'.log = (.sign key.module key.slot hnd ckmEcdsa digest, .sig b) :: s.log := by
  obtain ⟨hnd, d, hp, hf, hl, _⟩ := sign_ok_log hash key data alg tok s s' b h
  obtain ⟨h1, h2⟩ := raw_ecdsa_is_digest hash key data alg d hk ha hf
  exact ⟨hnd, d.data, hp, h2, by rw [hl, h1]⟩

/-- hash on token: the data go to the token untouched, under the mechanism matching the algorithm -/
theorem signed_octets_hash_on_token (hash : Hasher) (key : P11Key) (data : Bytes) (alg : Nat)
    (tok : Token) (s s' : TokState) (b : Bytes) (hk : key.hashUsingHsm = some true)
    (ha : alg ∈ [5, 8, 10, 13, 14]) (h : signUsingP11 hash key data alg tok s = (.ok b, s')) :
    ∃ hnd mech, key.privHandle = some hnd ∧ mechanismFor true alg = some mech ∧
      s'.log = (.sign key.module key.slot hnd mech data, .sig b) :: s.log := by
  obtain ⟨hnd, d, hp, hf, hl, _⟩ := sign_ok_log hash key data alg tok s s' b h
  obtain ⟨h1, h2, _⟩ := hash_on_token_untouched hash key data alg d hk ha hf
  exact ⟨hnd, d.mechanism, hp, h2.symm, by rw [hl, h1]⟩

/-! ## The keymaster's lookups (C19) obey the same theorems

Kskm/Keymaster.lean re-states `find_key_by_label` / `get_p11_key` as programs `Km.findInSlotsP` /
`Km.getP11KeyP` (so that C19 can run them against a store).  KskmProofs/Lemmas/KmHsmEq.lean proves that their
oracle interpretation `runTok` EQUALS the `TokM` functions the theorems above are about
(`Km.runTok_findInSlotsP`, `Km.runTok_getP11KeyP`); so each theorem above is, by rewriting, a theorem about the keymaster's
lookups.  Spelled out for (b), (c), "not found ⇔" and the module order. -/

/-- **(b) for the keymaster**: the first slot that has any matching object has exactly one ⇒ the outcome —
    result, operation count and log — is that of reading this object; later slots play no role. -/
theorem km_find_first (st : Store) (ok : String → Nat → Bool) (m : P11Module) (label : String)
    (cls : Nat) (hh : Option Bool) (pre post : List Nat) (s₀ : Nat) (o : StoreObj)
    (hpre : ∀ sl ∈ pre, matching st m label cls sl = [])
    (hone : matching st m label cls s₀ = [o]) (s : TokState) :
    (Km.findInSlotsP m label cls hh (pre ++ s₀ :: post)).runTok (storeToken st ok) s =
      (Km.foundKeyP m label cls hh s₀ o.handle).runTok (storeToken st ok)
        ((afterEmpty m label cls pre s).push (findOp m label cls s₀) (.handles [o.handle])) := by
  rw [Km.runTok_findInSlotsP, Km.runTok_foundKeyP]
  exact find_first st ok m label cls hh pre post s₀ o hpre hone s

/-- **(c) for the keymaster**: two objects under one label in the first non-empty slot are the runtime
    error, whatever later slots hold (so `keygen` / `keydel` stop there). -/
theorem km_find_duplicate (st : Store) (ok : String → Nat → Bool) (m : P11Module) (label : String)
    (cls : Nat) (hh : Option Bool) (pre post : List Nat) (s₀ : Nat) (o₁ o₂ : StoreObj) (os : List StoreObj)
    (hpre : ∀ sl ∈ pre, matching st m label cls sl = [])
    (htwo : matching st m label cls s₀ = o₁ :: o₂ :: os) (s : TokState) :
    (Km.findInSlotsP m label cls hh (pre ++ s₀ :: post)).runTok (storeToken st ok) s =
      (.error (.error .runtime),
        (afterEmpty m label cls pre s).push (findOp m label cls s₀)
          (.handles (o₁.handle :: o₂.handle :: os.map (·.handle)))) := by
  rw [Km.runTok_findInSlotsP]
  exact find_duplicate st ok m label cls hh pre post s₀ o₁ o₂ os hpre htwo s

/-- **"not found" ⇔ no session slot holds the label**, for the keymaster's lookup -/
theorem km_find_none_iff (st : Store) (ok : String → Nat → Bool) (m : P11Module) (label : String)
    (cls : Nat) (hh : Option Bool) (slots : List Nat) (s : TokState) :
    (∃ s', (Km.findInSlotsP m label cls hh slots).runTok (storeToken st ok) s = (.ok none, s')) ↔
      ∀ sl ∈ slots, matching st m label cls sl = [] := by
  rw [Km.runTok_findInSlotsP]
  exact find_none_iff st ok m label cls hh slots s

/-- **found ⇒** exactly one object in the first slot that has any, with its slot, module and handle —
    `find_iff` for the keymaster's lookup -/
theorem km_find_iff (st : Store) (ok : String → Nat → Bool) (m : P11Module) (label : String)
    (cls : Nat) (hh : Option Bool) (slots : List Nat) (s s' : TokState) (key : P11Key)
    (hr : (Km.findInSlotsP m label cls hh slots).runTok (storeToken st ok) s = (.ok (some key), s')) :
    ∃ pre s₀ post o, slots = pre ++ s₀ :: post ∧
      (∀ sl ∈ pre, matching st m label cls sl = []) ∧ matching st m label cls s₀ = [o] ∧
      key.slot = s₀ ∧ key.module = m.path ∧ key.label = label ∧ key.keyClass = cls ∧
      key.hashUsingHsm = hh ∧
      key.privHandle = (if cls ≠ ckoPublic then some o.handle else none) ∧
      key.pubHandle = (if cls ≠ ckoSecret then some o.handle else none) ∧
      ∃ reads, s'.log = reads ++ (findOp m label cls s₀, .handles [o.handle]) ::
          emptyAnswers m label cls pre ++ s.log ∧
        ∀ e ∈ reads, IsGetAttrOf m.path s₀ o.handle e.1 := by
  rw [Km.runTok_findInSlotsP] at hr
  exact find_iff st ok m label cls hh slots s s' key hr

/-- **modules in order, a hit ends the search** — for EVERY token, the keymaster's `get_p11_key` -/
theorem km_getP11Key_first_module (label : String) (isPublic : Bool) (hh : Option Bool) (tok : Token)
    (mods : List P11Module) (s s' : TokState) (k : P11Key)
    (h : (Km.getP11KeyP label isPublic hh mods).runTok tok s = (.ok (some k), s')) :
    ∃ pre m post s₁, mods = pre ++ m :: post ∧
      (Km.getP11KeyP label isPublic hh pre).runTok tok s = (.ok none, s₁) ∧
      (Km.findInSlotsP m label (classOf isPublic) hh m.sessions).runTok tok s₁ = (.ok (some k), s') ∧
      k.module = m.path ∧ k.slot ∈ m.sessions ∧
      (∀ post', (Km.getP11KeyP label isPublic hh (pre ++ m :: post')).runTok tok s = (.ok (some k), s')) ∧
      ∃ l, s'.log = l ++ s.log ∧ ∀ e ∈ l, IsReadAmong (pre ++ [m]) e.1 := by
  rw [Km.runTok_getP11KeyP] at h
  obtain ⟨pre, m, post, s₁, h1, h2, h3, h4, h5, h6, h7⟩ := getP11Key_first_module label isPublic hh tok mods s s' k h
  refine ⟨pre, m, post, s₁, h1, ?_, ?_, h4, h5, ?_, h7⟩
  · rw [Km.runTok_getP11KeyP]; exact h2
  · rw [Km.runTok_findInSlotsP]; exact h3
  · intro post'; rw [Km.runTok_getP11KeyP]; exact h6 post'

/-! a concrete healthy token with one RSA key in the second slot -/

def exObj : StoreObj :=
  { handle := 7, cls := ckoPublic, label := "K", keyType := some ckkRsa,
    modulus := some [0x80, 1], publicExponent := some [1, 0, 1] }
def exStore : Store := fun p sl => if p = "mod" ∧ sl = 1 then [exObj] else []
def exMod : P11Module := { label := "hsm", path := "mod", slots := [0, 1, 2], sessions := [0, 1, 2] }
def exTok : Token := storeToken exStore (fun _ _ => true)

-- hypotheses of `find_first` / `find_first_rsa` (pre = [0], s₀ = 1, post = [2])
example : (∀ sl ∈ [0], matching exStore exMod "K" ckoPublic sl = []) ∧
    matching exStore exMod "K" ckoPublic 1 = [exObj] ∧
    (exStore exMod.path 1).find? (·.handle == exObj.handle) = some exObj ∧
    1 ≤ beNat [1, 0, 1] := by decide
-- … and the model's verdict on it: found in slot 1 with handle 7; slot 2 never queried
-- (result and log stated together, so that the kernel runs the lookup once)
theorem exFind_run :
    (findInSlots exMod "K" ckoPublic none [0, 1, 2] exTok {}).1 =
      .ok (some { label := "K", keyType := .rsa, keyClass := ckoPublic, publicKey := some "AwEAAYAB",
                  module := "mod", slot := 1, pubHandle := some 7 }) ∧
    ((findInSlots exMod "K" ckoPublic none [0, 1, 2] exTok {}).2.log.filter
      (fun e => match e.1 with | .findObjects .. => true | _ => false)).map (·.1) =
      [findOp exMod "K" ckoPublic 1, findOp exMod "K" ckoPublic 0] := by decide +kernel
example : (findInSlots exMod "K" ckoPublic none [0, 1, 2] exTok {}).1 =
    .ok (some { label := "K", keyType := .rsa, keyClass := ckoPublic, publicKey := some "AwEAAYAB",
                module := "mod", slot := 1, pubHandle := some 7 }) := exFind_run.1
example : ((findInSlots exMod "K" ckoPublic none [0, 1, 2] exTok {}).2.log.filter
      (fun e => match e.1 with | .findObjects .. => true | _ => false)).map (·.1) =
    [findOp exMod "K" ckoPublic 1, findOp exMod "K" ckoPublic 0] := exFind_run.2
example : rsaDecode "AwEAAYAB" 8 = .ok { bits := 16, exponent := 65537, n := [0x80, 1] } := by
  decide +kernel
-- two objects under the label in slot 1: runtime error although slot 2 holds exactly one
example : (findInSlots exMod "K" ckoPublic none [0, 1, 2]
    (storeToken (fun _ sl => if sl = 1 then [exObj, { exObj with handle := 8 }]
                             else if sl = 2 then [exObj] else []) (fun _ _ => true)) {}).1 =
    .error (.error .runtime) := by decide +kernel
-- a slot that refuses login is dropped (hypothesis `Nodup` of `sessions_drop_failed` holds)
example : [0, 1, 2].Nodup ∧
    (openSessions exMod [0, 1, 2] { exMod with sessions := [] }
      (storeToken exStore (fun _ s => s != 1)) {}).1 =
    .ok { exMod with slots := [0, 2], sessions := [0, 2] } := by decide +kernel
-- EC answers: a wrapped P-256 point meets the hypotheses of `derived_key_ec_wrapped`
example : ecPointOctets ecOidP256 = some 65 ∧ (List.replicate 64 (7 : UInt8)).length + 1 = 65 := by
  decide
-- the unwrap rule: the bare point of the real key d = 20220 meets the hypotheses of `ec_bare_any_octets_repaired`
-- and of `ec_bare_refused_pinned` (P-256, 65 octets, starts 04 3f 04 with 0x3f = 65 − 2)
example : ecPointOctets ecOidP256 = some 65 ∧ f24BarePoint.length = 65 ∧
    f24BarePoint.take 3 = [4, UInt8.ofNat (65 - 2), 4] := by decide
example : ecDeriveWith true f24BarePoint ecOidP256 = .ok (some (Base64.encode f24BarePoint)) :=
  ec_bare_any_octets_repaired f24BarePoint ecOidP256 65 (by decide) (by decide)

-- the keymaster's lookup on the same token: same key, same log (instance of `km_find_first`)
example : ((Km.findInSlotsP exMod "K" ckoPublic none [0, 1, 2]).runTok exTok {}).1 =
    .ok (some { label := "K", keyType := .rsa, keyClass := ckoPublic, publicKey := some "AwEAAYAB",
                module := "mod", slot := 1, pubHandle := some 7 }) := by
  rw [Km.runTok_findInSlotsP]; exact exFind_run.1

/-! ## `.hsmconfig` files (`parse_hsmconfig`, `load_hsmconfig`), `find_key_by_id`, the `name` filter
    (model: Kskm/HsmConfig.lean; lemmas: KskmProofs/Lemmas/C15HsmConfig.lean; correspondence: harness/corr_C15_hsmconfig.py) -/
open Kskm.HsmConfig
open Kskm.Xml (Classes Out)

/-- **The interpolation loop terminates.** Whatever the character classes and whatever `res` / `defaults` hold, the
    `while True:` loop of `parse_hsmconfig` never needs more rounds than the right-hand side has "$" characters: every
    round that does not leave the loop replaces at least one "$…" by a "$"-free value (`round_again_lt`), so the fuel
    never runs out for fuel ≥ the number of "$". -/
theorem hsmconfig_interpolation_terminates (isWord : Char → Bool) (lookup : Str → Option Str) (fuel : Nat) (rhs : Str)
    (h : dollars rhs ≤ fuel) : interpolate isWord lookup fuel rhs ≠ .outOfFuel :=
  interpolate_terminates isWord lookup fuel rhs h

/-- one round that goes on strictly lowers the measure (the reason for the theorem above) -/
theorem hsmconfig_round_decreases (isWord : Char → Bool) (lookup : Str → Option Str) (rhs rhs' : Str)
    (h : interpRound isWord lookup rhs = .again rhs') : dollars rhs' < dollars rhs :=
  round_again_lt isWord lookup rhs rhs' h

/-- … hence `parse_hsmconfig` and `load_hsmconfig` (which supply exactly that fuel) answer on EVERY input: lines, defaults,
    limit, file text, environment. -/
theorem hsmconfig_parse_never_hangs (cls : Classes) (defaults : Defaults) (maxLines : Int) (lines : List Str) :
    parseHsmconfig cls defaults maxLines lines ≠ .outOfFuel := by
  unfold parseHsmconfig
  have := loop_ne_outOfFuel cls defaults lines { maxLines, res := [] }
  split <;> simp_all

theorem hsmconfig_load_never_hangs (cls : Classes) (defaults : Option (List (Str × Str))) (environ : Defaults)
    (maxLines : Int) (text : Str) : loadHsmconfig cls defaults environ maxLines text ≠ .outOfFuel := by
  unfold loadHsmconfig
  simp only
  split
  · split <;> simp
  · simp
  · rename_i h; exact absurd h (hsmconfig_parse_never_hangs _ _ _ _)
-- a chain with a prefix-overlapping name: "$FOO" is replaced inside "$FOO_BAR" too, two rounds for three "$"
example : dollars "$FOO/$FOO_BAR$B".toList = 3 ∧
    interpolate Xml.pyClasses.isWord (lookupVar [("FOO".toList, "a".toList)] (fun k => if k = "B".toList then some "b".toList else none))
      3 "$FOO/$FOO_BAR$B".toList = .ok "a/a_BARb".toList := by decide +kernel

/-- **No reference survives.** When `parse_hsmconfig` succeeds, no value of the returned dict holds a "$" that is followed
    by a word character — for all defaults (the code refuses a "$" in every value it substitutes, so no hypothesis on the
    defaults is needed), all limits, all lines. -/
theorem hsmconfig_result_interpolated (cls : Classes) (defaults : Defaults) (maxLines : Int) (lines : List Str)
    (res : Dict) (h : parseHsmconfig cls defaults maxLines lines = .ok res) :
    ∀ p ∈ res, ∀ (pre : Str) (c : Char) (post : Str), p.2 = pre ++ '$' :: c :: post → cls.isWord c = false := by
  unfold parseHsmconfig at h
  split at h
  · rename_i st hl
    cases h
    intro p hp
    rcases (loop_ok_inv cls defaults lines _ _ hl).2 p hp with hp | hp
    · cases hp
    · exact searchVar_none cls.isWord p.2 hp
  · cases h
  · cases h
example : parseHsmconfig Xml.pyClasses (fun k => if k = "HOME".toList then some "/h".toList else none) 100
      ["A=$HOME/x\n".toList, " # c\r\n".toList, "B=$A:$A_\n".toList] =
    .ok [("A".toList, "/h/x".toList), ("B".toList, "/h/x:/h/x_".toList)] := by chars; decide +kernel

/-- **Fail closed: undefined or empty variable.** If the lines before it were accepted, the line is within the limit, is an
    assignment, and the first reference its right-hand side holds names a variable that is neither assigned above nor in the
    defaults — or is assigned the empty string — then the whole file is refused (RuntimeError), whatever follows. -/
theorem hsmconfig_undefined_variable_fails (cls : Classes) (defaults : Defaults) (maxLines : Int)
    (pre : List Str) (line : Str) (post : List Str) (st : St) (lhs rhs key : Str)
    (hpre : loop cls defaults { maxLines, res := [] } pre = .ok st)
    (hlim : st.maxLines - 1 ≠ 0)
    (hline : Xml.strip (· == '\n') (Xml.strip cls.isStrip line) = lhs ++ '=' :: rhs)
    (hlhs : '=' ∉ lhs) (hcomment : (lhs ++ '=' :: rhs).head? ≠ some '#')
    (href : searchVar cls.isWord rhs = some key)
    (hundef : lookupVar st.res defaults key = none ∨ lookupVar st.res defaults key = some []) :
    parseHsmconfig cls defaults maxLines (pre ++ line :: post) = .err .runtime := by
  have hstep : step cls defaults st line = .err .runtime := by
    unfold step
    simp only [hline, if_neg hlim]
    have hne : ((lhs ++ '=' :: rhs).isEmpty || (lhs ++ '=' :: rhs).head? == some '#') = false := by
      have h1 : (lhs ++ '=' :: rhs).isEmpty = false := by cases lhs <;> rfl
      have h2 : ((lhs ++ '=' :: rhs).head? == some '#') = false := by
        cases hh : (lhs ++ '=' :: rhs).head? == some '#'
        · rfl
        · exact absurd (by simpa using hh) hcomment
      rw [h1, h2]; rfl
    rw [hne]
    simp only [Bool.false_eq_true, if_false, splitEq_append hlhs,
      interpolate_undefined cls.isWord _ _ rhs key href hundef]
  unfold parseHsmconfig
  rw [loop_append cls defaults pre _ st (line :: post) hpre]
  simp only [loop, hstep]
example : loop Xml.pyClasses (fun _ => none) { maxLines := 100, res := [] } ["A=\n".toList] =
      .ok { maxLines := 99, res := [("A".toList, [])] } ∧
    searchVar Xml.pyClasses.isWord "x$A".toList = some "A".toList ∧
    parseHsmconfig Xml.pyClasses (fun _ => some "dflt".toList) 100 ["A=\n".toList, "B=x$A\n".toList, "C=1\n".toList] =
      .err .runtime := by decide +kernel

/-- **The line limit.** A successful parse has seen fewer than `max_lines` lines (blank and comment lines count), unless the
    limit is ≤ 0 — the counter is decremented before it is compared with 0, so a non-positive limit never triggers. -/
theorem hsmconfig_line_limit (cls : Classes) (defaults : Defaults) (maxLines : Int) (lines : List Str) (res : Dict)
    (h : parseHsmconfig cls defaults maxLines lines = .ok res) :
    maxLines ≤ 0 ∨ (lines.length : Int) < maxLines := by
  unfold parseHsmconfig at h
  split at h
  · rename_i st hl; exact (loop_ok_inv cls defaults lines _ _ hl).1
  · cases h
  · cases h

/-- … so lines beyond a positive limit are always refused -/
theorem hsmconfig_too_long_refused (cls : Classes) (defaults : Defaults) (maxLines : Int) (lines : List Str)
    (hpos : 0 < maxLines) (hlen : maxLines ≤ (lines.length : Int)) :
    ∃ k, parseHsmconfig cls defaults maxLines lines = .err k := by
  cases hp : parseHsmconfig cls defaults maxLines lines with
  | ok res => have := hsmconfig_line_limit _ _ _ _ _ hp; omega
  | err k => exact ⟨k, rfl⟩
  | outOfFuel => exact absurd hp (hsmconfig_parse_never_hangs _ _ _ _)
-- the default limit of 100: 99 blank lines pass, the 100th line is refused although it is blank too; limit 0 is no limit
example : parseHsmconfig Xml.pyClasses (fun _ => none) 100 (List.replicate 99 ['\n']) = .ok [] ∧
    parseHsmconfig Xml.pyClasses (fun _ => none) 100 (List.replicate 100 ['\n']) = .err .runtime ∧
    parseHsmconfig Xml.pyClasses (fun _ => none) 0 (List.replicate 300 ['\n']) = .ok [] := by decide +kernel

/-- **`find_key_by_id` keeps only public and private key objects, handle on the right side.** For EVERY token (any answers,
    any faults): when the call returns, every key in the list was built from one of the handles the token answered to the
    CKA_ID query, is of class CKO_PUBLIC_KEY with that handle as `pubkey_handle` and no private handle, or of class
    CKO_PRIVATE_KEY with that handle as `privkey_handle` and no public handle — never a secret key, certificate or data
    object; it names the session it was found in; and there are at most as many keys as handles. -/
theorem find_key_by_id_classes (path : String) (slot : Nat) (keyIdHex : String) (t : Token) (s s' : TokState)
    (ks : List P11Key) (h : findKeyById path slot keyIdHex t s = (.ok ks, s')) :
    ∃ hs, t s.count (.findObjects path slot [("ID", .str keyIdHex)]) = .handles hs ∧ ks.length ≤ hs.length ∧
      ∀ k ∈ ks, ∃ hd ∈ hs, k.module = path ∧ k.slot = slot ∧
        ((k.keyClass = ckoPublic ∧ k.pubHandle = some hd ∧ k.privHandle = none) ∨
         (k.keyClass = ckoPrivate ∧ k.privHandle = some hd ∧ k.pubHandle = none)) := by
  unfold findKeyById at h
  obtain ⟨a, s1, ha, h⟩ := TokM.bind_ok h
  have hask : a = t s.count (.findObjects path slot [("ID", .str keyIdHex)]) := by
    rw [askOk_run] at ha
    split at ha
    · simp at ha
    · simp only [Prod.mk.injEq, Except.ok.injEq] at ha
      exact ha.1.symm
  split at h
  · rename_i hs
    obtain ⟨hlen, hall⟩ := keysOfObjects_yields path slot hs t _ _ _ h
    refine ⟨hs, hask ▸ rfl, hlen, ?_⟩
    intro k hk
    obtain ⟨hd, hmem, hm, hsl, _, hcls⟩ := hall k hk
    exact ⟨hd, hmem, hm, hsl, hcls⟩
  · simp at h
-- a slot answering three handles under the identifier: a public RSA key, a secret key, a private RSA key;
-- the secret key is skipped, the other two come back with their handle on the side of their class
example :
    let tok : Token := fun _ op => match op with
      | .findObjects _ _ _ => .handles [1, 2, 3]
      | .getAttr _ _ 1 ["CLASS", "LABEL"] => .attrs [.num ckoPublic, .str "K"]
      | .getAttr _ _ 2 ["CLASS", "LABEL"] => .attrs [.num ckoSecret, .str "S"]
      | .getAttr _ _ 3 ["CLASS", "LABEL"] => .attrs [.num ckoPrivate, .str "K"]
      | .getAttr _ _ _ ["KEY_TYPE"] => .attrs [.num ckkRsa]
      | .getAttr _ _ _ ["MODULUS"] => .attrs [.bytes [0x80, 1]]
      | .getAttr _ _ _ ["PUBLIC_EXPONENT"] => .attrs [.bytes [1, 0, 1]]
      | _ => .other
    (findKeyById "mod" 0 "0102" tok {}).1 = .ok [
      { label := "K", keyType := .rsa, keyClass := ckoPublic, publicKey := some "AwEAAYAB", module := "mod", slot := 0,
        pubHandle := some 1 },
      { label := "K", keyType := .rsa, keyClass := ckoPrivate, publicKey := some "AwEAAYAB", module := "mod", slot := 0,
        privHandle := some 3 }] := by decide +kernel

/-- **`init_pkcs11_modules(config, name)` initialises only the named module.** For every token and every configuration:
    with a (non-empty) name, every module that comes back carries that name, there are exactly as many as the configuration
    has entries of that name (a dict: one), and the configuration does have one. -/
theorem init_by_name_only_that_module (all : List Kskm.HsmConfig) (name typed : String) (hne : name ≠ "") (t : Token)
    (s s' : TokState) (mods : List P11Module)
    (h : initPkcs11Modules all (some name) typed all t s = (.ok mods, s')) :
    (∀ m ∈ mods, m.label = name) ∧ mods.length = (all.filter (fun h => h.label == name)).length ∧
      (∃ h ∈ all, h.label = name) :=
  initPkcs11Modules_yields_named all name typed hne all t s mods s' h

/-- … and a name no entry carries is refused (RuntimeError) before ANY token operation: state and log are untouched. -/
theorem init_by_unknown_name_refused (all : List Kskm.HsmConfig) (name typed : String) (hne : name ≠ "") (t : Token)
    (s : TokState) (hall : ∀ h ∈ all, h.label ≠ name) :
    initPkcs11Modules all (some name) typed all t s = (.error (.error .runtime), s) :=
  initPkcs11Modules_unknown all name typed hne t hall all s hall
-- two configured modules, the second one asked for: one module comes back, labelled "b", and only "mod_b" was loaded;
-- a name that is not configured: RuntimeError and an empty log
def exInitCfgs : List Kskm.HsmConfig :=
  [{ label := "a", path := "mod_a", pin := some "1", soPin := none }, { label := "b", path := "mod_b", pin := some "1", soPin := none }]
def exInitTok : Token := fun _ op => match op with | .getSlotList _ => .slots [] | _ => .ok
example :
    ((initPkcs11Modules exInitCfgs (some "b") "" exInitCfgs exInitTok {}).1.toOption.map (·.map (·.label))) = some ["b"] ∧
    ((initPkcs11Modules exInitCfgs (some "b") "" exInitCfgs exInitTok {}).2.log.map (·.1)) =
      [.getSlotList "mod_b", .initialize "mod_b", .load "mod_b"] ∧
    (initPkcs11Modules exInitCfgs (some "c") "" exInitCfgs exInitTok {}).1 = .error (.error .runtime) ∧
    (initPkcs11Modules exInitCfgs (some "c") "" exInitCfgs exInitTok {}).2.log = [] := by decide +kernel

/-- **The limit matters only when it is hit.** Two limits that the source does not reach (non-positive — never reached — or
    larger than the number of lines) give the same answer, result or error alike; in particular every `max_lines ≤ 0`
    behaves as "no limit" (the quirk of `max_lines -= 1; if not max_lines`). -/
theorem hsmconfig_limit_irrelevant_unless_hit (cls : Classes) (defaults : Defaults) (a b : Int) (lines : List Str)
    (ha : a ≤ 0 ∨ (lines.length : Int) < a) (hb : b ≤ 0 ∨ (lines.length : Int) < b) :
    parseHsmconfig cls defaults a lines = parseHsmconfig cls defaults b lines := by
  rw [parse_eq_resOf, parse_eq_resOf]
  exact loop_budget_irrelevant cls defaults lines a b [] ha hb
example : ((-5 : Int) ≤ 0 ∨ ((List.replicate 150 ['A', '=', '\n']).length : Int) < -5) ∧
    parseHsmconfig Xml.pyClasses (fun _ => none) (-5) (List.replicate 150 ['A', '=', '\n']) = .ok [(['A'], [])] := by
  decide +kernel

/-- **Later lines overwrite earlier keys, first assignment fixes the position** (Python dict semantics of `res[lhs] = rhs`):
    after the assignment the key reads back the new value, every other key is untouched, and the key order is the old one
    with a NEW key appended. -/
theorem hsmconfig_assignment_semantics (d : Dict) (k v : Str) :
    (Dict.set d k v).get k = some v ∧ (∀ k', k' ≠ k → (Dict.set d k v).get k' = d.get k') ∧
    (Dict.set d k v).map (·.1) = if k ∈ d.map (·.1) then d.map (·.1) else d.map (·.1) ++ [k] :=
  ⟨Dict.get_set_same d k v, fun k' hk => Dict.get_set_other d k k' v hk, Dict.keys_set d k v⟩
example : parseHsmconfig Xml.pyClasses (fun _ => none) 100 ["A=1\n".toList, "B=2\n".toList, "A=$B$A\n".toList] =
    .ok [("A".toList, "21".toList), ("B".toList, "2".toList)] := by decide +kernel

/-- `load_hsmconfig` returns only dicts that set PKCS11_LIBRARY_PATH -/
theorem hsmconfig_load_has_library_path (cls : Classes) (defaults : Option (List (Str × Str))) (environ : Defaults)
    (maxLines : Int) (text : Str) (res : Dict) (h : loadHsmconfig cls defaults environ maxLines text = .ok res) :
    (res.get pkcs11LibraryPath).isSome = true := by
  unfold loadHsmconfig at h
  simp only at h
  split at h
  · split at h
    · rename_i hs; cases h; exact hs
    · cases h
  · cases h
  · cases h

/-- **Fail closed: a substituted value may not itself hold a "$".** Whatever follows, a reference whose value (from an earlier
    line or from the defaults) contains "$" is refused with ValueError — values are never re-scanned, so no indirection. -/
theorem hsmconfig_indirect_reference_refused (isWord : Char → Bool) (lookup : Str → Option Str) (fuel : Nat)
    (rhs key val : Str) (hs : searchVar isWord rhs = some key) (hl : lookup key = some val) (hv : '$' ∈ val) :
    interpolate isWord lookup fuel rhs = .err .value := by
  have hr : interpRound isWord lookup rhs = .done (.err .value) := by
    unfold interpRound
    rw [hs]; simp only [hl]
    cases val with
    | nil => simp at hv
    | cons v vs =>
      have hc : (v :: vs).contains '$' = true := by simpa using hv
      simp only
      rw [if_pos hc]
  cases fuel <;> rw [interpolate, hr]
example : searchVar Xml.pyClasses.isWord "x/$B".toList = some "B".toList ∧ '$' ∈ "$C".toList ∧
    parseHsmconfig Xml.pyClasses (fun k => if k = "B".toList then some "$C".toList else some "c".toList) 100
      ["A=x/$B\n".toList] = .err .value := by decide +kernel

/-- the same guarantee for `load_hsmconfig`: whatever file, defaults and environment, a returned value holds no "$"
    followed by a word character -/
theorem hsmconfig_load_result_interpolated (cls : Classes) (defaults : Option (List (Str × Str))) (environ : Defaults)
    (maxLines : Int) (text : Str) (res : Dict) (h : loadHsmconfig cls defaults environ maxLines text = .ok res) :
    ∀ p ∈ res, ∀ (pre : Str) (c : Char) (post : Str), p.2 = pre ++ '$' :: c :: post → cls.isWord c = false := by
  unfold loadHsmconfig at h
  simp only at h
  split at h
  · rename_i r hp
    split at h
    · cases h; exact hsmconfig_result_interpolated _ _ _ _ _ hp
    · cases h
  · cases h
  · cases h
example : loadHsmconfig Xml.pyClasses none (fun k => if k = "HOME".toList then some "/h".toList else none) 100
      "# keyper\r\nPKCS11_LIBRARY_PATH=$HOME/p11.so\rLD=$PKCS11_LIBRARY_PATH".toList =
    .ok [("PKCS11_LIBRARY_PATH".toList, "/h/p11.so".toList), ("LD".toList, "/h/p11.so".toList)] := by
  chars; decide +kernel

end Kskm.C15
