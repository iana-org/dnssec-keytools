/-
  C17 — the digest and PGP words shown to the operator are of the bytes actually used.

  1. The word table.  `KskmGen.WORDS` is regenerated from /repo on every run; `words_standard` says it
     IS the published list (the reference copy in `Lemmas/C17Reference.lean`, whose structural facts
     — 256 rows, columns duplicate-free and disjoint, sorted apart from the one published inversion —
     are proved there about the copy).  Every other table fact is carried over through that equality,
     so any change to WORDS in /repo breaks `words_standard` and everything below it.
     `words_decode` / `words_injective` / `words_line_injective`: every rendering decodes to one
     digest, two digests never render alike — for octet strings of EVERY length, not only 32.
  2. `single_read` / `single_read_skr`: over a file whose content changes at every operation
     (`content : Nat → Bytes`, any schedule), the loader opens once, reads once, and the digest it
     shows, the `xml_hash` it stores and the object it parses are functions of that one buffer.
     `display_of_loaded`: what `ksrsigner` prints before the prompt is the hex / words of that hash.
  3. `hash_of_written`: the digest logged for an SKR / trust anchor is the hash of exactly the bytes
     handed to the single write.
  4. `get_config` reads its file twice through one descriptor; what that does and does not
     guarantee is stated (`getConfig_*`).  The property claims replacement-robustness for KSR and SKR only.
  5. `table_rows` / `table_columns`: the bundle table shows, row by row, inception, expiration and the
     tags of exactly the parsed keys, each in the column its flags dictate.

  The hash is a parameter throughout; no theorem depends on what SHA-256 computes.
-/
import Kskm.Wordlist
import Kskm.FileEffects
import Kskm.BundleTable
import KskmGen.Tables
import KskmProofs.Lemmas.C17Reference
import KskmProofs.Lemmas.C17Load
import KskmProofs.Lemmas.PyJoin
import KskmProofs.Lemmas.C17Table
namespace Kskm.C17
open Kskm.C17Reference

/-! ## 1. The word table -/

/-- **The regenerated table is the published PGP word list.**  Both are lists of literals, so they are
    compared as written; no string is evaluated. -/
theorem words_standard : KskmGen.WORDS = pgpWordListReference := rfl

theorem evenWords_eq : evenWords = refEven := by unfold evenWords refEven; rw [words_standard]
theorem oddWords_eq : oddWords = refOdd := by unfold oddWords refOdd; rw [words_standard]

/-- **Shape of the regenerated table**: 256 rows, neither column repeats a word, no word is in both. -/
theorem words_table_shape :
    KskmGen.WORDS.length = 256 ∧ evenWords.Nodup ∧ oddWords.Nodup ∧ (∀ w ∈ evenWords, w ∉ oddWords) := by
  rw [evenWords_eq, oddWords_eq, words_standard]
  exact reference_shape

/-- **Structure of the published list, on the regenerated table**: the even column is strictly
    increasing case-insensitively; the odd column is not, its one inversion is `applicant`/`Apollo`
    at rows 09/0A, and with these two exchanged it is strictly increasing; all words are 4…11 ASCII
    letters. -/
theorem words_published_structure :
    ciStrictSorted evenWords = true ∧
    ciStrictSorted oddWords = false ∧
    oddWords[9]? = some "applicant" ∧ oddWords[10]? = some "Apollo" ∧
    ciStrictSorted (swapAt 9 oddWords) = true ∧
    evenWords.all wordOk = true ∧ oddWords.all wordOk = true := by
  rw [evenWords_eq, oddWords_eq]
  obtain ⟨he, ho, hs, hwe, hwo, _⟩ := reference_checked
  exact ⟨he, ho, reference_odd_inversion.1, reference_odd_inversion.2.1, hs, hwe, hwo⟩

def col (odd : Bool) : List String := if odd then oddWords else evenWords

theorem col_length (odd : Bool) : (col odd).length = 256 := by
  have h := words_table_shape.1
  cases odd <;> simp [col, evenWords, oddWords, h]

theorem col_nodup (odd : Bool) : (col odd).Nodup := by
  cases odd
  · exact words_table_shape.2.1
  · exact words_table_shape.2.2.1

/-- the table is long enough for every octet: `WORDS[byte]` never raises and the model's default
    word is never used -/
theorem wordAt_eq (odd : Bool) (b : UInt8) :
    wordAt odd b = (col odd)[b.toNat]'(by rw [col_length]; exact UInt8.toNat_lt b) := by
  unfold wordAt
  have : b.toNat < (col odd).length := by rw [col_length]; exact UInt8.toNat_lt b
  show (col odd).getD b.toNat "" = _
  simp [List.getD, this]

/-- the encoder, position by position: the flag at position `i` is the start flag flipped `i` times -/
theorem pgpWordlistFrom_getElem? (d : Bytes) : ∀ (odd : Bool) (i : Nat),
    (pgpWordlistFrom odd d)[i]? = d[i]?.map (wordAt (odd != decide (i % 2 = 1))) := by
  induction d with
  | nil => intro odd i; rfl
  | cons x r ih =>
    intro odd i
    cases i with
    | zero => simp [pgpWordlistFrom]
    | succ j =>
      simp only [pgpWordlistFrom, List.getElem?_cons_succ, ih]
      congr 2
      cases odd <;> by_cases hj : j % 2 = 1 <;> simp [hj] <;> omega

theorem wordAt_mem (odd : Bool) (b : UInt8) : wordAt odd b ∈ col odd := by
  rw [wordAt_eq]; exact List.getElem_mem _

/-- **One word per octet.** -/
theorem words_length (d : Bytes) : (pgpWordlist d).length = d.length := by
  unfold pgpWordlist
  generalize false = odd
  induction d generalizing odd with
  | nil => rfl
  | cons b r ih => simp [pgpWordlistFrom, ih]

/-- **Every rendering decodes to one digest**: the decoder recovers the octets, whatever parity the
    walk starts with (so also for inputs longer or shorter than 32 octets). -/
theorem words_decode_from (d : Bytes) : ∀ odd, unwordsFrom odd (pgpWordlistFrom odd d) = some d := by
  induction d with
  | nil => intro odd; rfl
  | cons b r ih =>
    intro odd
    simp only [pgpWordlistFrom, unwordsFrom]
    have h1 : (col odd).idxOf (wordAt odd b) = b.toNat := by
      rw [wordAt_eq]; exact List.Nodup.idxOf_getElem (col_nodup odd) _ _
    have h2 := col_length odd
    unfold col at h1 h2
    rw [h1, h2, ih (!odd)]
    have : b.toNat < 256 := UInt8.toNat_lt b
    simp [this]

theorem words_decode (d : Bytes) : unwords (pgpWordlist d) = some d := words_decode_from d false

/-- **Two different digests never render as the same words** — for all octet strings of all lengths. -/
theorem words_injective (a b : Bytes) (h : pgpWordlist a = pgpWordlist b) : a = b := by
  have := words_decode a
  rw [h, words_decode b] at this
  exact (Option.some.inj this).symm

/-- a word at an even position is never a word of the odd column and vice versa: exchanging two
    neighbouring words, or dropping or doubling one in the middle, leaves a word in a position of the wrong parity -/
theorem words_parity (d : Bytes) (i : Nat) (w : String) (h : (pgpWordlist d)[i]? = some w) :
    (i % 2 = 0 → w ∈ evenWords ∧ w ∉ oddWords) ∧ (i % 2 = 1 → w ∈ oddWords ∧ w ∉ evenWords) := by
  rw [pgpWordlist, pgpWordlistFrom_getElem?] at h
  obtain ⟨b, -, rfl⟩ := Option.map_eq_some_iff.mp h
  have hd := words_table_shape.2.2.2
  constructor <;> intro hi
  · have hm := wordAt_mem false b
    simp only [hi, Bool.false_bne, show ¬ (0 = 1) by omega, decide_false] at hm ⊢
    exact ⟨hm, hd _ hm⟩
  · have hm := wordAt_mem true b
    simp only [hi, Bool.false_bne, decide_true] at hm ⊢
    exact ⟨hm, fun he => hd _ he hm⟩

theorem joinSp_eq : ∀ ws, joinSp ws = Py.join ' ' ws
  | [] | [_] => rfl
  | w :: w2 :: r => congrArg (w ++ ' ' :: ·) (joinSp_eq (w2 :: r))

/-- **The displayed line** (`' '.join(words)`) is injective too: no word is empty or contains the
    separator, so the line splits back into the words. -/
theorem words_line_injective (a b : Bytes) (h : wordsLine a = wordsLine b) : a = b := by
  have hok : ∀ (d : Bytes) (w : List Char), w ∈ (pgpWordlist d).map String.toList → w ≠ [] ∧ ' ' ∉ w := by
    intro d w hw
    obtain ⟨s, hs, rfl⟩ := List.mem_map.mp hw
    obtain ⟨i, hi⟩ := List.getElem?_of_mem hs
    have hp := words_parity d i s hi
    have hall := words_published_structure.2.2.2.2.2
    by_cases hpar : i % 2 = 0
    · exact wordOk_chars (List.all_eq_true.mp hall.1 s (hp.1 hpar).1)
    · exact wordOk_chars (List.all_eq_true.mp hall.2 s (hp.2 (by omega)).1)
  have := Py.join_injective ' ' _ _ (hok a) (hok b) (by rwa [wordsLine, wordsLine, joinSp_eq, joinSp_eq] at h)
  have := (List.map_inj_right (fun x y hxy => String.toList_injective hxy)).mp this
  exact words_injective a b this

/-! ### lower-case hex -/

/-- the hex rendering is two characters of `0-9a-f` per octet … -/
theorem hex_layout (d : Bytes) :
    (hexlify d).length = 2 * d.length ∧
    ∀ c ∈ hexlify d, (('0' ≤ c ∧ c ≤ '9') ∨ ('a' ≤ c ∧ c ≤ 'f')) := by
  have nib : ∀ i : Fin 16, (('0' ≤ hexNibble i.val ∧ hexNibble i.val ≤ '9') ∨
      ('a' ≤ hexNibble i.val ∧ hexNibble i.val ≤ 'f')) := by decide +kernel
  induction d with
  | nil => simp [hexlify]
  | cons b r ih =>
    have hb := UInt8.toNat_lt b
    refine ⟨by simp [hexlify, ih.1]; omega, ?_⟩
    intro c hc
    simp only [hexlify, List.mem_cons] at hc
    rcases hc with rfl | rfl | hc
    · exact nib ⟨b.toNat / 16, by omega⟩
    · exact nib ⟨b.toNat % 16, by omega⟩
    · exact ih.2 c hc

/-- … and **injective**: two different digests never show the same hex. -/
theorem hex_injective : ∀ a b : Bytes, hexlify a = hexlify b → a = b
  | [], [], _ => rfl
  | [], _ :: _, h => by simp [hexlify] at h
  | _ :: _, [], h => by simp [hexlify] at h
  | x :: xs, y :: ys, h => by
    have nib : ∀ i j : Fin 16, hexNibble i.val = hexNibble j.val → i = j := by decide +kernel
    simp only [hexlify, List.cons.injEq] at h
    obtain ⟨h1, h2, h3⟩ := h
    have hx := UInt8.toNat_lt x
    have hy := UInt8.toNat_lt y
    have e1 := Fin.mk.inj_iff.mp (nib ⟨x.toNat / 16, by omega⟩ ⟨y.toNat / 16, by omega⟩ h1)
    have e2 := Fin.mk.inj_iff.mp (nib ⟨x.toNat % 16, by omega⟩ ⟨y.toNat % 16, by omega⟩ h2)
    have : x = y := UInt8.toNat_inj.mp (by omega)
    rw [this, hex_injective xs ys h3]

/-! ## 2. One read: hash and parse from the same buffer, for every schedule -/

variable {α : Type}

/-- what "the digest shown and the object used come from one buffer" means for a KSR loader run
    `out = (result, effects)` over the schedule `content` started at tick `t0` -/
def KsrSingleRead (maxSize : Nat) (hash : Bytes → Bytes) (parse : Bytes → Res α) (validate : α → Res Unit)
    (path : String) (content : Nat → Bytes) (t0 : Nat)
    (out : Res (LoadedRequest α) × List FileEffect) : Prop :=
  -- exactly one open, at most one read, no write — whatever happens
  (out.2.filter FileEffect.isOpenRead).length = 1 ∧
  (out.2.filter FileEffect.isRead).length ≤ 1 ∧
  (out.2.filter FileEffect.isWrite).length = 0 ∧
  (out.2.filter FileEffect.isOpenWrite).length = 0 ∧
  -- the size gate: an over-size file is refused before any read, nothing is shown
  ((content (t0 + 1)).length > maxSize →
      out.1 = err .runtime ∧ readBuffers out.2 = [] ∧ shownDigests out.2 = []) ∧
  -- at most one digest is ever shown, and it is the hash of the one buffer read
  (∀ d ∈ shownDigests out.2, ∃ buf, readBuffers out.2 = [buf] ∧ d = hash buf) ∧
  -- a loaded request was parsed from, and carries the hash of, exactly that buffer
  (∀ request, out.1 = .ok request →
    ∃ buf, readBuffers out.2 = [buf] ∧ shownDigests out.2 = [hash buf] ∧
      parse buf = .ok request.body ∧ request.xmlHash = some (hash buf) ∧
      request.xmlFilename = path ∧ validate request.body = .ok () ∧
      buf = (content (t0 + 2)).take maxSize ∧ buf.length ≤ maxSize)

/-- the same for the SKR loader (a `Response` carries no stored hash) -/
def SkrSingleRead (maxSize : Nat) (hash : Bytes → Bytes) (parse : Bytes → Res α) (validate : α → Res Unit)
    (content : Nat → Bytes) (t0 : Nat) (out : Res α × List FileEffect) : Prop :=
  (out.2.filter FileEffect.isOpenRead).length = 1 ∧
  (out.2.filter FileEffect.isRead).length ≤ 1 ∧
  (out.2.filter FileEffect.isWrite).length = 0 ∧
  (out.2.filter FileEffect.isOpenWrite).length = 0 ∧
  ((content (t0 + 1)).length > maxSize →
      out.1 = err .runtime ∧ readBuffers out.2 = [] ∧ shownDigests out.2 = []) ∧
  (∀ d ∈ shownDigests out.2, ∃ buf, readBuffers out.2 = [buf] ∧ d = hash buf) ∧
  (∀ response, out.1 = .ok response →
    ∃ buf, readBuffers out.2 = [buf] ∧ shownDigests out.2 = [hash buf] ∧
      parse buf = .ok response ∧ validate response = .ok () ∧
      buf = (content (t0 + 2)).take maxSize ∧ buf.length ≤ maxSize)

/-- **One read**, whatever the loader then makes of the buffer: the SKR statement with the whole
    post-read step `post` in the parser's place (and nothing left to validate). -/
theorem loadCore_single_read {β : Type} (what : String) (maxSize : Nat) (hash : Bytes → Bytes) (post : Bytes → Res β)
    (path : String) (content : Nat → Bytes) (t0 : Nat) :
    SkrSingleRead maxSize hash post (fun _ => .ok ()) content t0
      (loadCore what maxSize hash post path content t0) := by
  unfold SkrSingleRead loadCore
  by_cases hs : (content (t0 + 1)).length > maxSize
  · rw [if_pos hs]
    refine ⟨rfl, Nat.zero_le _, rfl, rfl, fun _ => ⟨rfl, rfl, rfl⟩, fun d hd => ?_, fun b h => ?_⟩
    · cases hd
    · cases h
  · rw [if_neg hs]
    refine ⟨rfl, Nat.le_refl _, rfl, rfl, fun h => absurd h hs, fun d hd => ?_, fun b h => ?_⟩
    · exact ⟨_, rfl, List.mem_singleton.mp hd⟩
    · exact ⟨_, rfl, rfl, h, rfl, rfl, by simp [List.length_take]; omega⟩

/-- For EVERY schedule of content changes, every hash, parser and validator. -/
theorem single_read (maxSize : Nat) (hash : Bytes → Bytes) (parse : Bytes → Res α)
    (validate : α → Res Unit) (raiseOriginal : Bool) (path : String) (content : Nat → Bytes) (t0 : Nat) :
    KsrSingleRead maxSize hash parse validate path content t0
      (loadKsr maxSize hash parse validate raiseOriginal path content t0) := by
  unfold KsrSingleRead
  rw [loadKsr_eq]
  obtain ⟨h1, h2, h3, h4, h5, h6, h7⟩ := loadCore_single_read "Loaded KSR from file" maxSize hash
    (postOf (requestFromXmlFile hash parse path) (fun r => validate r.body) raiseOriginal) path content t0
  refine ⟨h1, h2, h3, h4, h5, h6, fun request h => ?_⟩
  obtain ⟨buf, r1, r2, hp, _, r3, r4⟩ := h7 request h
  obtain ⟨hq, p4⟩ := postOf_ok hp
  obtain ⟨p1, p2, p3⟩ := requestFromXmlFile_ok hq
  exact ⟨buf, r1, r2, p1, p2, p3, p4, r3, r4⟩

/-- **single_read (SKR).** -/
theorem single_read_skr (maxSize : Nat) (hash : Bytes → Bytes) (parse : Bytes → Res α)
    (validate : α → Res Unit) (path : String) (content : Nat → Bytes) (t0 : Nat) :
    SkrSingleRead maxSize hash parse validate content t0
      (loadSkr maxSize hash parse validate path content t0) := by
  unfold SkrSingleRead
  rw [loadSkr_eq]
  obtain ⟨h1, h2, h3, h4, h5, h6, h7⟩ := loadCore_single_read "Loaded SKR from file" maxSize hash
    (postOf parse validate false) path content t0
  refine ⟨h1, h2, h3, h4, h5, h6, fun response h => ?_⟩
  obtain ⟨buf, r1, r2, hp, _, r3, r4⟩ := h7 response h
  obtain ⟨p1, p2⟩ := postOf_ok hp
  exact ⟨buf, r1, r2, p1, p2, r3, r4⟩

/-- **Replacement between the fstat and the read, or after the read, changes nothing that is shown
    without changing what is used**: two schedules that serve the same bytes at the read tick and
    agree on the gate yield the same result and the same digest, whatever they serve at any other
    tick (before the open, at the open, after the read — e.g. when the operator compares). -/
theorem load_depends_only_on_read (maxSize : Nat) (hash : Bytes → Bytes) (parse : Bytes → Res α)
    (validate : α → Res Unit) (raiseOriginal : Bool) (path : String) (c1 c2 : Nat → Bytes) (t0 : Nat)
    (hread : c1 (t0 + 2) = c2 (t0 + 2))
    (hgate : ((c1 (t0 + 1)).length > maxSize ↔ (c2 (t0 + 1)).length > maxSize)) :
    (loadKsr maxSize hash parse validate raiseOriginal path c1 t0).1 =
      (loadKsr maxSize hash parse validate raiseOriginal path c2 t0).1 ∧
    shownDigests (loadKsr maxSize hash parse validate raiseOriginal path c1 t0).2 =
      shownDigests (loadKsr maxSize hash parse validate raiseOriginal path c2 t0).2 := by
  rw [loadKsr_eq, loadKsr_eq]
  unfold loadCore
  by_cases hs : (c1 (t0 + 1)).length > maxSize
  · rw [if_pos hs, if_pos (hgate.mp hs)]
    exact ⟨rfl, rfl⟩
  · rw [if_neg hs, if_neg (fun h => hs (hgate.mpr h)), hread]
    exact ⟨rfl, rfl⟩

/-- **What the operator confirms.** The `SHA-256 HEX` and `SHA-256 WORDS` lines `ksrsigner` prints
    before the prompt are the lower-case hex and the PGP words of the hash of the buffer the request
    was parsed from. -/
theorem display_of_loaded (maxSize : Nat) (hash : Bytes → Bytes) (parse : Bytes → Res α)
    (validate : α → Res Unit) (raiseOriginal : Bool) (path : String) (content : Nat → Bytes) (t0 : Nat)
    (request : LoadedRequest α)
    (h : (loadKsr maxSize hash parse validate raiseOriginal path content t0).1 = .ok request) :
    ∃ buf, parse buf = .ok request.body ∧
      readBuffers (loadKsr maxSize hash parse validate raiseOriginal path content t0).2 = [buf] ∧
      ksrsignerDisplay request.xmlFilename request.xmlHash =
        ["", "FILENAME:       " ++ path,
         "SHA-256 HEX:    " ++ String.ofList (hexlify (hash buf)),
         "SHA-256 WORDS:  " ++ String.ofList (joinSp ((pgpWordlist (hash buf)).map String.toList)), ""] := by
  obtain ⟨buf, h1, _, h3, h4, h5, _⟩ :=
    (single_read maxSize hash parse validate raiseOriginal path content t0).2.2.2.2.2.2 request h
  exact ⟨buf, h3, h1, by simp [ksrsignerDisplay, h4, h5, wordsLine]⟩

/-! ## 3. Outputs: the digest logged is the hash of the bytes written -/

/-- With a file name: exactly one write, of exactly `xmlBytes`, to that path,
    and exactly one digest logged — the hash of those same bytes.  Without a file name nothing is
    written and no digest is logged.  (`output_skr_xml` and `output_trustanchor_xml` are this with
    their own log text.) -/
theorem hash_of_written (what : String) (hash : Bytes → Bytes) (xmlBytes : Bytes) :
    (∀ path, writtenBuffers (outputXml what hash xmlBytes (some path)) = [(path, xmlBytes)] ∧
      shownDigests (outputXml what hash xmlBytes (some path)) = [hash xmlBytes] ∧
      ((outputXml what hash xmlBytes (some path)).filter FileEffect.isOpenWrite).length = 1 ∧
      ((outputXml what hash xmlBytes (some path)).filter FileEffect.isRead).length = 0) ∧
    (writtenBuffers (outputXml what hash xmlBytes none) = [] ∧
      shownDigests (outputXml what hash xmlBytes none) = []) :=
  ⟨fun _ => ⟨rfl, rfl, rfl, rfl⟩, rfl, rfl⟩

theorem hash_of_written_skr_and_trustanchor (hash : Bytes → Bytes) (xmlBytes : Bytes) (path : String) :
    (∀ b ∈ writtenBuffers (outputSkrXml hash xmlBytes (some path)),
        shownDigests (outputSkrXml hash xmlBytes (some path)) = [hash b.2]) ∧
    (∀ b ∈ writtenBuffers (outputTrustanchorXml hash xmlBytes (some path)),
        shownDigests (outputTrustanchorXml hash xmlBytes (some path)) = [hash b.2]) := by
  constructor <;> intro b hb <;>
    simp only [outputSkrXml, outputTrustanchorXml, outputXml, writtenBuffers, List.filterMap_cons,
      List.filterMap_nil, List.mem_singleton] at hb <;> subst hb <;> rfl

/-! ## 4. The configuration file: two reads through one descriptor -/

/-- what `get_config` does: one open, TWO reads; the digest logged is of the first read, the
    configuration is parsed from the second -/
theorem getConfig_effects (hash : Bytes → Bytes) (parse : Bytes → Res α) (dflt : α) (path : String)
    (content : Nat → Bytes) (t0 : Nat) :
    let out := getConfig hash parse dflt (some path) content t0
    (out.2.filter FileEffect.isOpenRead).length = 1 ∧
    readBuffers out.2 = [content (t0 + 1), content (t0 + 2)] ∧
    shownDigests out.2 = [hash (content (t0 + 1))] ∧
    out.1 = parse (content (t0 + 2)) :=
  ⟨rfl, rfl, rfl, rfl⟩

/-- GUARANTEED: if the bytes behind the open descriptor do not change between the two reads (no
    in-place modification; a rename-style replacement does not affect an open descriptor — that
    operating-system fact is outside the model), digest and configuration come from one buffer. -/
theorem getConfig_agree_if_unmodified (hash : Bytes → Bytes) (parse : Bytes → Res α) (dflt : α)
    (path : String) (content : Nat → Bytes) (t0 : Nat) (h : content (t0 + 1) = content (t0 + 2)) :
    ∃ buf, shownDigests (getConfig hash parse dflt (some path) content t0).2 = [hash buf] ∧
      (getConfig hash parse dflt (some path) content t0).1 = parse buf :=
  ⟨content (t0 + 1), rfl, by rw [h]; rfl⟩

/-- NOT GUARANTEED: for schedules that modify the file between the two reads the logged digest is
    of bytes that were not parsed (witness: identity hash and parser, content `[t]` at tick `t`).
    The property text claims robustness against replacement for KSR and SKR only. -/
theorem getConfig_not_schedule_robust :
    ∃ (content : Nat → Bytes) (buf : Bytes),
      (getConfig (fun b => b) (fun b => (.ok b : Res Bytes)) [] (some "cfg") content 0).1 = .ok buf ∧
      shownDigests (getConfig (fun b => b) (fun b => (.ok b : Res Bytes)) [] (some "cfg") content 0).2 ≠ [buf] :=
  ⟨fun t => [UInt8.ofNat t], [2], rfl, by decide⟩

/-! ## 5. The bundle table -/

/-- One header line, then one line per bundle in order; line `i + 1` is the
    rendering of the row whose number is `i + 1`, whose times are the formatted inception and
    expiration of bundle `i`, and whose columns are exactly the specification columns of bundle `i`. -/
theorem table_rows (fmtTime : Int → String) (bundles : List Bundle) :
    (formatBundlesForHumans fmtTime bundles).length = bundles.length + 1 ∧
    (formatBundlesForHumans fmtTime bundles)[0]? = some headerLine ∧
    ∀ i b, bundles[i]? = some b →
      ∃ row : Row, (formatBundlesForHumans fmtTime bundles)[i + 1]? = some row.render ∧
        (tableRows fmtTime bundles)[i]? = some row ∧
        row.num = toString (i + 1) ∧
        row.inception = fmtTime b.inception ∧ row.expiration = fmtTime b.expiration ∧
        row.zskTags = zskColumnSpec b ∧ row.kskEntries = kskColumnSpec b := by
  refine ⟨by simp [formatBundlesForHumans, tableRows, tableRowsFrom_length], rfl, ?_⟩
  intro i b h
  have := tableRowsFrom_getElem fmtTime bundles 1 i b h
  refine ⟨_, ?_, this, ?_, rfl, rfl, rfl, rfl⟩
  · simp [formatBundlesForHumans, tableRows, this]
  · simp [Nat.add_comm]

/-- Every key's tag appears in exactly the column its flags dictate (SEP clear →
    ZSK column, SEP set → KSK column with label and `[R]S|P` usage), and nothing else appears: each
    entry of either column comes from a key of the bundle with the matching flag, and the two
    columns together have exactly as many entries as the bundle has keys. -/
theorem table_columns (b : Bundle) :
    (∀ k ∈ b.keys, isSepKey k = false → tagStr k ∈ zskColumnSpec b) ∧
    (∀ k ∈ b.keys, isSepKey k = true → kskEntry b k ∈ kskColumnSpec b) ∧
    (∀ s ∈ zskColumnSpec b, ∃ k ∈ b.keys, isSepKey k = false ∧ s = tagStr k) ∧
    (∀ e ∈ kskColumnSpec b, ∃ k ∈ b.keys, isSepKey k = true ∧ e = kskEntry b k) ∧
    (zskColumnSpec b).length + (kskColumnSpec b).length = b.keys.length := by
  refine ⟨?_, ?_, ?_, ?_, ?_⟩
  · intro k hk hs
    exact List.mem_map.mpr ⟨k, List.mem_filter.mpr ⟨hk, by simp [hs]⟩, rfl⟩
  · intro k hk hs
    exact List.mem_map.mpr ⟨k, List.mem_filter.mpr ⟨hk, hs⟩, rfl⟩
  · intro s hs
    obtain ⟨k, hk, rfl⟩ := List.mem_map.mp hs
    obtain ⟨h1, h2⟩ := List.mem_filter.mp hk
    exact ⟨k, h1, by simpa using h2, rfl⟩
  · intro e he
    obtain ⟨k, hk, rfl⟩ := List.mem_map.mp he
    obtain ⟨h1, h2⟩ := List.mem_filter.mp hk
    exact ⟨k, h1, h2, rfl⟩
  · simp only [zskColumnSpec, kskColumnSpec, List.length_map]
    induction b.keys with
    | nil => rfl
    | cons k r ih =>
      simp only [List.filter_cons, List.length_cons]
      cases isSepKey k <;> simp <;> omega

/-! ## Non-vacuity -/

/-- the published example digest `E582 94F2 E9A2 2748 6E8B 061B 31CC 528F D7FA 3F19` -/
example : pgpWordlist [0xE5, 0x82, 0x94, 0xF2, 0xE9, 0xA2, 0x27, 0x48, 0x6E, 0x8B, 0x06, 0x1B, 0x31,
      0xCC, 0x52, 0x8F, 0xD7, 0xFA, 0x3F, 0x19] =
    ["topmost", "Istanbul", "Pluto", "vagabond", "treadmill", "Pacific", "brackish", "dictator",
     "goldfish", "Medusa", "afflict", "bravado", "chatter", "revolver", "Dupont", "midsummer",
     "stopwatch", "whimsical", "cowbell", "bottomless"] := rfl

example : unwords ["topmost", "Istanbul", "Pluto"] = some [0xE5, 0x82, 0x94] := words_decode [0xE5, 0x82, 0x94]
/-- a rendering with two neighbouring words exchanged does not decode: `Istanbul` is a word of the odd
    column, so it is not one of the even column -/
example : unwords ["Istanbul", "topmost"] = none := by
  have h : "Istanbul" ∉ evenWords := fun he =>
    words_table_shape.2.2.2 _ he (List.mem_of_getElem? (show oddWords[0x82]? = some "Istanbul" from rfl))
  unfold unwords unwordsFrom
  simp only [Bool.false_eq_true, if_false, List.idxOf_eq_length h, Nat.lt_irrefl, false_and]
example : String.ofList (hexlify [0xE5, 0x82, 0x0A]) = "e5820a" := by decide +kernel

/-- a schedule that serves different bytes at every tick: the run that passes the gate shows the
    digest of, stores the hash of, and parses, the bytes of tick 2 (identity hash and parser) -/
example :
    let content : Nat → Bytes := fun t => [UInt8.ofNat t, 7]
    let out := loadKsr (α := Bytes) 10 (fun b => b) (fun b => .ok b) (fun _ => .ok ()) true "ksr.xml" content 0
    (out.1.toOption.map (·.body)) = some [2, 7] ∧ (out.1.toOption.map (·.xmlHash)) = some (some [2, 7]) ∧
    shownDigests out.2 = [[2, 7]] ∧ readBuffers out.2 = [[2, 7]] := by decide
/-- the gate: content grown past the limit at the `fstat` tick -/
example :
    let content : Nat → Bytes := fun t => if t = 1 then List.replicate 11 0 else [1]
    readBuffers (loadKsr (α := Bytes) 10 (fun b => b) (fun b => .ok b) (fun _ => .ok ()) true "k" content 0).2 = [] := by
  decide

example : (KskmGen.maxKsrSize, KskmGen.maxSkrSize) = (1048576, 1048576) := by decide

/-- a bundle with one ZSK (flags 256), one signing KSK (257) and one revoked, non-signing KSK (385) -/
def exBundle : Bundle :=
  { id := "b", inception := 0, expiration := 1,
    keys := [{ keyIdentifier := "Kzsk", keyTag := 55138, ttl := 0, flags := 256, protocol := 3, algorithm := 8, publicKey := "" },
             { keyIdentifier := "Kjqmt7v", keyTag := 19036, ttl := 0, flags := 257, protocol := 3, algorithm := 8, publicKey := "" },
             { keyIdentifier := "Kold", keyTag := 19164, ttl := 0, flags := 385, protocol := 3, algorithm := 8, publicKey := "" }],
    signatures := [{ keyIdentifier := "Kjqmt7v", ttl := 0, algorithm := 8, labels := 0, originalTtl := 0,
                     expiration := 1, inception := 0, keyTag := 19036, signersName := ".", signatureData := "" }] }

example : zskColumnSpec exBundle = ["55138"] ∧ kskColumnSpec exBundle = ["19036(Kjqmt7v)/S", "19164(Kold)/RP"] := by
  decide +kernel

end Kskm.C17
