/-
  C18 — the exported trust anchor states the true DS of each configured KSK on the token.

  The theorems are about `trustanchor` of Kskm/TrustAnchor.lean and hold for EVERY token oracle `tok`
  (a healthy device, a faulty one, one holding foreign keys), every hash function, every
  configuration and every argument vector.

  Vocabulary.
    * `Lookups mods tok ksks s rs s'` (Lemmas/C18Run.lean): in this run, `rs[i]` is what
      `get_p11_key(ksks[i].label, public=True)` returned against the token, in configuration order.
    * `usablePk r`: the public-key text of a lookup result — nothing for an absent key, an object
      without public key, an empty key.  "Present on the token" = `usablePk rs[i] = some pk`.
    * `IsTrueDS ext ksk pk d` (below): the SPECIFICATION of one entry, written from RFC 4034 App. B
      (key tag), RFC 4034 §5.1.4 / RFC 4509 (DS digest over owner name ‖ RDATA, digest type 2) and
      RFC 7958 (id, validity) — with `C14.rfc4034KeyTag`, not the model's key-tag function, over the octets
      `rdataOf 257 3 alg key`, which C14's layout theorem spells out (`digest_is_rfc`).
    * `pk` is the key text the token lookup produced (C15's subject).  For RSA it is the RFC 3110
      form; for ECDSA the code keeps the SEC 1 `0x04` octet (DESIGN §5 F4), so `pk` — and therefore
      the exported DS — is that of the prefixed point: the theorems are about the DS of THE KEY TEXT
      THE TOOLS PUBLISH, and the harness reports the ECDSA difference to the RFC 6605 form.
-/
import KskmProofs.Lemmas.C18Run
import KskmProofs.Lemmas.C18Render
import KskmProofs.Lemmas.C18Read
import KskmProofs.C14
namespace Kskm.C18

/-! ## Specification of one exported entry -/

/-- **The true DS entry** of configured KSK `ksk` whose key on the token has public-key text `pk`:
    id = label; algorithm = configured algorithm; key tag = RFC 4034 App. B tag of the DNSKEY RDATA
    with flags 257, protocol 3; digest = SHA-256 over 0x00 (the root's owner name) ‖ that RDATA, digest
    type 2; validity as configured. -/
def IsTrueDS (ext : Externals) (ksk : KskKey) (pk : String) (d : KeyDigest) : Prop :=
  ∃ pkb, Base64.decode pk = some pkb ∧
    d.id = ksk.label ∧ d.algorithm = ksk.algorithm ∧ d.digestType = 2 ∧
    d.keyTag = (C14.rfc4034KeyTag (rdataOf 257 3 ksk.algorithm pkb) : Nat) ∧
    ext.hash .sha256 (0 :: rdataOf 257 3 ksk.algorithm pkb) = some d.digest ∧
    d.validFrom = ksk.validFrom ∧ d.validUntil = ksk.validUntil

/-- configured KSK number `i` is present on the token with public-key text `pk` in this run -/
def PresentAt (ksks : List KskKey) (rs : List (Option P11Key)) (i : Nat) (ksk : KskKey) (pk : String) : Prop :=
  ksks[i]? = some ksk ∧ ∃ r, rs[i]? = some r ∧ usablePk r = some pk

def configured (cfg : TaConfig) : List KskKey := cfg.kskKeys.map (·.2)

theorem mem_zip_iff {ksks : List KskKey} {rs : List (Option P11Key)} {ksk : KskKey} {pk : String} :
    (ksk, some pk) ∈ ksks.zip (rs.map usablePk) ↔ ∃ i, PresentAt ksks rs i ksk pk := by
  simp only [List.mem_iff_getElem?, List.getElem?_zip_eq_some, List.getElem?_map, PresentAt]
  constructor
  · rintro ⟨i, h1, h2⟩
    cases hr : rs[i]? with
    | none => simp [hr] at h2
    | some r => exact ⟨i, h1, r, hr, by simpa [hr] using h2⟩
  · rintro ⟨i, h1, r, hr, hu⟩
    exact ⟨i, h1, by simp [hr, hu]⟩

theorem digestFor_isTrueDS {ext : Externals} {ttl : Int} {ksk : KskKey} {pk : String} {d : KeyDigest}
    (h : digestFor ext ttl ksk pk = .ok d) : IsTrueDS ext ksk pk d := by
  obtain ⟨_, pkb, hdec, hid, hal, hdt, hvf, hvu, htag, hdg⟩ := digestFor_ok h
  exact ⟨pkb, hdec, hid, hal, hdt, by rw [htag, C14.keyTag_eq_rfc4034], hdg, hvf, hvu⟩

/-- the specification determines the entry -/
theorem isTrueDS_unique {ext : Externals} {ksk : KskKey} {pk : String} {d₁ d₂ : KeyDigest}
    (h₁ : IsTrueDS ext ksk pk d₁) (h₂ : IsTrueDS ext ksk pk d₂) : d₁ = d₂ := by
  obtain ⟨b₁, e₁, i₁, a₁, t₁, k₁, g₁, f₁, u₁⟩ := h₁
  obtain ⟨b₂, e₂, i₂, a₂, t₂, k₂, g₂, f₂, u₂⟩ := h₂
  have hb : b₁ = b₂ := by rw [e₁] at e₂; exact Option.some.inj e₂
  subst hb
  rw [g₁] at g₂
  have hg : d₁.digest = d₂.digest := Option.some.inj g₂
  cases d₁; cases d₂
  simp_all

/-! ## The run -/

/-- a successful run, step by step: the modules, the loop over the configured KSKs, the document around the
    loop's digests, one write -/
theorem trustanchor_ok {ext : Externals} {args : TaArgs} {cfg : TaConfig} {tok : Token} {s s' : TokState}
    {res : TaResult} (h : trustanchor ext args cfg tok s = (.ok res, s')) :
    ∃ mods s1, initPkcs11Modules cfg.hsm args.hsm cfg.typedPin cfg.hsm tok s = (.ok mods, s1) ∧
      taLoop ext mods cfg.ttl (configured cfg) [] tok s1 = (.ok res.ta.keyDigests, s') ∧
      res.ta = { id := (truthyStr args.id).getD args.uuid, source := taSource, zone := ".",
                 keyDigests := res.ta.keyDigests } ∧
      res.output = (match trustanchorFilename args cfg with
        | some path => .file path res.ta.toXmlDoc
        | none => .stdout (res.ta.toXmlDoc ++ "\n")) := by
  unfold trustanchor at h
  obtain ⟨mods, s1, hinit, h⟩ := TokM.bind_ok h
  obtain ⟨ds, s2, hloop, h⟩ := TokM.bind_ok h
  dsimp only at h
  cases hf : trustanchorFilename args cfg <;>
    (simp only [hf, TokM.pure_run, Prod.mk.injEq, Except.ok.injEq] at h
     obtain ⟨rfl, rfl⟩ := h
     exact ⟨mods, s1, hinit, hloop, rfl, rfl⟩)

/-- a successful run: the modules were initialised, every configured KSK was looked up once, in
    configuration order, the digest of every present key was built, and the exported set is exactly those
    digests — without duplicates -/
theorem run_anatomy_present (ext : Externals) (args : TaArgs) (cfg : TaConfig) (tok : Token) (s s' : TokState)
    (res : TaResult) (h : trustanchor ext args cfg tok s = (.ok res, s')) :
    ∃ mods s1 rs,
      initPkcs11Modules cfg.hsm args.hsm cfg.typedPin cfg.hsm tok s = (.ok mods, s1) ∧
      Lookups mods tok (configured cfg) s1 rs s' ∧
      res.ta.keyDigests.Nodup ∧
      (∀ d, d ∈ res.ta.keyDigests ↔
        ∃ i ksk pk, PresentAt (configured cfg) rs i ksk pk ∧ digestFor ext cfg.ttl ksk pk = .ok d) ∧
      ∀ i ksk pk, PresentAt (configured cfg) rs i ksk pk → ∃ d, digestFor ext cfg.ttl ksk pk = .ok d := by
  obtain ⟨mods, s1, hinit, hloop, _, _⟩ := trustanchor_ok h
  obtain ⟨rs, built, hl, hb, hds⟩ := taLoop_ok hloop
  rw [hds]
  refine ⟨mods, s1, rs, hinit, hl, dedupFold_nodup built [] List.nodup_nil, fun d => ?_,
    fun i ksk pk hp => built_of_mem hb (mem_zip_iff.mpr ⟨i, hp⟩)⟩
  refine (dedupFold_mem built [] d).trans ?_
  simp only [List.not_mem_nil, false_or, built_mem hb]
  constructor
  · rintro ⟨ksk, pk, hm, hd⟩
    obtain ⟨i, hp⟩ := mem_zip_iff.mp hm
    exact ⟨i, ksk, pk, hp, hd⟩
  · rintro ⟨i, ksk, pk, hp, hd⟩
    exact ⟨ksk, pk, mem_zip_iff.mpr ⟨i, hp⟩, hd⟩

/-- **Anatomy of a successful run**: the modules were initialised, every configured KSK was looked up
    once, in configuration order, and the exported set is exactly the true DS entries of those that
    are present — without duplicates. -/
theorem run_anatomy (ext : Externals) (args : TaArgs) (cfg : TaConfig) (tok : Token) (s s' : TokState)
    (res : TaResult) (h : trustanchor ext args cfg tok s = (.ok res, s')) :
    ∃ mods s1 rs,
      initPkcs11Modules cfg.hsm args.hsm cfg.typedPin cfg.hsm tok s = (.ok mods, s1) ∧
      Lookups mods tok (configured cfg) s1 rs s' ∧
      res.ta.keyDigests.Nodup ∧
      ∀ d, d ∈ res.ta.keyDigests ↔
        ∃ i ksk pk, PresentAt (configured cfg) rs i ksk pk ∧ digestFor ext cfg.ttl ksk pk = .ok d := by
  obtain ⟨mods, s1, rs, h1, h2, h3, h4, _⟩ := run_anatomy_present ext args cfg tok s s' res h
  exact ⟨mods, s1, rs, h1, h2, h3, h4⟩

/-- **One digest per present key.** For every token: when the export succeeds, every configured KSK
    present on the token (its lookup returned a key with a public key) has its true DS entry in the
    exported set, and the set holds no entry twice. -/
theorem one_digest_per_present_key (ext : Externals) (args : TaArgs) (cfg : TaConfig) (tok : Token)
    (s s' : TokState) (res : TaResult) (h : trustanchor ext args cfg tok s = (.ok res, s')) :
    ∃ mods s1 rs, initPkcs11Modules cfg.hsm args.hsm cfg.typedPin cfg.hsm tok s = (.ok mods, s1) ∧
      Lookups mods tok (configured cfg) s1 rs s' ∧ res.ta.keyDigests.Nodup ∧
      ∀ i ksk pk, PresentAt (configured cfg) rs i ksk pk →
        ∃ d ∈ res.ta.keyDigests, IsTrueDS ext ksk pk d ∧ ∀ d', IsTrueDS ext ksk pk d' → d' = d := by
  obtain ⟨mods, s1, rs, hinit, hl, hn, hm, hok⟩ := run_anatomy_present ext args cfg tok s s' res h
  refine ⟨mods, s1, rs, hinit, hl, hn, fun i ksk pk hp => ?_⟩
  obtain ⟨d, hd⟩ := hok i ksk pk hp
  have hspec := digestFor_isTrueDS hd
  exact ⟨d, (hm d).mpr ⟨i, ksk, pk, hp, hd⟩, hspec, fun d' h' => isTrueDS_unique h' hspec⟩

/-- **Absent keys are omitted; unconfigured keys are never exported.** For every token: every exported
    entry is the true DS entry of a CONFIGURED KSK whose lookup returned a key with a public key.  In
    particular its id is a configured label, and a configured label none of whose entries is present
    on the token appears nowhere in the document. -/
theorem unconfigured_never_exported (ext : Externals) (args : TaArgs) (cfg : TaConfig) (tok : Token)
    (s s' : TokState) (res : TaResult) (h : trustanchor ext args cfg tok s = (.ok res, s')) :
    ∃ mods s1 rs, initPkcs11Modules cfg.hsm args.hsm cfg.typedPin cfg.hsm tok s = (.ok mods, s1) ∧
      Lookups mods tok (configured cfg) s1 rs s' ∧
      ∀ d ∈ res.ta.keyDigests, ∃ i ksk pk, PresentAt (configured cfg) rs i ksk pk ∧ IsTrueDS ext ksk pk d ∧
        ksk ∈ configured cfg ∧ d.id = ksk.label := by
  obtain ⟨mods, s1, rs, hinit, hl, _, hm⟩ := run_anatomy ext args cfg tok s s' res h
  refine ⟨mods, s1, rs, hinit, hl, ?_⟩
  intro d hd
  obtain ⟨i, ksk, pk, hp, hdf⟩ := (hm d).mp hd
  have hspec := digestFor_isTrueDS hdf
  obtain ⟨_, _, hid, _⟩ := hspec
  exact ⟨i, ksk, pk, hp, digestFor_isTrueDS hdf, List.mem_of_getElem? hp.1, hid⟩

theorem absent_keys_omitted (ext : Externals) (args : TaArgs) (cfg : TaConfig) (tok : Token)
    (s s' : TokState) (res : TaResult) (h : trustanchor ext args cfg tok s = (.ok res, s')) :
    ∃ mods s1 rs, initPkcs11Modules cfg.hsm args.hsm cfg.typedPin cfg.hsm tok s = (.ok mods, s1) ∧
      Lookups mods tok (configured cfg) s1 rs s' ∧
      ∀ label : String,
        (∀ (i : Nat) (ksk : KskKey) (r : Option P11Key), (configured cfg)[i]? = some ksk → ksk.label = label → rs[i]? = some r → usablePk r = none) →
        ∀ d ∈ res.ta.keyDigests, d.id ≠ label := by
  obtain ⟨mods, s1, rs, hinit, hl, hex⟩ := unconfigured_never_exported ext args cfg tok s s' res h
  refine ⟨mods, s1, rs, hinit, hl, ?_⟩
  intro label habs d hd hid
  obtain ⟨i, ksk, pk, ⟨hk, r, hr, hu⟩, _, _, hlab⟩ := hex d hd
  have := habs i ksk r hk (by rw [← hlab, hid]) hr
  rw [this] at hu
  cases hu

/-- **The digest is the RFC value**, spelled out: the entry's key tag is the RFC 4034 Appendix B
    checksum of the octets `flags(257, network order) ‖ 3 ‖ algorithm ‖ key`, and its digest is the hash
    of `0x00 ‖` those octets, digest type 2, algorithm as configured. -/
theorem digest_is_rfc (ext : Externals) (ksk : KskKey) (pk : String) (d : KeyDigest)
    (h : IsTrueDS ext ksk pk d) (ha : ksk.algorithm < 256) :
    ∃ (pkb : Bytes) (f1 f0 pb ab : UInt8), Base64.decode pk = some pkb ∧
      f1.toNat * 256 + f0.toNat = 257 ∧ pb.toNat = 3 ∧ ab.toNat = ksk.algorithm ∧
      d.keyTag = (C14.rfc4034KeyTag (f1 :: f0 :: pb :: ab :: pkb) : Nat) ∧
      ext.hash .sha256 (0 :: f1 :: f0 :: pb :: ab :: pkb) = some d.digest ∧
      d.digestType = 2 ∧ d.algorithm = ksk.algorithm := by
  obtain ⟨pkb, hdec, _, hal, hdt, htag, hdg, _, _⟩ := h
  obtain ⟨f1, f0, pb, ab, hlay, hf, hp, hab⟩ := C14.rdata_layout 257 3 ksk.algorithm pkb (by omega) (by omega) ha
  rw [hlay] at htag hdg
  exact ⟨pkb, f1, f0, pb, ab, hdec, hf, hp, hab, htag, hdg, hdt, hal⟩

/-- **Validity is echoed**: validFrom / validUntil of an entry are the configured values. -/
theorem validity_echoed (ext : Externals) (ksk : KskKey) (pk : String) (d : KeyDigest)
    (h : IsTrueDS ext ksk pk d) : d.validFrom = ksk.validFrom ∧ d.validUntil = ksk.validUntil := by
  obtain ⟨_, _, _, _, _, _, _, hf, hu⟩ := h
  exact ⟨hf, hu⟩

/-! ## What the exporter asks of the token -/

/-- **Only configured labels are queried; nothing is signed, generated or destroyed.**  For every
    token and whatever the outcome (success, exception at any point): every operation the exporter
    issued is session set-up, an attribute read, or a lookup of the PUBLIC object of a configured label. -/
theorem only_configured_labels_queried (ext : Externals) (args : TaArgs) (cfg : TaConfig) (tok : Token)
    (s : TokState) :
    ∃ l : List (TokOp × TokAns), (trustanchor ext args cfg tok s).2.log = l ++ s.log ∧
      ∀ e ∈ l, IsTaOp ((configured cfg).map (fun k : KskKey => k.label)) e.1 := by
  obtain ⟨l, hl, _, hp⟩ := (trustanchor_plays ext args cfg).emits tok s
  refine ⟨l, hl, ?_⟩
  intro e he
  have := hp e he
  simpa [configured, List.map_map, Function.comp_def] using this

def touchesToken : TokOp → Bool
  | .sign .. => true
  | .generateKeyPair .. => true
  | .destroyObject .. => true
  | _ => false

theorem IsTaOp.not_touches {labels : List String} {op : TokOp} (h : IsTaOp labels op) : touchesToken op = false := by
  cases op <;> first | rfl | exact False.elim h

theorem no_private_key_operation_no_token_write (ext : Externals) (args : TaArgs) (cfg : TaConfig)
    (tok : Token) (s : TokState) :
    ∃ l : List (TokOp × TokAns), (trustanchor ext args cfg tok s).2.log = l ++ s.log ∧
      ∀ e ∈ l, touchesToken e.1 = false := by
  obtain ⟨l, hl, hp⟩ := only_configured_labels_queried ext args cfg tok s
  exact ⟨l, hl, fun e he => (hp e he).not_touches⟩

/-! ## Order and rendering -/

/-- **Entries are sorted by validFrom**: the rendered entries are the `to_xml` snippets of the exported
    set, each exactly once, in non-decreasing order of validFrom. -/
theorem entries_sorted (ta : TrustAnchorDoc) :
    ∃ order : List KeyDigest, ta.entries = order.map KeyDigest.toXml ∧ order.Perm ta.keyDigests ∧
      order.Pairwise (fun a b => a.validFrom ≤ b.validFrom) :=
  ⟨sortDigests ta.keyDigests, rfl, (sortDigests_sorted _).2, (sortDigests_sorted _).1⟩

/-- **The iteration order of the Python set does not matter** beyond ties: two orders of the same set
    give rendered entries that are permutations of each other, both sorted; when the validFrom values
    are pairwise different the rendered entries are identical. -/
theorem order_independent (ta₁ ta₂ : TrustAnchorDoc) (hp : ta₁.keyDigests.Perm ta₂.keyDigests) :
    ta₁.entries.Perm ta₂.entries ∧
    (ta₁.keyDigests.Pairwise (fun a b => a.validFrom ≠ b.validFrom) → ta₁.entries = ta₂.entries) := by
  refine ⟨((sortDigests_sorted _).2.trans (hp.trans (sortDigests_sorted _).2.symm)).map _, fun hd => ?_⟩
  unfold TrustAnchorDoc.entries sortDigests
  rw [mergeSort_eq_of_perm (by intro a b c h1 h2; simp only [decide_eq_true_eq] at *; omega)
    (by intro a b; simp only [Bool.or_eq_true, decide_eq_true_eq]; omega) hp
    (fun a ha b hb h1 h2 => eq_of_pairwise_ne (·.validFrom) hd a ha b hb
      (by simp only [decide_eq_true_eq] at h1 h2; omega))]

/-- **Document shape and the place written**: a successful run hands its document to the file named by
    `--trustanchor` (else `filenames.output_trustanchor`), or to stdout (`TaResult.output` is one place by
    its type), and the document is declaration, header (id, source, zone "."), the sorted entries, footer. -/
theorem document_shape (ext : Externals) (args : TaArgs) (cfg : TaConfig) (tok : Token) (s s' : TokState)
    (res : TaResult) (h : trustanchor ext args cfg tok s = (.ok res, s')) :
    res.ta.zone = "." ∧ res.ta.source = taSource ∧ res.ta.id = (truthyStr args.id).getD args.uuid ∧
    (match trustanchorFilename args cfg with
     | some path => res.output = .file path res.ta.toXmlDoc
     | none => res.output = .stdout (res.ta.toXmlDoc ++ "\n")) ∧
    res.ta.toXmlDoc = xmlDeclLine ++ (res.ta.header ++ String.join res.ta.entries ++ taFooter) := by
  obtain ⟨_, _, _, _, hta, hout⟩ := trustanchor_ok h
  refine ⟨by rw [hta], by rw [hta], by rw [hta], ?_, rfl⟩
  cases hf : trustanchorFilename args cfg <;> (rw [hf] at hout; exact hout)

/-! ### The document as the rendering of a plain element tree (`Xml`, `render`, `docTree`: Lemmas/C18Render.lean) -/

/-- **Rendering (partial).**  The exported document is the XML declaration followed by the plain
    serialisation of an element tree `TrustAnchor[id, source](Zone, KeyDigest[id, validFrom, validUntil?]
    (KeyTag, Algorithm, DigestType, Digest) …)`; no text of the document comes from anywhere else.
    Attribute values are written WITHOUT escaping, so the tree is the document's meaning only when the
    identifier (and the configured labels, which the configuration loader restricts to `\w` characters)
    need none: hypothesis `AttrSafe`.

    PARTIAL because "well-formed" is stated as "is the plain serialisation of a tree whose free-text
    attribute values need no escaping", not against an XML grammar.  The full statement — a reader written
    from the XML 1.0 productions reads the document and obtains this tree — is `C18_document_wellformed`
    below, whose proof starts from this equation (`toXmlDoc_eq_render`).  The proof does not use the two
    hypotheses — the equation holds of every `ta` — they mark where the tree stops being the document's
    meaning: `unescaped_id_witness` below. -/
theorem rendering_wellformed_partial (ta : TrustAnchorDoc) (_hid : AttrSafe ta.id)
    (_hlabels : ∀ d ∈ ta.keyDigests, AttrSafe d.id) :
    ta.toXmlDoc = xmlDeclLine ++ (docTree ta).render :=
  toXmlDoc_eq_render ta

/-- the boundary (DESIGN §5, "--id is written into the attribute unescaped"): with the identifier
    `a"b` the document's first attribute value ends after `a` — the text is not the serialisation of a
    tree whose `id` is `a"b`.  Replayed on the implementation by the harness (variant boundary-id). -/
theorem unescaped_id_witness :
    let ta : TrustAnchorDoc := { id := String.ofList ['a', '"', 'b'], source := "s", zone := ".", keyDigests := [] }
    ¬ AttrSafe ta.id ∧
    ta.toXmlDoc = xmlDeclLine ++ "<TrustAnchor id=\"a\"b\" source=\"s\">\n<Zone>.</Zone>\n</TrustAnchor>" := by
  intro ta
  refine ⟨fun h => (h '"' (by simp [ta])).1 rfl, ?_⟩
  rw [toXmlDoc_eq_render]
  refine congrArg _ (String.toList_inj.mp ?_)
  rw [render_toList, String.toList_ofList]
  decide +kernel

/-! ### The document is well-formed XML and MEANS the tree — against an XML grammar

`XmlSpec.stdRead` (lean/Kskm/XmlSpec.lean) is a reading of XML documents written from the XML 1.0 productions
(document, XMLDecl, STag / ETag / EmptyElemTag with the well-formedness constraints "Element Type Match" and
"Unique Att Spec", Attribute, AttValue, CharData without `]]>`, Char, S, line-end and attribute-value
normalisation), independent of the writer; it answers a tree, `malformed`, or `outside` (the text uses
references, comments, … which the subset does not read).  C12's specification is not used here: it is
a RELATION between `PlainXml` trees with a layout and their text (`renderT` / `valT`), not a reader, its texts are
stripped and its attribute values non-empty, and this document has mixed content (line breaks between elements
are text nodes of the tree).

Which values are what:
  * FREE TEXT, written unescaped by the code: the identifier (`--id`, else `uuid4()`), `source`, `zone`, and the
    `id` of every entry (the configured key label).  Hypotheses `AttrClean` / `TextClean`: no `"` `<` `&` (and no
    tab / line break, which a reader normalises to a space) in attribute values; no `<` `&` `>` and no carriage
    return in the zone, which is not empty; XML `Char`s only.  Necessary: `unescaped_id_witness`,
    `unescaped_id_not_wellformed`, `unescaped_id_other_meaning`.
  * GENERATED, always safe whatever the numbers (`generated_values_safe`): key tag, algorithm, digest type
    (decimal), the digest (upper-case hex), validFrom / validUntil (`format_datetime`).
  * The digest must not be EMPTY (`<Digest></Digest>` has no text node); SHA-256 digests have 32 octets, the model's
    hash is a parameter, hence the hypothesis. -/

def Harmless (s : String) : Prop := ∀ c ∈ s.toList, XmlSpec.attrCharOk c = true ∧ XmlSpec.textCharOk c = true

/-- **Generated values are always safe** — unconditionally, from their generators: for EVERY key tag,
    algorithm, digest type, digest and instant. -/
theorem generated_values_safe (d : KeyDigest) :
    Harmless (toString d.keyTag) ∧ Harmless (toString d.algorithm) ∧ Harmless (toString d.digestType) ∧
    Harmless (upperHex d.digest) ∧ Harmless (formatDatetime d.validFrom) ∧
    (∀ u, d.validUntil = some u → Harmless (formatDatetime u)) :=
  ⟨fun c hc => genChar_ok (gen_intRepr _ c hc), fun c hc => genChar_ok (gen_natRepr _ c hc),
   fun c hc => genChar_ok (gen_natRepr _ c hc), fun c hc => genChar_ok (gen_upperHex _ c hc),
   fun c hc => genChar_ok (gen_formatDatetime _ c hc), fun u _ c hc => genChar_ok (gen_formatDatetime u c hc)⟩

/-- the document, also when white space follows it, is read back as `docTree ta` -/
theorem toXmlDoc_read (ta : TrustAnchorDoc) (hid : AttrClean ta.id) (hsrc : AttrClean ta.source)
    (hzone : TextClean ta.zone) (hent : ∀ d ∈ ta.keyDigests, AttrClean d.id ∧ d.digest ≠ []) (ws : String)
    (hws : ∀ c ∈ ws.toList, XmlSpec.isS c = true ∧ c ≠ '\r') :
    XmlSpec.stdRead (ta.toXmlDoc ++ ws).toList = .ok (docTree ta).toSpec := by
  have hg := good_docTree ta hid hsrc hzone hent
  rw [String.toList_append, toXmlDoc_eq_render, String.toList_append, xmlDeclLine_toList, render_toList]
  rw [docTree_toSpec] at hg ⊢
  have := XmlSpec.stdRead_render_ws _ _ _ ws.toList hg hws
  simpa [List.append_assoc] using this

/-- **The exported document is well-formed XML and means the tree.**  For every trust anchor whose free
    text is clean and whose digests are not empty, the grammar-level reader reads the document, and what
    it reads is `docTree ta`: the root `TrustAnchor` with `id` and `source`, the `Zone`, and one `KeyDigest`
    per exported key — `id`, `validFrom`, `validUntil` when configured, `KeyTag`, `Algorithm`, `DigestType`,
    `Digest` — in the order of `validFrom` (`entries_sorted`), nothing else. -/
theorem C18_document_wellformed (ta : TrustAnchorDoc) (hid : AttrClean ta.id) (hsrc : AttrClean ta.source)
    (hzone : TextClean ta.zone) (hent : ∀ d ∈ ta.keyDigests, AttrClean d.id ∧ d.digest ≠ []) :
    XmlSpec.stdRead ta.toXmlDoc.toList = .ok (docTree ta).toSpec := by
  simpa using toXmlDoc_read ta hid hsrc hzone hent "" (by simp)

/-- … and so is the text `print` writes (the document and a line break) -/
theorem C18_printed_document_wellformed (ta : TrustAnchorDoc) (hid : AttrClean ta.id) (hsrc : AttrClean ta.source)
    (hzone : TextClean ta.zone) (hent : ∀ d ∈ ta.keyDigests, AttrClean d.id ∧ d.digest ≠ []) :
    XmlSpec.stdRead (ta.toXmlDoc ++ "\n").toList = .ok (docTree ta).toSpec :=
  toXmlDoc_read ta hid hsrc hzone hent "\n" (by decide)

/-- the anchor a successful run exports has clean source and zone (the constants of the code), and — when the
    identifier and the configured labels are clean and the hash never answers the empty string — clean free text -/
theorem run_anchor_clean (ext : Externals) (args : TaArgs) (cfg : TaConfig) (tok : Token)
    (s s' : TokState) (res : TaResult) (h : trustanchor ext args cfg tok s = (.ok res, s'))
    (hid : AttrClean ((truthyStr args.id).getD args.uuid))
    (hlabels : ∀ k ∈ configured cfg, AttrClean k.label)
    (hhash : ∀ m dg, ext.hash .sha256 m = some dg → dg ≠ []) :
    AttrClean res.ta.id ∧ AttrClean res.ta.source ∧ TextClean res.ta.zone ∧
      ∀ d ∈ res.ta.keyDigests, AttrClean d.id ∧ d.digest ≠ [] := by
  obtain ⟨hz, hs, hi, _, _⟩ := document_shape ext args cfg tok s s' res h
  obtain ⟨_, _, _, _, _, hex⟩ := unconfigured_never_exported ext args cfg tok s s' res h
  refine ⟨by rw [hi]; exact hid, by rw [hs]; unfold AttrClean taSource; rw [String.toList_ofList]; decide +kernel,
    by rw [hz]; unfold TextClean; decide +kernel, ?_⟩
  intro d hd
  obtain ⟨_, ksk, _, _, hspec, hk, hlab⟩ := hex d hd
  obtain ⟨_, _, _, _, _, _, hdg, _, _⟩ := hspec
  exact ⟨by rw [hlab]; exact hlabels ksk hk, hhash _ _ hdg⟩

/-- **… of a run**: when the export succeeds, the identifier and the configured labels are clean and the
    hash never answers the empty string, the document is well-formed and means `docTree` of the exported set
    (source and zone are the constants of the code: clean). -/
theorem C18_run_document_wellformed (ext : Externals) (args : TaArgs) (cfg : TaConfig) (tok : Token)
    (s s' : TokState) (res : TaResult) (h : trustanchor ext args cfg tok s = (.ok res, s'))
    (hid : AttrClean ((truthyStr args.id).getD args.uuid))
    (hlabels : ∀ k ∈ configured cfg, AttrClean k.label)
    (hhash : ∀ m dg, ext.hash .sha256 m = some dg → dg ≠ []) :
    XmlSpec.stdRead res.ta.toXmlDoc.toList = .ok (docTree res.ta).toSpec := by
  obtain ⟨h1, h2, h3, h4⟩ := run_anchor_clean ext args cfg tok s s' res h hid hlabels hhash
  exact C18_document_wellformed res.ta h1 h2 h3 h4

/-- the text a run hands out: the content of the file, or what is printed -/
def outputText : TaOutput → String
  | .file _ content => content
  | .stdout text => text

/-- **… whatever the place**: the text written to the file, or printed, is well-formed XML and means the tree -/
theorem C18_run_output_wellformed (ext : Externals) (args : TaArgs) (cfg : TaConfig) (tok : Token)
    (s s' : TokState) (res : TaResult) (h : trustanchor ext args cfg tok s = (.ok res, s'))
    (hid : AttrClean ((truthyStr args.id).getD args.uuid))
    (hlabels : ∀ k ∈ configured cfg, AttrClean k.label)
    (hhash : ∀ m dg, ext.hash .sha256 m = some dg → dg ≠ []) :
    XmlSpec.stdRead (outputText res.output).toList = .ok (docTree res.ta).toSpec := by
  obtain ⟨h1, h2, h3, h4⟩ := run_anchor_clean ext args cfg tok s s' res h hid hlabels hhash
  obtain ⟨_, _, _, hout, _⟩ := document_shape ext args cfg tok s s' res h
  cases hf : trustanchorFilename args cfg with
  | some path =>
    rw [hf] at hout
    rw [hout]
    exact C18_document_wellformed res.ta h1 h2 h3 h4
  | none =>
    rw [hf] at hout
    rw [hout]
    exact C18_printed_document_wellformed res.ta h1 h2 h3 h4

/-- the identifier and label hypotheses of the run theorems are met by the concrete run `exRun` below
    (identifier "ta-1", labels "Ka" / "Kb"); its hash answers the first two octets of its input — the empty
    string on the empty input — so `hhash` is not met by `exExt` -/
example : AttrClean ((truthyStr (some "ta-1")).getD "") ∧ (∀ l ∈ ["Ka", "Kb"], AttrClean l) := by
  refine ⟨by unfold AttrClean; decide +kernel, ?_⟩
  intro l hl
  simp only [List.mem_cons, List.not_mem_nil, or_false] at hl
  rcases hl with rfl | rfl <;> (unfold AttrClean; decide +kernel)

/-- a concrete two-entry anchor (one entry with validUntil) that meets the hypotheses -/
def exTa : TrustAnchorDoc :=
  { id := "380DC50D-484E-40D0-A3AE-68F2B18F61C7", source := taSource, zone := ".",
    keyDigests := [
      { id := "Kjqmt7v", keyTag := 20326, algorithm := 8, digest := [0xE0, 0x6D, 0x44, 0xB8], validFrom := 1486771200000000 },
      { id := "Klajeyz", keyTag := 19036, algorithm := 8, digest := [0x49, 0xAA, 0xC1, 0x1D], validFrom := 1279152000000000,
        validUntil := some 1547164800000000 }] }

theorem exTa_clean : AttrClean exTa.id ∧ AttrClean exTa.source ∧ TextClean exTa.zone ∧
    ∀ d ∈ exTa.keyDigests, AttrClean d.id ∧ d.digest ≠ [] := by
  refine ⟨by unfold AttrClean exTa; dsimp only; rw [String.toList_ofList]; decide +kernel,
    by unfold AttrClean exTa taSource; dsimp only; rw [String.toList_ofList]; decide +kernel,
    by unfold TextClean; decide +kernel, ?_⟩
  intro d hd
  simp only [exTa, List.mem_cons, List.not_mem_nil, or_false] at hd
  rcases hd with rfl | rfl <;> exact ⟨by unfold AttrClean; decide +kernel, by decide⟩

example : XmlSpec.stdRead exTa.toXmlDoc.toList = .ok (docTree exTa).toSpec :=
  C18_document_wellformed exTa exTa_clean.1 exTa_clean.2.1 exTa_clean.2.2.1 exTa_clean.2.2.2

/-- the reading of a one-entry document, evaluated: root, attributes, the element children with their attributes
    (one entry: `mergeSort` on longer lists does not reduce in the kernel) -/
example : (match XmlSpec.stdRead ({ exTa with keyDigests := exTa.keyDigests.drop 1 } : TrustAnchorDoc).toXmlDoc.toList with
    | .ok (.elem n a cs) =>
      (String.ofList n, a.map (fun p => String.ofList p.1),
       cs.filterMap (fun c => match c with
         | .elem m b _ => some (String.ofList m, b.map (fun p => (String.ofList p.1, String.ofList p.2)))
         | _ => none))
    | _ => ("", [], [])) =
    ("TrustAnchor", ["id", "source"],
     [("Zone", []),
      ("KeyDigest", [("id", "Klajeyz"), ("validFrom", "2010-07-15T00:00:00+00:00"), ("validUntil", "2019-01-11T00:00:00+00:00")])]) := by
  rw [C18_document_wellformed { exTa with keyDigests := exTa.keyDigests.drop 1 } exTa_clean.1 exTa_clean.2.1
    exTa_clean.2.2.1 (fun d hd => exTa_clean.2.2.2 d (List.mem_of_mem_drop hd))]
  decide +kernel

/-- the boundary again, against the grammar: with the identifier `a"b` the exported text is NOT well-formed
    XML (the specification reader says `malformed`: a name or `>` must follow the closing quote) -/
theorem unescaped_id_not_wellformed :
    (match XmlSpec.stdRead ({ id := String.ofList ['a', '"', 'b'], source := "s", zone := ".", keyDigests := [] } :
        TrustAnchorDoc).toXmlDoc.toList with
     | .error .malformed => true
     | _ => false) = true := by
  rw [toXmlDoc_eq_render, String.toList_append, xmlDeclLine_toList, render_toList]
  decide +kernel

/-- … and with the identifier `a" x="1` the text IS well-formed but means another tree: the root has three
    attributes, `id` is `a` -/
theorem unescaped_id_other_meaning :
    (match XmlSpec.stdRead ({ id := "a\" x=\"1", source := "s", zone := ".", keyDigests := [] } :
        TrustAnchorDoc).toXmlDoc.toList with
     | .ok (.elem _ a _) => a.map (fun p => (String.ofList p.1, String.ofList p.2))
     | _ => []) = [("id", "a"), ("x", "1"), ("source", "s")] := by
  rw [toXmlDoc_eq_render, String.toList_append, xmlDeclLine_toList, render_toList]
  decide +kernel

/-! ## Non-vacuity: a concrete two-key export

A token holding the public objects of `Ka` (slot 0) and nothing for `Kb`; configuration with both.
The replaying oracle answers as the emulator did; the run succeeds, exports exactly `Ka`. -/

def exExp : Bytes := [1, 0, 1]
def exMod : Bytes := [0xc1, 0x59, 0xb9, 0x73]

/-- a small healthy token: module "m", slot 0, public object 1 labelled "Ka" (RSA), nothing else -/
def exToken : Token := fun _ op =>
  match op with
  | .load _ => .ok
  | .initialize _ => .ok
  | .getSlotList _ => .slots [0]
  | .openSession .. => .ok
  | .login .. => .ok
  | .getTokenInfo .. => .ok
  | .findObjects _ _ t => if t = [("LABEL", .str "Ka"), ("CLASS", .num ckoPublic)] then .handles [1] else .handles []
  | .getAttr _ _ _ ["KEY_TYPE"] => .attrs [.num ckkRsa]
  | .getAttr _ _ _ ["MODULUS"] => .attrs [.bytes exMod]
  | .getAttr _ _ _ ["PUBLIC_EXPONENT"] => .attrs [.bytes exExp]
  | _ => .other

def exExt : Externals := { hash := fun _ m => some (m.take 2), verify := fun _ _ _ _ => .unknown }

def exCfg : TaConfig :=
  { hsm := [{ label := "h", path := "m", pin := some "1234", soPin := none }],
    kskKeys := [("ka", { label := "Ka", algorithm := 8, validFrom := 1500000000000000 }),
                ("kb", { label := "Kb", algorithm := 8, validFrom := 1400000000000000, validUntil := some 1600000000000000 })] }

def exRun := trustanchor exExt { id := some "ta-1" } exCfg exToken {}

/-- the four observations of the run below, as one evaluation: the kernel runs `exRun` once for the conjunction,
    and once per statement if they are evaluated apart -/
theorem exRun_summary :
    exRun.1.toOption.map (fun r => r.ta.keyDigests.map (fun d => (d.id, d.validFrom, d.digestType))) =
      some [("Ka", 1500000000000000, 2)] ∧
    exRun.1.toOption.map (fun r => r.ta.entries.length) = some 1 ∧
    exRun.1.toOption.map (fun r => match r.output with | .stdout _ => true | _ => false) = some true ∧
    (exRun.2.log.reverse.filterMap (fun e => match e.1 with | .findObjects _ _ t => some t | _ => none)) =
      [[("LABEL", .str "Ka"), ("CLASS", .num ckoPublic)], [("LABEL", .str "Kb"), ("CLASS", .num ckoPublic)]] := by
  decide +kernel

example : exRun.1.toOption.map (fun r => r.ta.keyDigests.map (fun d => (d.id, d.validFrom, d.digestType))) =
    some [("Ka", 1500000000000000, 2)] := exRun_summary.1
example : exRun.1.toOption.map (fun r => r.ta.entries.length) = some 1 := exRun_summary.2.1
example : exRun.1.toOption.map (fun r => match r.output with | .stdout _ => true | _ => false) = some true :=
  exRun_summary.2.2.1
-- both configured labels were looked up, in configuration order, and nothing else
example : (exRun.2.log.reverse.filterMap (fun e => match e.1 with | .findObjects _ _ t => some t | _ => none)) =
    [[("LABEL", .str "Ka"), ("CLASS", .num ckoPublic)], [("LABEL", .str "Kb"), ("CLASS", .num ckoPublic)]] :=
  exRun_summary.2.2.2

end Kskm.C18
