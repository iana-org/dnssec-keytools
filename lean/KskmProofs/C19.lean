/-
  C19 — key generation, deletion and inventory never clobber, guess or misreport keys.

  APPROACH.  A store-backed token oracle, through a free monad: every keymaster function is ONE program text
  (`Kskm.Km.Prog`, Kskm/Keymaster.lean) with two interpretations — `runTok` against an arbitrary token
  oracle (what the correspondence check replays against the emulator's log) and `runSt` against a store
  with the pure semantics `storeStep` (objects per module and slot, per-slot handle counters, the pool
  `C_GenerateKeyPair` draws from).  The invariants below are proved about `runSt` for ALL stores,
  configurations, labels, answers and operation sequences (induction over the list, no bound);
  `store_backed_oracles` carries them to every token oracle whose answers are those of a store.

  The model mirrors the code with the repairs F9a, F9b, F14 in place (DESIGN §5).  Three theorems are
  false of the code before those repairs:
    `keygen_no_second`                  F9a (a private-only label did not block generation),
    `delete_only_label_only_confirmed`  F9b (objects were destroyed through another slot's session),
    `inventory_lists_each_once`         F14 (an unpaired public entry vanished from the listing).

  Vocabulary.  `searched mods`: the (module, slot) pairs with a session — what every lookup visits.
  "Key object": class public or private (`isKeyClass`).  `Store.WF`: handles unique per slot and below
  the slot's counter (what the emulator and real tokens maintain; preserved by every operation:
  `wf_preserved`).
-/
import KskmProofs.Lemmas.C19Effects
import KskmProofs.Lemmas.C19Inventory
import KskmProofs.Lemmas.C19Listing
import KskmProofs.Lemmas.C18Run
import KskmProofs.Lemmas.KmHsmEq
import KskmProofs.C14
import KskmProofs.Lemmas.Res
namespace Kskm.C19
open Kskm.Km

/-! ## Store-backed oracles -/

/-- **Every token that answers as a store does.**  For every program of the keymaster model, every
    token oracle and every store: if the answers logged during the run are the store semantics' answers
    from `st`, the run returns what the store-backed run returns, and the logged operations lead the
    store to where the store-backed run leaves it.  (So each theorem below about `runSt` is a theorem
    about every such oracle.) -/
theorem store_backed_oracles {α} (p : Prog α) (t : Token) (s : TokState) (st : Store) :
    ∃ l : List (TokOp × TokAns), (p.runTok t s).2.log = l ++ s.log ∧
      (Consistent st l.reverse →
        (p.runTok t s).1 = (p.runSt st).1 ∧ replayStore st l.reverse = (p.runSt st).2) :=
  refines p t s st

/-! ## Key generation -/

/-- **No second key under an existing label** (F9a repaired).  If ANY public or private object of any
    searched slot carries the label, key generation fails and the store is unchanged. -/
theorem keygen_no_second (ext : Externals) (cfg : KmConfig) (mods : List P11Module) (alg : Nat)
    (size : Option Nat) (label : String) (st : Store)
    (h : ∃ p n, (p, n) ∈ searched mods ∧ ∃ o ∈ st.objs p n, o.label = label ∧ isKeyClass o.cls) :
    ((keygenP ext cfg mods alg size (some label)).runSt st).2 = st ∧
    ∃ e, ((keygenP ext cfg mods alg size (some label)).runSt st).1 = .error e := by
  rcases keygenP_cases ext cfg mods alg size label st rfl with h1 | ⟨_, _, _, _, _, hg, _⟩
  · exact h1
  · exfalso
    obtain ⟨p, n, hpn, o, ho, hl, hc⟩ := h
    exact existingKeyP_none hg.fresh p n hpn o ho hl hc

/-- **A successful generation adds exactly one pair.**  When `keygen` succeeds: the algorithm is RSA
    with a key size; no public / private object of a searched slot carried the label; and the store
    differs from the one before in exactly this: the slot `get_session()` names — first module, smallest
    slot — received, at its next two handles, a public and a private RSA object with the requested
    label holding ONE pool key of the requested size with exponent 65537; the pool gained nothing; every
    other slot is as it was. -/
theorem keygen_adds_exactly_pair (ext : Externals) (cfg : KmConfig) (mods : List P11Module) (alg : Nat)
    (size : Option Nat) (label : String) (st st' : Store) (rep : KeygenReport)
    (h : (keygenP ext cfg mods alg size (some label)).runSt st = (.ok rep, st')) :
    ∃ bits path slot k s, size = some bits ∧ isAlgorithmRsa alg = true ∧
      (∀ p n, (p, n) ∈ searched mods → ∀ o ∈ st.objs p n, o.label = label → ¬ isKeyClass o.cls) ∧
      (∃ first rest, mods = first :: rest ∧ path = first.path ∧ slot ∈ first.sessions ∧ ∀ x ∈ first.slots, slot ≤ x) ∧
      k ∈ st.pool ∧ k.bits = bits ∧ k.e = 65537 ∧
      st.slots path slot = some s ∧
      st'.objs path slot = st.objs path slot ++
        [rsaObj s.next ckoPublic label k, rsaObj (s.next + 1) ckoPrivate label k] ∧
      (∀ p n, ¬ (p = path ∧ n = slot) → st'.slots p n = st.slots p n) ∧
      (∀ x ∈ st'.pool, x ∈ st.pool) := by
  obtain ⟨bits, path, slot, k, _, _, hg, _⟩ := keygenP_ok h
  obtain ⟨s, hslot, hobjs⟩ := hg.generated.objs_target
  obtain ⟨first, rest, hm, hp, _, hsl, hmin⟩ := getSession_spec hg.session
  obtain ⟨s0, pool', hs0, hk, hpool, hsub, _, hother⟩ := hg.generated
  refine ⟨bits, path, slot, k, s, hg.size, hg.rsa, existingKeyP_none hg.fresh, ⟨first, rest, hm, hp, hsl, hmin⟩,
    hk, hg.bits, hg.exponent, hslot, hobjs, hother, ?_⟩
  rw [hpool]; exact hsub

/-- The same, whatever the outcome: `keygen` either leaves the store alone or adds exactly one pair —
    the pair is generated BEFORE the tag collision test, so a collision (or a failing DS computation)
    leaves the new pair on the token. -/
theorem keygen_store_cases (ext : Externals) (cfg : KmConfig) (mods : List P11Module) (alg : Nat)
    (size : Option Nat) (label : String) (st : Store) :
    ((keygenP ext cfg mods alg size (some label)).runSt st).2 = st ∨
    ∃ path slot k, getSession mods = .ok (path, slot) ∧
      (∀ p n, (p, n) ∈ searched mods → ∀ o ∈ st.objs p n, o.label = label → ¬ isKeyClass o.cls) ∧
      Generated label path slot k st ((keygenP ext cfg mods alg size (some label)).runSt st).2 := by
  rcases keygenP_cases ext cfg mods alg size label st rfl with ⟨h, _⟩ | ⟨_, path, slot, k, _, hg, _⟩
  · exact Or.inl h
  · exact Or.inr ⟨path, slot, k, hg.session, existingKeyP_none hg.fresh, hg.generated⟩

/-- `DNSRecords.from_key` succeeded: the DS digest is the hash of 0x00 ‖ RDATA of the key -/
theorem fromKey_ok {hash : Hasher} {key : Key} {dns : DnsRecords} (h : DnsRecords.fromKey hash key = .ok dns) :
    ∃ r, keyToRdata key = .ok r ∧ hash .sha256 (0 :: r) = some dns.dsDigest := by
  unfold DnsRecords.fromKey at h
  dsimp only at h
  split at h
  · cases h
  obtain ⟨ds, hd, h⟩ := Res.bind_ok h
  obtain ⟨r, hr, hh, _⟩ := C18.createTrustanchorKeydigest_ok hd
  cases h
  exact ⟨r, hr, hh⟩

/-- **The reported tags and DS are the RFC values; a collision is a failure.**  When the tag / DS step of
    `keygen` succeeds on public key text `pk`: the reported key tag is the RFC 4034 App. B tag of the
    DNSKEY RDATA with flags 257, the second one that of the RDATA with flags 385 (REVOKE set), the DS
    digest is the hash of 0x00 ‖ RDATA(257) — and NO configured KSK carries either tag. -/
theorem keygen_reports_tags (ext : Externals) (cfg : KmConfig) (alg : Nat) (label pk : String)
    (rep : KeygenReport) (h : keygenReport ext cfg alg label pk = .ok rep) :
    ∃ pkb, Base64.decode pk = some pkb ∧ alg < 256 ∧
      rep.keyTag = (C14.rfc4034KeyTag (rdataOf 257 3 alg pkb) : Nat) ∧
      rep.revokedTag = (C14.rfc4034KeyTag (rdataOf 385 3 alg pkb) : Nat) ∧
      ext.hash .sha256 (0 :: rdataOf 257 3 alg pkb) = some rep.dsDigest ∧
      ∀ k ∈ cfg.ksks, k.ksk.keyTag ≠ some rep.keyTag ∧ k.ksk.keyTag ≠ some rep.revokedTag := by
  unfold keygenReport at h
  obtain ⟨key, h1, h⟩ := Res.bind_ok h
  obtain ⟨rev, h2, h⟩ := Res.bind_ok h
  dsimp only at h
  split at h
  · cases h
  rename_i hnocol
  obtain ⟨dns, h3, h⟩ := Res.bind_ok h
  cases h
  -- the two keys carry the same key text; their RDATA differ in the flags only
  obtain ⟨_, _, hfl, hpr, hal, hpk, r1, hr1, ht1⟩ := publicKeyToDnssecKey_ok h1
  obtain ⟨_, _, hfl2, hpr2, hal2, hpk2, r2, hr2, ht2⟩ := publicKeyToDnssecKey_ok h2
  obtain ⟨ha, pkb, hdec, hrd⟩ := C18.keyToRdata_257 hfl hpr hr1
  obtain ⟨_, pkb2, hdec2, hrd2⟩ := (C14.keyToRdata_ok_iff _ _).mp hr2
  rw [hpk2, ← hpk, hdec] at hdec2
  obtain rfl := Option.some.inj hdec2
  rw [hfl2, hpr2, hal2] at hrd2
  obtain ⟨r, hr, hh⟩ := fromKey_ok h3
  rw [hr1] at hr
  obtain rfl := Except.ok.inj hr
  rw [hal] at ha hrd
  refine ⟨pkb, by rw [← hpk]; exact hdec, ha, ?_, ?_, ?_, ?_⟩
  · simp only; rw [ht1, hrd, C14.keyTag_eq_rfc4034]
  · simp only; rw [ht2, hrd2, C14.keyTag_eq_rfc4034]; rfl
  · rw [← hrd]; exact hh
  · intro k hkm
    simp only [List.any_eq_true, not_exists, not_and] at hnocol
    have := hnocol k hkm
    cases hkt : k.ksk.keyTag with
    | none => simp
    | some t =>
      simp only [hkt, List.contains_cons, List.contains_nil, Bool.or_false, Bool.or_eq_true,
        beq_iff_eq, not_or] at this
      exact ⟨fun e => this.1 (Option.some.inj e), fun e => this.2 (Option.some.inj e)⟩

/-- … and the report `keygen` returns IS that computation on the public key text of the key the
    re-lookup found on the store after generation, under the requested label. -/
theorem keygen_reports_generated_key (ext : Externals) (cfg : KmConfig) (mods : List P11Module) (alg : Nat)
    (size : Option Nat) (label : String) (st st' : Store) (rep : KeygenReport)
    (h : (keygenP ext cfg mods alg size (some label)).runSt st = (.ok rep, st')) :
    ∃ key pk, (getP11KeyP label true none mods).runSt st' = (.ok (some key), st') ∧
      key.publicKey = some pk ∧ key.label = label ∧ keygenReport ext cfg alg label pk = .ok rep := by
  obtain ⟨_, _, _, _, key, pk, _, hlook, hpk, hrep⟩ := keygenP_ok h
  obtain ⟨_, _, _, _, _, _, _, hlab, _⟩ := getP11KeyP_found (congrArg Prod.fst hlook)
  exact ⟨key, pk, hlook, hpk, hlab, hlab ▸ hrep⟩

/-- … and that key text is the RFC 3110 encoding of THE KEY THAT WAS GENERATED: in a well-formed store,
    a successful `keygen` reports the tags and DS of `rsaEncode(exponent, modulus)` of the very pool key
    whose pair it added (so `keygen_reports_tags` speaks of the new key, not of some other object). -/
theorem keygen_reports_new_key (ext : Externals) (cfg : KmConfig) (mods : List P11Module) (alg : Nat)
    (size : Option Nat) (label : String) (st st' : Store) (rep : KeygenReport) (hw : st.WF)
    (h : (keygenP ext cfg mods alg size (some label)).runSt st = (.ok rep, st')) :
    ∃ path slot k pk, Generated label path slot k st st' ∧
      rsaEncode (beNat k.exponent) k.modulus = .ok pk ∧ keygenReport ext cfg alg label pk = .ok rep := by
  have hw' : st'.WF := by have := runSt_wf (keygenP ext cfg mods alg size (some label)) hw; rwa [h] at this
  obtain ⟨_, path, slot, k, key, pk, hg, hlook, hpk, hrep⟩ := keygenP_ok h
  obtain ⟨hsearched, s', o, hs', ho, hn, _, hlab, _, _, hpkrun⟩ := getP11KeyP_found (congrArg Prod.fst hlook)
  refine ⟨path, slot, k, pk, hg.generated, ?_, hlab ▸ hrep⟩
  have hnone := existingKeyP_none hg.fresh
  -- the found object is the new public object: no object of the store before carried the label
  obtain ⟨s, _, hmem⟩ := hg.generated.mem_objs
  have hnew : o = rsaObj s.next ckoPublic label k := by
    rcases (hmem _ _ o).mp (by rw [objs_of_slots hs']; exact ho) with hold | ⟨_, _, hnew | rfl⟩
    · exact absurd (Or.inl hn.2) (hnone _ _ hsearched o hold hn.1)
    · exact hnew
    · exact absurd (hn.2 : ckoPrivate = ckoPublic) ckoPublic_ne_ckoPrivate.symm
  have hrun := p11ObjectToPublicKeyP_rsa (st := st') hs' (hw' _ _ s' hs').1 ho
    (m := k.modulus) (e := k.exponent) (by rw [hnew]; rfl) (by rw [hnew]; simp [rsaObj])
    (by rw [hnew]; simp [rsaObj, List.lookup])
  rw [hrun, hpk] at hpkrun
  cases henc : rsaEncode (beNat k.exponent) k.modulus with
  | error f => simp [henc] at hpkrun
  | ok txt =>
    simp only [henc, Except.ok.injEq, Option.some.injEq] at hpkrun
    rw [hpkrun]

/-! ## Deletion -/

/-- **Deletion removes only the labelled key objects, and only when confirmed** (F9b repaired).
    (1) Without `--force` and without exactly "Yes" (newlines stripped) the store is unchanged.
    (2) In a well-formed store, whatever happens: nothing arrives, counters and pool stay, every object
        that leaves carries the label, is of class public or private and lived in a searched slot —
        every other object of every slot is untouched. -/
theorem delete_only_label_only_confirmed (mods : List P11Module) (label : String) (force : Bool)
    (answer : String) (st : Store) :
    (force = false → confirmed answer = false → ((keyDeleteP mods label force answer).runSt st).2 = st) ∧
    (st.WF →
      let st' := ((keyDeleteP mods label force answer).runSt st).2
      st'.pool = st.pool ∧
      (∀ p n, (st'.slots p n).map (·.next) = (st.slots p n).map (·.next)) ∧
      (∀ p n, ∀ o ∈ st'.objs p n, o ∈ st.objs p n) ∧
      (∀ p n, ∀ o ∈ st.objs p n, o ∉ st'.objs p n →
        o.label = label ∧ isKeyClass o.cls ∧ (p, n) ∈ searched mods)) := by
  constructor
  · rintro rfl hc
    rcases keyDeleteP_cases mods label false answer st with ⟨h, _⟩ | ⟨_, _, _, _, hnc, _⟩
    · exact h
    · simp [hc] at hnc
  · intro hw
    have hs := keyDeleteP_shrinks (label := label) (mods := mods) hw force answer
    exact ⟨hs.pool, hs.next, hs.sub, hs.gone⟩

/-- the label names exactly this public and this private object in the searched slots -/
structure NamesPair (mods : List P11Module) (st : Store) (label : String)
    (pa : String) (na : Nat) (a : Obj) (pb : String) (nb : Nat) (b : Obj) : Prop where
  pubIn : a ∈ st.objs pa na ∧ (pa, na) ∈ searched mods ∧ a.named label ckoPublic
  privIn : b ∈ st.objs pb nb ∧ (pb, nb) ∈ searched mods ∧ b.named label ckoPrivate
  pubOnly : ∀ p n, (p, n) ∈ searched mods → ∀ o ∈ st.objs p n, o.named label ckoPublic → p = pa ∧ n = na ∧ o = a
  privOnly : ∀ p n, (p, n) ∈ searched mods → ∀ o ∈ st.objs p n, o.named label ckoPrivate → p = pb ∧ n = nb ∧ o = b

/-- **A deletion that reports success removed the private object it found**: when `key_delete` returns
    `True` after a confirmation, and the label names one private object in the searched slots, that
    object is gone (from the slot it lived in — through that slot's own session). -/
theorem delete_true_removes_private (mods : List P11Module) (label : String) (force : Bool) (answer : String)
    (st : Store) (hw : st.WF) (hconf : force = true ∨ confirmed answer = true)
    (pb : String) (nb : Nat) (b : Obj)
    (hb : b ∈ st.objs pb nb ∧ (pb, nb) ∈ searched mods ∧ b.named label ckoPrivate)
    (honly : ∀ p n, (p, n) ∈ searched mods → ∀ o ∈ st.objs p n, o.named label ckoPrivate → p = pb ∧ n = nb ∧ o = b)
    (hres : ((keyDeleteP mods label force answer).runSt st).1 = .ok true) :
    b ∉ ((keyDeleteP mods label force answer).runSt st).2.objs pb nb := by
  rcases keyDeleteP_cases mods label force answer st with
    ⟨_, h⟩ | ⟨pub, s, o, st₂, _, hsearched, hs, ho, hn, hst₂, hrun⟩
  · have := h hres
    rcases hconf with rfl | hc <;> simp_all
  · rw [hrun] at hres ⊢
    have hsh : Shrinks label mods st st₂ := by
      rcases hst₂ with rfl | rfl
      · exact Shrinks.refl _ _ _
      · exact remove_shrinks hw hs ho hn.1 (Or.inl hn.2) hsearched
    -- `True` comes only from the destroy of the private object the second lookup found: that object is `b`
    rcases destroyPrivateP_cases mods label st₂ with ⟨_, hne⟩ | ⟨priv, s₂, o₂, hsearched₂, hs₂, ho₂, hn₂, hrun₂⟩
    · exact absurd hres hne
    · rw [hrun₂]
      obtain ⟨hp, hsl, rfl⟩ := honly _ _ hsearched₂ o₂
        (hsh.sub _ _ _ (by rw [objs_of_slots hs₂]; exact ho₂)) hn₂
      exact fun hmem => ((mem_objs_remove hs₂ _ _ _ _).mp hmem).2 ⟨hp.symm, hsl.symm, rfl⟩

theorem keydelP_run (mods : List P11Module) (label : String) (force : Bool) (answer : String) (st : Store) :
    (keydelP mods label force answer).runSt st =
      (((keyDeleteP mods label force answer).runSt st).1.map fun _ => true,
        ((keyDeleteP mods label force answer).runSt st).2) := by
  unfold keydelP
  rw [runSt_bind]
  cases (keyDeleteP mods label force answer).runSt st with
  | mk r s => cases r <;> rfl

/-- `keydel` drops `key_delete`'s result: it returns `True` unless an exception escapes. -/
theorem keydel_returns_true (mods : List P11Module) (label : String) (force : Bool) (answer : String)
    (st : Store) (b : Bool) (h : ((keydelP mods label force answer).runSt st).1 = .ok b) : b = true := by
  rw [keydelP_run] at h
  cases hr : ((keyDeleteP mods label force answer).runSt st).1 with
  | error e => rw [hr] at h; cases h
  | ok x => rw [hr] at h; exact (Except.ok.inj h).symm

/-! ## Inventory -/

/-- **The inventory only reads**: whatever it lists or however it fails, the store is unchanged. -/
theorem inventory_reads_only (ext : Externals) (cfg : KmConfig) (mods : List P11Module) (dns : Bool) (st : Store) :
    ((inventoryP ext cfg mods dns).runSt st).2 = st :=
  inventoryP_ro.readOnly st

def pairPubs (L : SlotListing) : List KeyInfo := L.pairs.map (·.pub)
/-- the entries shown under a class heading -/
def leftover (L : SlotListing) (c : Nat) : List KeyInfo := (L.leftovers.lookup c).getD []

/-- how often an object of class `c` with label+id `k` is shown: a "Signing key pairs" line stands for
    the public AND the private object of that label+id; a line under a class heading for one object of
    that class -/
def appearances (L : SlotListing) (c : Nat) (k : String × Option Bytes) : Nat :=
  (if c = ckoPublic ∨ c = ckoPrivate then countKey (pairPubs L) k else 0) + countKey (leftover L c) k

/-- `_format_keys` on a table: with both classes present the pairing loop ran on them; otherwise nothing is
    paired -/
theorem formatKeysStruct_cases {ext : Externals} {cfg : KmConfig} {data : KeyTable} {L : SlotListing}
    (h : formatKeysStruct ext cfg data = .ok L) :
    (∃ pubs privs res, data.lookup ckoPublic = some pubs ∧ data.lookup ckoPrivate = some privs ∧
      pairLoop ext cfg pubs { pubs := pubs, privs := privs } = .ok res ∧
      L = { pairs := res.pairs, leftovers := (data.set ckoPublic res.pubs).set ckoPrivate res.privs }) ∨
    ((data.lookup ckoPublic = none ∨ data.lookup ckoPrivate = none) ∧ L = { pairs := [], leftovers := data }) := by
  unfold formatKeysStruct at h
  cases hp : data.get ckoPublic with
  | none =>
    simp only [hp, pure, Except.pure, Except.ok.injEq] at h
    exact Or.inr ⟨Or.inl hp, h.symm⟩
  | some pubs =>
    cases hq : data.get ckoPrivate with
    | none =>
      simp only [hp, hq, pure, Except.pure, Except.ok.injEq] at h
      exact Or.inr ⟨Or.inr hq, h.symm⟩
    | some privs =>
      simp only [hp, hq] at h
      obtain ⟨res, hl, h⟩ := Res.bind_ok h
      cases h
      exact Or.inl ⟨pubs, privs, res, hp, hq, hl, rfl⟩

/-- **What `_format_keys` lists, in closed form** — whether or not both classes are present (an absent class has
    no entries, and the formulas of the pairing loop then say "nothing is paired, everything is left"). -/
theorem listing_closed {ext : Externals} {cfg : KmConfig} {data : KeyTable} {L : SlotListing}
    (hn : (((data.lookup ckoPublic).getD []).map KeyInfo.key).Nodup) (h : formatKeysStruct ext cfg data = .ok L) :
    pairPubs L = ((data.lookup ckoPublic).getD []).filter (fun x => hasKey ((data.lookup ckoPrivate).getD []) x.key) ∧
    leftover L ckoPublic =
      ((data.lookup ckoPublic).getD []).filter (fun x => !hasKey ((data.lookup ckoPrivate).getD []) x.key) ∧
    leftover L ckoPrivate =
      ((data.lookup ckoPrivate).getD []).filter (fun y => !hasKey ((data.lookup ckoPublic).getD []) y.key) ∧
    ∀ c, c ≠ ckoPublic → c ≠ ckoPrivate → leftover L c = (data.lookup c).getD [] := by
  have hne := ckoPublic_ne_ckoPrivate
  rcases formatKeysStruct_cases h with ⟨pubs, privs, res, hp, hq, hl, rfl⟩ | ⟨hnone, rfl⟩
  · simp only [hp, hq, Option.getD_some] at hn ⊢
    obtain ⟨h1, h2, h3⟩ := pairLoop_spec ext cfg pubs _ res hn hl
    simp only [List.map_nil, List.nil_append] at h1
    refine ⟨h1, ?_, ?_, fun c hc1 hc2 => ?_⟩
    · simp only [leftover]
      rw [lookup_set_other hne, lookup_set_same _ _ _ (by simp [hp]), Option.getD_some, h2]
      apply List.filter_congr
      intro y hy
      rw [hasKey_filter_self (P := fun k => hasKey privs k) hy]
    · simp only [leftover]
      rw [lookup_set_same _ _ _ (by rw [lookup_set_other (Ne.symm hne)]; simp [hq]), Option.getD_some, h3]
    · simp only [leftover]
      rw [lookup_set_other hc2, lookup_set_other hc1]
  · have hpp : pairPubs { pairs := [], leftovers := data } = [] := rfl
    simp only [leftover, hpp]
    have ht : ∀ l : List KeyInfo, l.filter (fun _ => true) = l := fun l => List.filter_eq_self.mpr (fun _ _ => rfl)
    rcases hnone with e | e <;> simp [e, hasKey, ht]

/-- **The inventory lists each key object once** (F14 repaired).  Let `infos` be what
    `get_key_inventory` returned for a slot (one record per public / private / secret object, in token
    order) and `L` what `_format_keys` lists for it.  Then every object seen appears EXACTLY ONCE — on a
    pair line or under the heading of its class (objects of one class with equal label and id being
    one entry) — and nothing is listed that was not seen. -/
theorem inventory_lists_each_once (ext : Externals) (cfg : KmConfig) (infos : List KeyInfo) (L : SlotListing)
    (h : formatKeysStruct ext cfg (tableOf infos) = .ok L) :
    (∀ i ∈ infos, appearances L i.keyClass i.key = 1) ∧
    (∀ x ∈ pairPubs L, x ∈ infos ∧ x.keyClass = ckoPublic) ∧
    (∀ c, ∀ x ∈ leftover L c, x ∈ infos ∧ x.keyClass = c) := by
  obtain ⟨hpairs, hlp, hlq, hother⟩ := listing_closed (by rw [lookup_tableOf]; exact nodup_seen _ _) h
  simp only [lookup_tableOf] at hpairs hlp hlq hother
  refine ⟨fun i hi => ?_, fun x hx => ?_, fun c x hx => ?_⟩
  · -- a pair line counts for both classes; `countKey_filter` turns each filter into a test on the label+id
    have h1 := countKey_seen hi
    unfold appearances
    by_cases hc1 : i.keyClass = ckoPublic
    · rw [hc1] at h1 ⊢
      rw [if_pos (.inl rfl), hpairs, hlp, countKey_filter _ (hasKey _), countKey_filter _ (fun k => !hasKey _ k), h1]
      cases hasKey (seen infos ckoPrivate) i.key <;> rfl
    · by_cases hc2 : i.keyClass = ckoPrivate
      · rw [hc2] at h1 ⊢
        have hk : hasKey (seen infos ckoPrivate) i.key = true := (hasKey_seen _ _ _).mpr ⟨i, hi, hc2, rfl⟩
        rw [if_pos (.inr rfl), hpairs, hlq, countKey_filter _ (hasKey _), countKey_filter _ (fun k => !hasKey _ k), h1, hk,
          countKey_eq _ (nodup_seen _ _)]
        cases hasKey (seen infos ckoPublic) i.key <;> rfl
      · rw [if_neg (by simp [hc1, hc2]), hother _ hc1 hc2, h1]
  · rw [hpairs] at hx
    exact mem_seen (List.mem_filter.mp hx).1
  · apply mem_seen
    by_cases hc1 : c = ckoPublic
    · subst hc1; rw [hlp] at hx; exact (List.mem_filter.mp hx).1
    · by_cases hc2 : c = ckoPrivate
      · subst hc2; rw [hlq] at hx; exact (List.mem_filter.mp hx).1
      · rw [hother c hc1 hc2] at hx; exact hx

/-- … at the level of the token's OBJECTS: when the listing of a slot of a well-formed store succeeds,
    every public, private or secret key object of that slot — identified by class, label and id, an empty
    CKA_ID counting as "no id" — is shown exactly once, and the store is as it was.  (Objects of other
    classes — data, certificates — are not part of a KEY inventory: `keyInfoView` is `none` for them.) -/
theorem inventory_lists_each_object_once (ext : Externals) (cfg : KmConfig) (st st' : Store) (hw : st.WF)
    (p : String) (n : Nat) (s : SlotSt) (hs : st.slots p n = some s) (L : SlotListing)
    (h : (slotListingP ext cfg p n).runSt st = (.ok L, st')) :
    st' = st ∧ ∀ o ∈ s.objects, ∀ c lab id, keyInfoView o = some (c, lab, id) → appearances L c (lab, id) = 1 := by
  unfold slotListingP at h
  obtain ⟨infos, h1, h2⟩ := runSt_bind_ok_of_readOnly getKeyInventoryP_ro h
  rw [runSt_liftP] at h2
  simp only [Prod.mk.injEq] at h2
  obtain ⟨hf, rfl⟩ := h2
  refine ⟨rfl, ?_⟩
  intro o ho c lab id hv
  have hviews := getKeyInventoryP_ok hs (hw p n s hs).1 h1
  have hm : (c, lab, id) ∈ infos.map KeyInfo.view := by
    rw [hviews, List.mem_filterMap]; exact ⟨o, ho, hv⟩
  obtain ⟨i, hi, hie⟩ := List.mem_map.mp hm
  have := (inventory_lists_each_once ext cfg infos L hf).1 i hi
  simp only [KeyInfo.view, Prod.mk.injEq] at hie
  obtain ⟨rfl, rfl, rfl⟩ := hie
  exact this

/-- **Pairs are by label AND id.**  A label+id is shown as a "Signing key pair" exactly when the slot
    holds a public object and a private object with that label and that id. -/
theorem inventory_pairs_by_label_and_id (ext : Externals) (cfg : KmConfig) (infos : List KeyInfo) (L : SlotListing)
    (h : formatKeysStruct ext cfg (tableOf infos) = .ok L) (k : String × Option Bytes) :
    hasKey (pairPubs L) k = true ↔
      (∃ i ∈ infos, i.keyClass = ckoPublic ∧ i.key = k) ∧ (∃ j ∈ infos, j.keyClass = ckoPrivate ∧ j.key = k) := by
  obtain ⟨hpairs, _⟩ := listing_closed (by rw [lookup_tableOf]; exact nodup_seen _ _) h
  rw [hpairs, lookup_tableOf, lookup_tableOf, hasKey_filter _ (hasKey _), Bool.and_eq_true, hasKey_seen, hasKey_seen]

/-! ### the verdict on configured KSKs -/

/-- `validateDnskeyMsg` is `validate_dnskey_matches_ksk` with the message kept: same verdict. -/
theorem validateMsg_agrees (ext : Externals) (ksk : KskKey) (dnskey : Key) :
    validateDnskeyMatchesKsk ext ksk dnskey =
      (validateDnskeyMsg ext ksk dnskey).bind (fun o => match o with | none => pure () | some _ => err .runtime) := by
  -- both run the DS test, then the key-tag test; the tag test alone:
  have htag : (match ksk.keyTag with
        | none => pure ()
        | some t => if dnskey.keyTag != t then err .runtime else pure () : Res Unit) =
      (match ksk.keyTag with
        | none => pure none
        | some t =>
          if dnskey.keyTag != t then
            pure (some ("Key " ++ ksk.label ++ " has unexpected key tag (" ++ toString dnskey.keyTag ++ ", not "
              ++ toString t ++ ")"))
          else pure none : Res (Option String)).bind
        (fun o => match o with | none => pure () | some _ => err .runtime) := by
    cases ksk.keyTag with
    | none => rfl
    | some t => dsimp only; split <;> rfl
  unfold validateDnskeyMatchesKsk validateDnskeyMsg
  cases ksk.dsSha256 with
  | none => exact htag
  | some ds =>
    dsimp only
    split
    · exact htag
    · cases dsInput dnskey with
      | error e => rfl
      | ok inp =>
        simp only [bind, Except.bind]
        cases hashOrUnknown ext.hash .sha256 inp with
        | error e => rfl
        | ok dg =>
          dsimp only
          split
          · rfl
          · exact htag

/-- the configured entries the loop of `_format_keys` examines for a label, in configuration order -/
def entriesFor (cfg : KmConfig) (label : String) : List KmKsk := cfg.ksks.filter (fun k => k.ksk.label = label)

theorem kskInfoLoop_bad (ext : Externals) (label pk : String) :
    ∀ (ksks : List KmKsk) (acc res : KskInfo × Option DnsRecords),
      kskInfoLoop ext label pk ksks acc = .ok res →
      (∃ k ∈ ksks, k.ksk.label = label ∧ ∃ dnskey, publicKeyToDnssecKey pk label k.ksk.algorithm 0 257 = .ok dnskey ∧
        validateDnskeyMatchesKsk ext k.ksk dnskey = err .runtime) →
      ∃ l d m, res.1 = .bad l d m := by
  intro ksks
  induction ksks with
  | nil => intro acc res _ ⟨k, hk, _⟩; simp at hk
  | cons k rest ih =>
    intro acc res h hbad
    rw [kskInfoLoop] at h
    by_cases hl : k.ksk.label = label
    · rw [if_pos hl] at h
      obtain ⟨dnskey, hd, h⟩ := Res.bind_ok h
      obtain ⟨dns, _, h⟩ := Res.bind_ok h
      obtain ⟨o, hv, h⟩ := Res.bind_ok h
      cases o with
      | some msg => cases h; exact ⟨_, _, _, rfl⟩
      | none =>
        refine ih _ res h ?_
        obtain ⟨k', hk', hl', dk, hdk, hval⟩ := hbad
        rcases List.mem_cons.mp hk' with rfl | hk''
        · -- the entry just examined passed: it is not the failing one
          exfalso
          rw [hd] at hdk
          obtain rfl := Except.ok.inj hdk
          rw [validateMsg_agrees, hv] at hval
          cases hval
        · exact ⟨k', hk'', hl', dk, hdk, hval⟩
    · rw [if_neg hl] at h
      refine ih _ res h ?_
      obtain ⟨k', hk', hl', x⟩ := hbad
      rcases List.mem_cons.mp hk' with rfl | hk''
      · exact absurd hl' hl
      · exact ⟨k', hk'', hl', x⟩

/-- **A configured KSK whose token key does not match is marked BAD.**  For every pair the inventory
    shows: if some configured KSK with the pair's label fails `validate_dnskey_matches_ksk` (configured
    DS SHA-256 or key tag differ from those of the DNSKEY — flags 257, configured algorithm — built from
    the token's public key), the pair's line says `BAD KSK …`. -/
theorem bad_ksk_marked (ext : Externals) (cfg : KmConfig) (data : KeyTable) (L : SlotListing)
    (h : formatKeysStruct ext cfg data = .ok L) (p : PairEntry) (hp : p ∈ L.pairs)
    (hbad : ∃ k ∈ cfg.ksks, k.ksk.label = p.pub.label ∧ ∃ pk dnskey, p.pub.pubkey = some pk ∧
      publicKeyToDnssecKey pk p.pub.label k.ksk.algorithm 0 257 = .ok dnskey ∧
      validateDnskeyMatchesKsk ext k.ksk dnskey = err .runtime) :
    ∃ l d m, p.info = .bad l d m ∧ p.info.text = "BAD KSK '" ++ l ++ "/" ++ d ++ "': " ++ m := by
  rcases formatKeysStruct_cases h with ⟨pubs, privs, res, _, _, hl, rfl⟩ | ⟨_, rfl⟩
  · rcases pairLoop_entries ext cfg pubs _ res hl p hp with hm | ⟨pk, hpk, hk⟩
    · simp at hm
    · obtain ⟨k, hkm, hlab, pk', dnskey, hpk', hdk, hval⟩ := hbad
      rw [hpk] at hpk'
      obtain rfl := Option.some.inj hpk'
      obtain ⟨l, d, m, hinfo⟩ := kskInfoLoop_bad ext p.pub.label pk cfg.ksks _ _ hk
        ⟨k, hkm, hlab, dnskey, hdk, hval⟩
      simp only at hinfo
      exact ⟨l, d, m, hinfo, by rw [hinfo]; rfl⟩
  · simp at hp

/-! ## Every reachable state -/

inductive KmOp where
  | keygen (label : String) (alg : Nat) (size : Option Nat)
  | keydelete (label : String) (force : Bool) (answer : String)
  | inventory (dns : Bool)

/-- the label an invocation names (none for the inventory) -/
def KmOp.label : KmOp → Option String
  | .keygen l _ _ => some l
  | .keydelete l _ _ => some l
  | .inventory _ => none

/-- the store after one invocation — whatever its outcome (return value, exception at any point) -/
def KmOp.run (ext : Externals) (cfg : KmConfig) (mods : List P11Module) : KmOp → Store → Store
  | .keygen l a s, st => ((keygenP ext cfg mods a s (some l)).runSt st).2
  | .keydelete l f a, st => ((keydelP mods l f a).runSt st).2
  | .inventory d, st => ((inventoryP ext cfg mods d).runSt st).2

/-- the store after a sequence of invocations -/
def runOps (ext : Externals) (cfg : KmConfig) (mods : List P11Module) (ops : List KmOp) (st : Store) : Store :=
  ops.foldl (fun st op => op.run ext cfg mods st) st

/-- what one invocation can do to a well-formed store: nothing; remove key objects carrying ITS label; or
    add one pair under ITS label when no key object of a searched slot carried it -/
inductive Effect (mods : List P11Module) (label : Option String) (st st' : Store) : Prop
  | unchanged : st' = st → Effect mods label st st'
  | shrinks (l : String) : label = some l → Shrinks l mods st st' → Effect mods label st st'
  | generated (l path : String) (slot : Nat) (k : PoolKey) : label = some l →
      (∀ p n, (p, n) ∈ searched mods → ∀ o ∈ st.objs p n, o.label = l → ¬ isKeyClass o.cls) →
      Generated l path slot k st st' → Effect mods label st st'

theorem op_effect (ext : Externals) (cfg : KmConfig) (mods : List P11Module) (op : KmOp) (st : Store)
    (hw : st.WF) : Effect mods op.label st (op.run ext cfg mods st) := by
  cases op with
  | keygen l a s =>
    simp only [KmOp.run, KmOp.label]
    rcases keygen_store_cases ext cfg mods a s l st with h | ⟨path, slot, k, _, hnone, hgen⟩
    · exact .unchanged h
    · exact .generated l path slot k rfl hnone hgen
  | keydelete l f a =>
    simp only [KmOp.run, KmOp.label, keydelP_run]
    exact .shrinks l rfl (keyDeleteP_shrinks hw f a)
  | inventory d =>
    exact .unchanged (inventory_reads_only ext cfg mods d st)

theorem KmOp.run_wf (ext : Externals) (cfg : KmConfig) (mods : List P11Module) (op : KmOp) {st : Store}
    (hw : st.WF) : (op.run ext cfg mods st).WF := by
  cases op <;> exact runSt_wf _ hw

/-- **Well-formedness is invariant**: after any sequence of invocations handles are still unique per
    slot and below the slot's counter. -/
theorem wf_preserved (ext : Externals) (cfg : KmConfig) (mods : List P11Module) (ops : List KmOp) :
    ∀ st : Store, st.WF → (runOps ext cfg mods ops st).WF := by
  induction ops with
  | nil => intro st h; exact h
  | cons op rest ih =>
    intro st h
    exact ih _ (op.run_wf ext cfg mods h)

/-- at most one object of this label and class in the searched slots -/
def AtMostOne (mods : List P11Module) (st : Store) (label : String) (cls : Nat) : Prop :=
  ∀ p n p' n' o o', (p, n) ∈ searched mods → (p', n') ∈ searched mods → o ∈ st.objs p n → o' ∈ st.objs p' n' →
    o.named label cls → o'.named label cls → p = p' ∧ n = n' ∧ o = o'

theorem Effect.atMostOne {mods : List P11Module} {lab : Option String} {st st' : Store}
    (h : Effect mods lab st st') (label : String) (cls : Nat) (hc : isKeyClass cls)
    (ha : AtMostOne mods st label cls) : AtMostOne mods st' label cls := by
  cases h with
  | unchanged e => rw [e]; exact ha
  | shrinks l _ hs =>
    intro p n p' n' o o' hpn hpn' ho ho' hn hn'
    exact ha p n p' n' o o' hpn hpn' (hs.sub _ _ o ho) (hs.sub _ _ o' ho') hn hn'
  | generated l path slot k _ hnone hg =>
    obtain ⟨s, _, hmem⟩ := hg.mem_objs
    intro p n p' n' o o' hpn hpn' ho ho' hn hn'
    -- an object of the store before cannot share label and class with a new one: no key object carried `l`
    have hold : ∀ p n (x y : Obj), (p, n) ∈ searched mods → x ∈ st.objs p n → x.named label cls → y.named label cls →
        y.label = l → False :=
      fun p n x y hpn hx hx' hy hl => hnone p n hpn x hx (hx'.1.trans (hy.1.symm.trans hl)) (hx'.2 ▸ hc)
    rcases (hmem p n o).mp ho with h1 | ⟨rfl, rfl, h1⟩ <;> rcases (hmem p' n' o').mp ho' with h2 | ⟨rfl, rfl, h2⟩
    · exact ha p n p' n' o o' hpn hpn' h1 h2 hn hn'
    · rcases h2 with rfl | rfl <;> exact (hold p n o _ hpn h1 hn hn' rfl).elim
    · rcases h1 with rfl | rfl <;> exact (hold p' n' o' _ hpn' h2 hn' hn rfl).elim
    · rcases h1 with rfl | rfl <;> rcases h2 with rfl | rfl
      · exact ⟨rfl, rfl, rfl⟩
      · exact absurd (hn.2.trans hn'.2.symm : ckoPublic = ckoPrivate) ckoPublic_ne_ckoPrivate
      · exact absurd (hn'.2.trans hn.2.symm : ckoPublic = ckoPrivate) ckoPublic_ne_ckoPrivate
      · exact ⟨rfl, rfl, rfl⟩

/-- **No label ever gets a second key.**  Over ALL sequences of keygen / keydelete / inventory
    invocations (any labels, sizes, algorithms, answers, configurations; no bound on the length), from any
    well-formed store: a label that named at most one public (private) object in the searched slots
    still names at most one afterwards — "no label has two private objects unless it had before". -/
theorem no_second_key_ever (ext : Externals) (cfg : KmConfig) (mods : List P11Module) (ops : List KmOp)
    (label : String) (cls : Nat) (hc : isKeyClass cls) :
    ∀ st : Store, st.WF → AtMostOne mods st label cls → AtMostOne mods (runOps ext cfg mods ops st) label cls := by
  induction ops with
  | nil => intro st _ h; exact h
  | cons op rest ih =>
    intro st hw h
    have he := op_effect ext cfg mods op st hw
    exact ih _ (op.run_wf ext cfg mods hw) (he.atMostOne label cls hc h)

theorem Effect.other_label {mods : List P11Module} {lab : Option String} {st st' : Store}
    (h : Effect mods lab st st') (label : String) (hne : lab ≠ some label) (p : String) (n : Nat) (o : Obj)
    (hl : o.label = label) : o ∈ st'.objs p n ↔ o ∈ st.objs p n := by
  cases h with
  | unchanged e => rw [e]
  | shrinks l hl' hs =>
    refine ⟨hs.sub p n o, fun ho => Decidable.byContradiction fun hn => ?_⟩
    exact hne (by rw [hl', ← hl, (hs.gone p n o ho hn).1])
  | generated l path slot k hlab _ hg =>
    obtain ⟨s, _, hmem⟩ := hg.mem_objs
    have hll : l ≠ label := by intro e; exact hne (by rw [hlab, e])
    rw [hmem]
    refine ⟨fun h => h.elim id (fun h' => ?_), Or.inl⟩
    rcases h'.2.2 with rfl | rfl <;> exact absurd hl hll

/-- **Other labels are never touched.**  Over ALL sequences of invocations from a well-formed store: an
    object whose label none of the invocations names is in a slot afterwards exactly if it was before —
    nothing is clobbered, nothing appears. -/
theorem other_labels_untouched (ext : Externals) (cfg : KmConfig) (mods : List P11Module) (ops : List KmOp)
    (label : String) (hops : ∀ op ∈ ops, op.label ≠ some label) :
    ∀ st : Store, st.WF → ∀ p n o, o.label = label →
      (o ∈ (runOps ext cfg mods ops st).objs p n ↔ o ∈ st.objs p n) := by
  induction ops with
  | nil => intro st _ p n o _; exact Iff.rfl
  | cons op rest ih =>
    intro st hw p n o hl
    have he := op_effect ext cfg mods op st hw
    have h1 := ih (fun x hx => hops x (List.mem_cons_of_mem _ hx)) _ (op.run_wf ext cfg mods hw) p n o hl
    exact h1.trans (he.other_label label (hops op List.mem_cons_self) p n o hl)

/-! ## Non-vacuity: a two-slot token

Slot 0 of module "m" holds an unrelated pair `Kb` (handles 1, 2); slot 1 holds the pair `Ka` — ALSO with
handles 1 and 2 (handles are per slot).  This is the F9b layout: deleting `Ka` must go through slot 1. -/

def exKey (n : UInt8) : PoolKey := { bits := 16, e := 65537, modulus := [0x80, n], exponent := [1, 0, 1] }

def exStore : Store :=
  { slots := fun p n =>
      if p = "m" ∧ n = 0 then
        some { objects := [rsaObj 1 ckoPublic "Kb" (exKey 1), rsaObj 2 ckoPrivate "Kb" (exKey 1)], next := 3 }
      else if p = "m" ∧ n = 1 then
        some { objects := [rsaObj 1 ckoPublic "Ka" (exKey 2), rsaObj 2 ckoPrivate "Ka" (exKey 2)], next := 3 }
      else none,
    pool := [exKey 7] }

def exMods : List P11Module := [{ label := "hsm", path := "m", slots := [1, 0], sessions := [1, 0], rwSession := true }]

/-- the labels of the objects of module "m", slot by slot -/
def exView (st : Store) : List (List (Nat × String × Nat)) :=
  [0, 1].map (fun n => (st.objs "m" n).map (fun o => (o.handle, o.label, o.cls)))

-- forced deletion of `Ka`: exactly the two objects of slot 1 go, slot 0 is untouched, result `true`
example : ((keyDeleteP exMods "Ka" true "").runSt exStore).1 = .ok true ∧
    exView ((keyDeleteP exMods "Ka" true "").runSt exStore).2 = [[(1, "Kb", 2), (2, "Kb", 3)], []] := by
  decide +kernel
-- "yes" is not "Yes": nothing happens (and the result is `true`, as in the code)
example : ((keyDeleteP exMods "Ka" false "yes").runSt exStore).1 = .ok true ∧
    exView ((keyDeleteP exMods "Ka" false "yes").runSt exStore).2 = exView exStore := by
  decide +kernel
-- generation under the existing label `Ka` is refused, the store is unchanged
example : (∃ e, ((keygenGenerateP exMods 8 (some 16) (some "Ka")).runSt exStore).1 = .ok none ∨
      ((keygenGenerateP exMods 8 (some 16) (some "Ka")).runSt exStore).1 = .error e) ∧
    exView ((keygenGenerateP exMods 8 (some 16) (some "Ka")).runSt exStore).2 = exView exStore := by
  refine ⟨⟨.unsupported, Or.inl ?_⟩, ?_⟩ <;> decide +kernel
-- generation under a new label adds the pair to slot 0 (the smallest slot) at handles 3 and 4
example : exView ((keygenGenerateP exMods 8 (some 16) (some "Kc")).runSt exStore).2 =
    [[(1, "Kb", 2), (2, "Kb", 3), (3, "Kc", 2), (4, "Kc", 3)], [(1, "Ka", 2), (2, "Ka", 3)]] := by
  decide +kernel
-- the private object of `Ka`, of which `delete_true_removes_private` speaks, lies in a searched slot of this store
example : (rsaObj 2 ckoPrivate "Ka" (exKey 2)) ∈ exStore.objs "m" 1 ∧ (("m", 1) ∈ searched exMods) := by
  decide +kernel
-- a listing: a pair, an unpaired public entry (the F14 shape) and an unpaired private one
def exInfos : List KeyInfo :=
  [{ keyClass := ckoPublic, label := "Ka", pubkey := some "AwEAAYAB" },
   { keyClass := ckoPrivate, label := "Ka" },
   { keyClass := ckoPrivate, label := "Orphan" },
   { keyClass := ckoPublic, label := "Lonely", pubkey := some "AwEAAYAC" }]
example : (formatKeysStruct { hash := fun _ _ => none, verify := fun _ _ _ _ => .unknown } { ksks := [] }
      (tableOf exInfos)).toOption.map (fun L => ((pairPubs L).map (·.label), (leftover L ckoPublic).map (·.label),
        (leftover L ckoPrivate).map (·.label))) = some (["Ka"], ["Lonely"], ["Orphan"]) := by
  decide +kernel

/-! ## The keymaster's token lookups ARE the signer's token lookups

Kskm/Keymaster.lean writes `_p11_object_to_public_key`, `find_key_by_label` and `get_p11_key` as programs
(`…P`) so that they can be run against a store; Kskm/Hsm.lean has the same repository functions as `TokM`
computations, about which C15 / C04 / C01–C03 speak.  The correspondence checks tie each text to the code
(both replay the emulator's log); the two texts are tied to each other by a theorem: the oracle interpretation
`runTok` of each program EQUALS the `TokM` function — as functions of the token and the state, so result, final
operation count and final log agree for every token oracle (any fault plan) and every starting state.
(The `sessions` enumeration is not duplicated: the keymaster model reads `P11Module.sessions` as
initialised by `P11Module.init` of Kskm/Hsm.lean.)  Lemmas: KskmProofs/Lemmas/KmHsmEq.lean. -/

/-- `runTok` is a monad morphism from programs to `TokM` … -/
theorem runTok_morphism {α β} (p : Prog α) (f : α → Prog β) (a : α) (op : TokOp) (e : Fail) :
    (p >>= f).runTok = (p.runTok >>= fun x => (f x).runTok) ∧ (pure a : Prog α).runTok = (pure a : TokM α) ∧
    (Prog.fail e : Prog α).runTok = TokM.fail e ∧ (askP op).runTok = Kskm.ask op ∧
    (askOkP op).runTok = Kskm.askOk op :=
  ⟨runTok_bind p f, rfl, rfl, runTok_askP op, runTok_askOkP op⟩

/-- **… under which every lookup of kskm/misc/hsm.py that the keymaster model re-states is the `TokM`
    function of Kskm/Hsm.lean.** -/
theorem km_lookups_are_hsm_lookups :
    (∀ a, (attr1P a).runTok = attr1 a) ∧ (∀ a, (attrBytesP a).runTok = attrBytes a) ∧
    (∀ path slot handle, (p11ObjectToPublicKeyP path slot handle).runTok = p11ObjectToPublicKey path slot handle) ∧
    (∀ m label cls hh slot h pk,
      (foundKeyTailP m label cls hh slot h pk).runTok = foundKeyTail m label cls hh slot h pk) ∧
    (∀ m label cls hh slot h, (foundKeyP m label cls hh slot h).runTok = foundKey m label cls hh slot h) ∧
    (∀ m label cls hh slots, (findInSlotsP m label cls hh slots).runTok = findInSlots m label cls hh slots) ∧
    (∀ label isPublic hh mods, (getP11KeyP label isPublic hh mods).runTok = getP11Key label isPublic hh mods) :=
  ⟨runTok_attr1P, runTok_attrBytesP, runTok_p11ObjectToPublicKeyP, runTok_foundKeyTailP, runTok_foundKeyP,
    runTok_findInSlotsP, runTok_getP11KeyP⟩

/-- the same, spelled out for `get_p11_key`: for every token, state and arguments the keymaster's lookup
    returns the signer's result and leaves the signer's operation count and log -/
theorem km_getP11Key_is_hsm_getP11Key (label : String) (isPublic : Bool) (hh : Option Bool) (mods : List P11Module)
    (tok : Token) (s : TokState) :
    ((getP11KeyP label isPublic hh mods).runTok tok s).1 = (getP11Key label isPublic hh mods tok s).1 ∧
    ((getP11KeyP label isPublic hh mods).runTok tok s).2.count = (getP11Key label isPublic hh mods tok s).2.count ∧
    ((getP11KeyP label isPublic hh mods).runTok tok s).2.log = (getP11Key label isPublic hh mods tok s).2.log := by
  rw [runTok_getP11KeyP]
  exact ⟨rfl, rfl, rfl⟩

/-- … likewise `find_key_by_label` on one module and `_p11_object_to_public_key` on one object -/
theorem km_find_is_hsm_find (m : P11Module) (label : String) (cls : Nat) (hh : Option Bool) (slots : List Nat)
    (path : String) (slot handle : Nat) (tok : Token) (s : TokState) :
    (findInSlotsP m label cls hh slots).runTok tok s = findInSlots m label cls hh slots tok s ∧
    (p11ObjectToPublicKeyP path slot handle).runTok tok s = p11ObjectToPublicKey path slot handle tok s := by
  rw [runTok_findInSlotsP, runTok_p11ObjectToPublicKeyP]
  exact ⟨rfl, rfl⟩

/-- **A theorem about the `TokM` lookup is a theorem about the keymaster's** — here the operation-log
    theorem of KskmProofs/Lemmas/Hsm.lean (`getP11Key_emits`, the basis of C04/C18's "no private-key
    operation"): whatever the token answers, `get_p11_key` as the keymaster runs it issues only `findObjects`
    / `getAttr` on the listed modules, never a `C_Sign`, and the counter advances by the number of logged
    operations.  (C15's `find_first` / `find_duplicate` / `getP11Key_first_module` are carried over the same
    way at the end of KskmProofs/C15.lean, where the store-backed token of C15 is in scope.) -/
theorem km_getP11Key_reads_only (label : String) (isPublic : Bool) (hh : Option Bool) (mods : List P11Module)
    (tok : Token) (s : TokState) :
    ∃ l : List (TokOp × TokAns),
      ((getP11KeyP label isPublic hh mods).runTok tok s).2.log = l ++ s.log ∧
      ((getP11KeyP label isPublic hh mods).runTok tok s).2.count = s.count + l.length ∧
      ∀ e ∈ l, IsReadAmong mods e.1 ∧ isSignOp e.1 = false := by
  rw [runTok_getP11KeyP]
  obtain ⟨l, h1, h2, h3⟩ := getP11Key_emits label isPublic hh mods tok s
  exact ⟨l, h1, h2, fun e he => ⟨h3 e he, (h3 e he).not_sign⟩⟩

/-- non-vacuity: on the two-slot example token's module list the two texts give the same answer to a
    concrete oracle (every `findObjects` answered "one object, handle 7", every attribute read refused) -/
example :
    (getP11KeyP "Ka" true none exMods).runTok (fun _ op => match op with
      | .findObjects .. => .handles [7] | _ => .error) {} =
    getP11Key "Ka" true none exMods (fun _ op => match op with
      | .findObjects .. => .handles [7] | _ => .error) {} := by
  rw [runTok_getP11KeyP]

end Kskm.C19
