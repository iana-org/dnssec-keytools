/-
  C20 — the KSR receiver confines uploads, admits listed clients, judges like the signer.

  * `wash_*`, `path_confined`, `write_once_inside`: whatever file name the client supplies (any
    sequence of code points, lone surrogates included), the stored name consists of
    `[A-Za-z0-9_-]`, a timestamp suffix and `.xml`; the path written is the upload directory plus
    that single component.
  * `gates_before_write`: wrong content type → 400, missing size → 400, over-size → 413, each with
    an EMPTY effect log (body not read, nothing opened, nothing written).
  * `whitelist_403`, `no_certificate_no_handler`, `dispatch_callNext_iff`, `digest_never_none`:
    the middleware as written, including its `digest is None` pass-through branch, which is shown
    unreachable because `request_peercert` raises when there is no certificate.
  * `verdict_iff`, `verdict_error_iff`, `verdict_propagates`, `verdict_vs_signer`: `validate_ksr`
    answers OK exactly when the signer's KSR validation and the token-less chain validation accept,
    ERROR exactly when the `try` body raised a `PolicyViolation` — in particular on a violation of either
    (`verdict_violation_is_error`) —, and lets every other failure through uncaught.
  * `fingerprint_text`, `entry_not_lowercase_never_admits` (what
    a whitelist entry must look like to admit anybody), `loadTls_*` / `loadKsrSection_*` and the `*_current_tree`
    theorems (configuration model against the regenerated tables: `require_client_cert` has no default,
    `max_size > 0`, the defaults), `tls_cert_reqs` / `tls_requires_client_cert_current_tree` (what the TLS
    server is told), and the `POST /upload` route behind the middleware: `upload_refused_unlisted`,
    `upload_gate_failure`, `upload_page_iff`, `upload_ok_iff_signer_ok`, `upload_effects_order`,
    `upload_disk_needs_listed_and_gates`, `upload_writes_confined` (path confinement end to end, for every request).
-/
import Kskm.Wksr
import Kskm.WksrConfig
import Kskm.FileEffects
import KskmGen.Tables
import KskmProofs.Lemmas.C20Wash
import KskmProofs.Lemmas.Res
import KskmProofs.Lemmas.C17Load
import KskmProofs.C17
namespace Kskm.C20
open Kskm.Wksr

/-! ## The regular expression the scan was derived from -/

/-- the `re.sub` pattern in `wksr/server.py` is still the one `wash` mirrors (regenerated on every run) -/
theorem regex_pinned :
    ("src/kskm/wksr/server.py:re.sub#1", "[^a-zA-Z0-9_\\-]+") ∈ KskmGen.regexLiterals := by
  simp only [KskmGen.regexLiterals, List.mem_cons, true_or, or_true]

/-! ## File-name washing -/

/-- For every input, every output character is in `[A-Za-z0-9_-]`. -/
theorem wash_safe (s : List Nat) : ∀ c ∈ wash s, isSafeCp c = true := washFrom_safe s false

/-- No `/`, `\`, `.`, NUL, `:` or space survives; nor any non-ASCII code point. -/
theorem wash_no_separator (s : List Nat) :
    47 ∉ wash s ∧ 92 ∉ wash s ∧ 46 ∉ wash s ∧ 0 ∉ wash s ∧ 58 ∉ wash s ∧ 32 ∉ wash s ∧
    ∀ c ∈ wash s, c < 128 := by
  have h := wash_safe s
  refine ⟨fun m => ?_, fun m => ?_, fun m => ?_, fun m => ?_, fun m => ?_, fun m => ?_, ?_⟩
  · exact absurd (h _ m) (by decide)
  · exact absurd (h _ m) (by decide)
  · exact absurd (h _ m) (by decide)
  · exact absurd (h _ m) (by decide)
  · exact absurd (h _ m) (by decide)
  · exact absurd (h _ m) (by decide)
  · intro c hc
    have := h c hc
    simp only [isSafeCp, Bool.or_eq_true, Bool.and_eq_true, decide_eq_true_eq, beq_iff_eq] at this
    omega

theorem wash_idempotent (s : List Nat) : wash (wash s) = wash s :=
  washFrom_id_of_safe (wash s) (wash_safe s) false

theorem wash_safe_fixed (s : List Nat) (h : ∀ c ∈ s, isSafeCp c = true) : wash s = s :=
  washFrom_id_of_safe s h false

/-- **Every maximal run of unsafe characters becomes ONE underscore** — the three equations that
    determine the function reading left to right: a safe character is copied; a non-empty run of
    unsafe characters followed by a safe one yields `_` and that character; a trailing run yields `_`. -/
theorem wash_runs :
    (∀ c r, isSafeCp c = true → wash (c :: r) = c :: wash r) ∧
    (∀ u c r, u ≠ [] → (∀ x ∈ u, isSafeCp x = false) → isSafeCp c = true →
        wash (u ++ c :: r) = 95 :: c :: wash r) ∧
    (∀ u, u ≠ [] → (∀ x ∈ u, isSafeCp x = false) → wash u = [95]) := by
  refine ⟨?_, ?_, ?_⟩
  · intro c r hc; simp [wash, washFrom, hc]
  · intro u c r hne hu hc
    have : u.isEmpty = false := by cases u <;> simp_all
    simp [wash, washFrom_unsafe_run u hu (c :: r) false, washFrom, hc, this]
  · intro u hne hu
    have : u.isEmpty = false := by cases u <;> simp_all
    simpa [wash, washFrom, this] using washFrom_unsafe_run u hu [] false

/-! ## Path confinement -/

/-- the shape of `strftime("_%Y%m%d_%H%M%S_%f")`: underscores and ASCII digits -/
def SuffixShape (suffix : List Nat) : Prop := ∀ c ∈ suffix, c = 95 ∨ (48 ≤ c ∧ c ≤ 57)

/-- For every client file name, every clock string of the suffix shape and every
    upload directory: the final component `washed ++ suffix ++ ".xml"` contains no separator, is
    neither empty, `.` nor `..`, consists of `[A-Za-z0-9_-]` and the four characters of `.xml` only;
    the path is the upload directory extended by exactly that one component — its parent is the
    upload directory and it is absolute iff the upload directory is. -/
theorem path_confined (uploadDir : WPath) (filename : Option (List Nat)) (suffix : List Nat)
    (hs : SuffixShape suffix) :
    let name := wash (pyStrOpt filename) ++ suffix ++ dotXml
    let p := savePath uploadDir (wash (pyStrOpt filename)) suffix
    47 ∉ name ∧ 0 ∉ name ∧ name ≠ [] ∧ name ≠ [46] ∧ name ≠ [46, 46] ∧
    (∀ c ∈ name, isSafeCp c = true ∨ c ∈ dotXml) ∧
    p = { absolute := uploadDir.absolute, parts := uploadDir.parts ++ [name] } ∧
    p.parent = uploadDir ∧ p.name = name := by
  intro name p
  have hw := wash_safe (pyStrOpt filename)
  have hchars : ∀ c ∈ name, isSafeCp c = true ∨ c ∈ dotXml := by
    intro c hc
    simp only [name, List.mem_append] at hc
    rcases hc with (hc | hc) | hc
    · exact Or.inl (hw c hc)
    · left
      rcases hs c hc with rfl | h
      · decide
      · simp only [isSafeCp, Bool.or_eq_true, Bool.and_eq_true, decide_eq_true_eq, beq_iff_eq]; omega
    · exact Or.inr hc
  have h47 : 47 ∉ name := fun m => by
    rcases hchars 47 m with h | h
    · exact absurd h (by decide)
    · exact absurd h (by decide)
  have h0 : 0 ∉ name := fun m => by
    rcases hchars 0 m with h | h
    · exact absurd h (by decide)
    · exact absurd h (by decide)
  have hlen : 4 ≤ name.length := by simp [name, dotXml]; omega
  have hne : name ≠ [] := fun h => by rw [h] at hlen; simp at hlen
  have hdot : name ≠ [46] := fun h => by rw [h] at hlen; simp at hlen
  have hdd : name ≠ [46, 46] := fun h => by rw [h] at hlen; simp at hlen
  have hp : p = { absolute := uploadDir.absolute, parts := uploadDir.parts ++ [name] } := by
    show uploadDir.join (parsePath name) = _
    rw [parsePath_plain name h47 hne hdot]
    simp [WPath.join]
  refine ⟨h47, h0, hne, hdot, hdd, hchars, hp, ?_, ?_⟩
  · rw [hp]; simp [WPath.parent]
  · rw [hp]; simp [WPath.name]

/-! ## The gates and the single write -/

/-- Each failing gate gives its exact status with an EMPTY effect log: the
    body is not read, the clock not consulted, nothing opened, nothing written. -/
theorem gates_before_write (cfg : KsrCfg) (hashHex : Bytes → String) (suffix : List Nat) (openOk : Bool)
    (u : Upload) :
    (u.contentType ≠ some cfg.contentType →
        saveKsr cfg hashHex suffix openOk u = (.error (.http 400), [])) ∧
    (u.contentType = some cfg.contentType → u.size = none →
        saveKsr cfg hashHex suffix openOk u = (.error (.http 400), [])) ∧
    (u.contentType = some cfg.contentType → ∀ size, u.size = some size → size > cfg.maxSize →
        saveKsr cfg hashHex suffix openOk u = (.error (.http 413), [])) := by
  refine ⟨?_, ?_, ?_⟩
  · intro h; simp [saveKsr, h]
  · intro h1 h2; simp [saveKsr, h1, h2]
  · intro h1 size h2 h3; simp [saveKsr, h1, h2, h3]

/-- The outcomes of `save_ksr`: a gate refuses with its status and nothing has happened; or all three
    gates pass, the path is computed, and the body is written once or — `open` failing — not at all. -/
theorem saveKsr_cases (cfg : KsrCfg) (hashHex : Bytes → String) (suffix : List Nat) (openOk : Bool) (u : Upload) :
    (∃ c, saveKsr cfg hashHex suffix openOk u = (.error (.http c), [])) ∨
    (u.contentType = some cfg.contentType ∧ (∃ size, u.size = some size ∧ size ≤ cfg.maxSize) ∧
      saveKsr cfg hashHex suffix openOk u =
        let p := savePath cfg.uploadPath (wash (pyStrOpt u.filename)) suffix
        if openOk then (.ok (p, hashHex u.body), [.readBody, .now, .openWrite p, .write p u.body, .logSaved])
        else (.error .osError, [.readBody, .now, .openWrite p])) := by
  obtain ⟨g1, g2, g3⟩ := gates_before_write cfg hashHex suffix openOk u
  by_cases h1 : u.contentType = some cfg.contentType
  · cases h2 : u.size with
    | none => exact Or.inl ⟨_, g2 h1 h2⟩
    | some size =>
      by_cases h3 : size > cfg.maxSize
      · exact Or.inl ⟨_, g3 h1 size h2 h3⟩
      · refine Or.inr ⟨h1, ⟨size, rfl, by omega⟩, ?_⟩
        cases openOk <;> simp [saveKsr, h1, h2, h3]
  · exact Or.inl ⟨_, g1 h1⟩

/-- no effect that touches the disk, and no read of the body, unless all three gates pass -/
theorem no_disk_effect_unless_gates_pass (cfg : KsrCfg) (hashHex : Bytes → String) (suffix : List Nat)
    (openOk : Bool) (u : Upload) (e : WEffect)
    (he : e ∈ (saveKsr cfg hashHex suffix openOk u).2) :
    u.contentType = some cfg.contentType ∧ ∃ size, u.size = some size ∧ size ≤ cfg.maxSize := by
  rcases saveKsr_cases cfg hashHex suffix openOk u with ⟨c, hc⟩ | ⟨h1, h2, _⟩
  · rw [hc] at he; cases he
  · exact ⟨h1, h2⟩

/-- A successful `save_ksr` passed all three gates, issued exactly one write —
    of exactly the body, to exactly the returned path —, returns the hash of that body, and the path
    is the upload directory plus the washed, timestamped, `.xml`-terminated component. -/
theorem write_once_inside (cfg : KsrCfg) (hashHex : Bytes → String) (suffix : List Nat) (openOk : Bool)
    (u : Upload) (p : WPath) (h : String)
    (hok : (saveKsr cfg hashHex suffix openOk u).1 = .ok (p, h)) :
    u.contentType = some cfg.contentType ∧ (∃ size, u.size = some size ∧ size ≤ cfg.maxSize) ∧
    p = savePath cfg.uploadPath (wash (pyStrOpt u.filename)) suffix ∧
    h = hashHex u.body ∧
    (saveKsr cfg hashHex suffix openOk u).2 = [.readBody, .now, .openWrite p, .write p u.body, .logSaved] := by
  rcases saveKsr_cases cfg hashHex suffix openOk u with ⟨c, hc⟩ | ⟨h1, h2, heq⟩
  · rw [hc] at hok; cases hok
  · rw [heq] at hok ⊢
    cases openOk
    · cases hok
    · cases hok
      exact ⟨h1, h2, rfl, rfl, rfl⟩

theorem open_failure_writes_nothing (cfg : KsrCfg) (hashHex : Bytes → String) (suffix : List Nat) (u : Upload) :
    ∀ e ∈ (saveKsr cfg hashHex suffix false u).2, ∀ p d, e ≠ .write p d := by
  intro e he p d
  rcases saveKsr_cases cfg hashHex suffix false u with ⟨c, hc⟩ | ⟨_, _, heq⟩
  · rw [hc] at he; cases he
  · rw [heq] at he
    simp only [Bool.false_eq_true, if_false, List.mem_cons, List.not_mem_nil, or_false] at he
    rcases he with rfl | rfl | rfl <;> simp

/-! ## The whitelist -/

/-- `request_peercert_digest` on octets that parse as a certificate -/
theorem digest_der {parseOk : Bytes → Bool} (truthy : Bytes → Bool) (fp : Bytes → String) {der : Bytes}
    (hp : parseOk der = true) :
    requestPeercertDigest parseOk truthy fp (.der der) = .ok (if truthy der then some (fp der) else none) := by
  simp only [requestPeercertDigest, requestPeercert, hp, if_true]
  show (if truthy der = true then pure (some (fp der)) else pure none) = _
  cases truthy der <;> rfl

/-- the middleware on a (truthy) certificate that parses: the list decides -/
theorem dispatch_der {parseOk truthy : Bytes → Bool} (fp : Bytes → String) (whitelist : List String) {der : Bytes}
    (hp : parseOk der = true) (ht : truthy der = true) :
    dispatch parseOk truthy fp whitelist (.der der) = .ok (if fp der ∈ whitelist then .callNext else .http 403) := by
  simp only [dispatch, digest_der truthy fp hp, ht, if_true]
  by_cases hm : fp der ∈ whitelist <;> simp [hm, bind, Except.bind, pure, Except.pure]

/-- A client whose certificate parses and whose fingerprint is not on the list is
    refused with 403 — for every list, in particular the empty one. -/
theorem whitelist_403 (parseOk truthy : Bytes → Bool) (fp : Bytes → String) (whitelist : List String)
    (der : Bytes) (hp : parseOk der = true) (ht : truthy der = true) (hn : fp der ∉ whitelist) :
    dispatch parseOk truthy fp whitelist (.der der) = .ok (.http 403) := by
  rw [dispatch_der fp whitelist hp ht, if_neg hn]

/-- Without a TLS object, without a client certificate, or with
    octets that are not a certificate, the middleware ends in an exception: the request neither
    reaches the handler nor gets the `digest is None` pass-through. -/
theorem no_certificate_no_handler (parseOk truthy : Bytes → Bool) (fp : Bytes → String)
    (whitelist : List String) :
    dispatch parseOk truthy fp whitelist .noTls = err .attribute ∧
    dispatch parseOk truthy fp whitelist .noCert = err .type ∧
    (∀ der, parseOk der = false → dispatch parseOk truthy fp whitelist (.der der) = err .value) := by
  refine ⟨rfl, rfl, fun der h => ?_⟩
  simp only [dispatch, requestPeercertDigest, requestPeercert, h]
  rfl

/-- `request_peercert_digest` returns `None` only for a certificate OBJECT
    that is falsy; `x509.Certificate` defines neither `__bool__` nor `__len__` (checked on the real
    class by harness/corr_C20.py), so with `truthy = fun _ => true` the `digest is None` branch of
    `dispatch` is dead code. -/
theorem digest_never_none (parseOk : Bytes → Bool) (fp : Bytes → String) (p : Peer) :
    requestPeercertDigest parseOk (fun _ => true) fp p ≠ .ok none := by
  cases p with
  | noTls => exact nofun
  | noCert => exact nofun
  | der b =>
    cases h : parseOk b
    · simp only [requestPeercertDigest, requestPeercert, h]; exact nofun
    · rw [digest_der _ fp h]; exact nofun

/-- The request reaches the handler exactly when the client presented a
    parseable certificate whose fingerprint is on the list (certificate objects being truthy). -/
theorem dispatch_callNext_iff (parseOk : Bytes → Bool) (fp : Bytes → String) (whitelist : List String)
    (p : Peer) :
    dispatch parseOk (fun _ => true) fp whitelist p = .ok .callNext ↔
      ∃ der, p = .der der ∧ parseOk der = true ∧ fp der ∈ whitelist := by
  obtain ⟨h1, h2, h3⟩ := no_certificate_no_handler parseOk (fun _ => true) fp whitelist
  cases p with
  | noTls => simp [h1, err]
  | noCert => simp [h2, err]
  | der b =>
    cases h : parseOk b
    · simp [h3 b h, h, err]
    · by_cases hm : fp b ∈ whitelist <;> simp [dispatch_der (truthy := fun _ => true) fp whitelist h rfl, h, hm]

/-- the code AS WRITTEN would pass a falsy certificate object through unchecked (the modelled
    branch); stated so that the dependence on `bool(cert)` is visible -/
theorem dispatch_falsy_certificate_passes (parseOk : Bytes → Bool) (fp : Bytes → String)
    (whitelist : List String) (der : Bytes) (hp : parseOk der = true) :
    dispatch parseOk (fun _ => false) fp whitelist (.der der) = .ok .callNext := by
  simp only [dispatch, digest_der _ fp hp]
  rfl

/-! ## The verdict -/

/-- the `try` body of `validate_ksr` completes exactly when the upload parsed, the previous SKR (if one
    is configured) loaded, and both validations accept -/
theorem validateKsrBody_ok_iff (verify : Verifier) (now : Int) (pol : RequestPolicy)
    (prev : Option (Res Response)) (parsed : Res Request) :
    validateKsrBody verify now pol prev parsed = .ok () ↔
      ∃ ksr, parsed = .ok ksr ∧ validateRequest verify now ksr pol = .ok () ∧
        (prev = none ∨ ∃ skr, prev = some (.ok skr) ∧ checkSkrAndKsr ksr skr pol none = .ok ()) := by
  unfold validateKsrBody
  rcases prev with _ | e | skr <;> simp only [res_ok] <;> simp

/-- `validate_ksr` reports OK exactly when the configuration loaded, the previous
    SKR (if one is configured) loaded, the upload parsed, the signer's `validate_request` accepts
    under the configured policy, and — with a previous SKR — the token-less `check_skr_and_ksr`
    accepts. -/
theorem verdict_iff (verify : Verifier) (now : Int) (cfg : Res RequestPolicy)
    (prev : Option (Res Response)) (parsed : Res Request) :
    validateKsr verify now cfg prev parsed = .ok .OK ↔
      ∃ pol ksr, cfg = .ok pol ∧ parsed = .ok ksr ∧
        validateRequest verify now ksr pol = .ok () ∧
        (prev = none ∨ ∃ skr, prev = some (.ok skr) ∧ checkSkrAndKsr ksr skr pol none = .ok ()) := by
  unfold validateKsr
  cases cfg with
  | error e => simp
  | ok pol =>
    simp only [Except.ok.injEq, exists_and_left, exists_eq_left', ← validateKsrBody_ok_iff]
    cases hb : validateKsrBody verify now pol prev parsed with
    | ok u => simp
    | error e => cases e <;> simp

/-- ERROR exactly when the configuration loaded and the `try` body ended in a
    policy violation (of any rule). -/
theorem verdict_error_iff (verify : Verifier) (now : Int) (cfg : Res RequestPolicy)
    (prev : Option (Res Response)) (parsed : Res Request) :
    validateKsr verify now cfg prev parsed = .ok .ERROR ↔
      ∃ pol r, cfg = .ok pol ∧ validateKsrBody verify now pol prev parsed = .error (.violation r) := by
  unfold validateKsr
  cases cfg with
  | error e => simp
  | ok pol =>
    cases hb : validateKsrBody verify now pol prev parsed with
    | ok u => cases u; simp [hb]
    | error e => cases e <;> simp [hb]

/-- **A violation of the signer's KSR rules, or of the chain rules, is reported as ERROR** (when the
    files involved loaded at all). -/
theorem verdict_violation_is_error (verify : Verifier) (now : Int) (pol : RequestPolicy)
    (ksr : Request) (r : Rule) :
    (∀ prev, (prev = none ∨ ∃ skr, prev = some (.ok skr)) →
      validateRequest verify now ksr pol = .error (.violation r) →
      validateKsr verify now (.ok pol) prev (.ok ksr) = .ok .ERROR) ∧
    (∀ skr, validateRequest verify now ksr pol = .ok () →
      checkSkrAndKsr ksr skr pol none = .error (.violation r) →
      validateKsr verify now (.ok pol) (some (.ok skr)) (.ok ksr) = .ok .ERROR) := by
  refine ⟨?_, ?_⟩
  · intro prev hprev hv
    rcases hprev with rfl | ⟨skr, rfl⟩ <;>
      simp [validateKsr, validateKsrBody, hv, bind, Except.bind, pure, Except.pure]
  · intro skr hv hc
    simp [validateKsr, validateKsrBody, hv, hc, bind, Except.bind, pure, Except.pure]

/-- Nothing but `PolicyViolation` is caught: a configuration that does not
    load, and any non-policy failure inside the `try` (unreadable or unparsable file, over-size
    file, `RuntimeError` from `load_skr`, …) leave `validate_ksr` as that same failure. -/
theorem verdict_propagates (verify : Verifier) (now : Int) (prev : Option (Res Response))
    (parsed : Res Request) :
    (∀ e, validateKsr verify now (.error e) prev parsed = .error e) ∧
    (∀ pol k, validateKsrBody verify now pol prev parsed = .error (.error k) →
        validateKsr verify now (.ok pol) prev parsed = .error (.error k)) ∧
    (∀ pol, validateKsrBody verify now pol prev parsed = .error .unsupported →
        validateKsr verify now (.ok pol) prev parsed = .error .unsupported) := by
  refine ⟨fun e => rfl, ?_, ?_⟩
  · intro pol k h; simp [validateKsr, h]
  · intro pol h; simp [validateKsr, h]

/-- **An invalid previous SKR is NOT reported as ERROR.** `load_skr` turns the SKR's policy
    violations into `RuntimeError` before `validate_ksr`'s `except PolicyViolation` can see them:
    whatever `load_skr` fails with leaves `validate_ksr` uncaught (the model of `load_skr` is
    `Kskm.loadSkr`; `hparse`: the XML parser itself raises no `PolicyViolation`). -/
theorem previous_skr_failure_propagates (verify : Verifier) (now : Int) (pol : RequestPolicy)
    (parsed : Res Request)
    (maxSize : Nat) (hash : Bytes → Bytes) (parse : Bytes → Res Response) (validate : Response → Res Unit)
    (path : String) (content : Nat → Bytes) (t0 : Nat)
    (hparse : ∀ b r, parse b ≠ .error (.violation r)) (e : Fail)
    (hfail : (loadSkr maxSize hash parse validate path content t0).1 = .error e) :
    validateKsr verify now (.ok pol) (some (loadSkr maxSize hash parse validate path content t0).1) parsed
      = .error e := by
  have hnv := C17.loadSkr_no_violation maxSize hash parse validate path content t0 hparse
  rw [hfail] at hnv ⊢
  cases e with
  | violation r => exact absurd rfl (hnv r)
  | error k => simp [validateKsr, validateKsrBody, bind, Except.bind]
  | unsupported => simp [validateKsr, validateKsrBody, bind, Except.bind]

/-- The signer runs the same `check_skr_and_ksr` WITH its token; that accepts
    exactly when the token-less run accepts and the extra "SKR(n-1) keys are in the HSM" check does.
    So everything the signer accepts the receiver reports OK, and a KSR reported OK can only be
    refused by the signer's chain check on account of the HSM content. -/
theorem verdict_vs_signer (ksr : Request) (skr : Response) (pol : RequestPolicy) (tok : TokenLookup) :
    checkSkrAndKsr ksr skr pol (some tok) = .ok () ↔
      checkSkrAndKsr ksr skr pol none = .ok () ∧ checkLastSkrKeyPresent skr pol (some tok) = .ok () := by
  unfold checkSkrAndKsr
  simp only [seq_ok_iff, checkLastSkrKeyPresent, and_assoc]
  constructor
  · rintro ⟨h1, h2, h3, h4, h5⟩
    exact ⟨h1, h2, h3, h4, rfl, h5⟩
  · rintro ⟨h1, h2, h3, h4, _, h5⟩
    exact ⟨h1, h2, h3, h4, h5⟩

/-! ## The fingerprint text and what a whitelist entry must look like -/

/-- `request_peercert_digest` yields two characters of `0-9a-f` per digest octet —
    lower-case, no separators — and two certificates get the same text only with the same digest. -/
theorem fingerprint_text (sha : Bytes → Bytes) (der : Bytes) :
    (fingerprintHex sha der).toList.length = 2 * (sha der).length ∧
    (∀ c ∈ (fingerprintHex sha der).toList, ('0' ≤ c ∧ c ≤ '9') ∨ ('a' ≤ c ∧ c ≤ 'f')) ∧
    (∀ der', fingerprintHex sha der = fingerprintHex sha der' → sha der = sha der') := by
  have h := C17.hex_layout (sha der)
  refine ⟨by simpa [fingerprintHex] using h.1, by simpa [fingerprintHex] using h.2, ?_⟩
  intro der' he
  apply C17.hex_injective
  simpa [fingerprintHex, String.ofList_inj] using he

/-- The whitelist is compared as TEXT: an entry with any character
    outside `0-9a-f` (an upper-case digit — which the configuration model accepts —, a colon, a blank)
    equals no fingerprint, so it admits nobody. -/
theorem entry_not_lowercase_never_admits (sha : Bytes → Bytes) (der : Bytes) (entry : String)
    (h : ∃ c ∈ entry.toList, ¬ (('0' ≤ c ∧ c ≤ '9') ∨ ('a' ≤ c ∧ c ≤ 'f'))) :
    fingerprintHex sha der ≠ entry := by
  intro he
  obtain ⟨c, hc, hn⟩ := h
  rw [← he] at hc
  exact hn ((fingerprint_text sha der).2.1 c hc)

example : isHexDigestString "AB12" = true ∧ (∃ c ∈ "AB12".toList, ¬ (('0' ≤ c ∧ c ≤ '9') ∨ ('a' ≤ c ∧ c ≤ 'f'))) :=
  ⟨by decide, 'A', by decide, by decide⟩
example : fingerprintHex (fun _ => [0xE5, 0x82, 0x0A]) [1] = "e5820a" := by decide +kernel

/-! ## The configuration model (config_wksr.py) -/

/-- the defaults of the CURRENT tree (regenerated on every run) -/
def currentDefaults : WksrDefaults :=
  { ciphers := KskmGen.wksrCiphersDefault, requireClientCert := KskmGen.wksrRequireClientCertDefault,
    clientWhitelist := KskmGen.wksrClientWhitelistDefault, maxSize := KskmGen.wksrMaxSizeDefault,
    maxSizeGt := KskmGen.wksrMaxSizeGt, contentType := KskmGen.wksrContentTypeDefault,
    uploadPath := KskmGen.wksrUploadPathDefault.toList.map Char.toNat }

/-- the pattern `isHexDigestString` was derived from is still the one of the whitelist entries -/
theorem whitelist_pattern_pinned : KskmGen.wksrWhitelistPattern = "^[0-9a-fA-F]+$" := rfl

/-- the keys without a default, per model, as regenerated: in particular `require_client_cert` -/
theorem required_keys_current_tree :
    (KskmGen.wksrFields.filter (fun r => r.2.2.1)).map (fun r => (r.1, r.2.1)) =
      [("WKSR_Config", "tls"), ("WKSR_Config", "ksr"), ("WKSR_Config", "templates"),
       ("WKSR_TLS", "cert"), ("WKSR_TLS", "key"), ("WKSR_TLS", "ca_cert"), ("WKSR_TLS", "require_client_cert"),
       ("WKSR_Templates", "upload"), ("WKSR_Templates", "result"), ("WKSR_Templates", "email"),
       ("WKSR_Notify", "from"), ("WKSR_Notify", "to"), ("WKSR_Notify", "subject"), ("WKSR_Notify", "smtp_server")] :=
  rfl

/-- The `tls:` section loads exactly when the three files exist, `require_client_cert`
    is given (or defaulted, where a default exists) and every GIVEN whitelist entry is a non-empty string
    of hex digits; the loaded object then holds the given values, defaults elsewhere. -/
theorem loadTls_ok_iff (dflt : WksrDefaults) (d : TlsDoc) (c : TlsCfg) :
    loadTls dflt d = .ok c ↔
      d.cert = .present true ∧ d.key = .present true ∧ d.caCert = .present true ∧
      (d.requireClientCert.orElse fun _ => dflt.requireClientCert) = some c.requireClientCert ∧
      (∀ l, d.clientWhitelist = some l → ∀ s ∈ l, isHexDigestString s = true) ∧
      c.ciphers = d.ciphers.getD dflt.ciphers ∧
      c.clientWhitelist = d.clientWhitelist.getD dflt.clientWhitelist := by
  have hok : ∀ k : FileKey, k.ok = true ↔ k = .present true := by
    rintro (_ | _ | _) <;> simp [FileKey.ok]
  unfold loadTls
  rw [ite_err_iff]
  cases d.requireClientCert.orElse fun _ => dflt.requireClientCert with
  | none => simp [err]
  | some r =>
    simp only [ite_err_iff]
    obtain ⟨ci, rc, wl⟩ := c
    cases d.clientWhitelist <;>
      simp [pure, Except.pure, hok, and_assoc, and_left_comm, eq_comm (a := r), eq_comm (b := TlsCfg.mk ci rc wl)]

/-- The `ksr:` section loads exactly when a GIVEN `max_size` exceeds the bound
    and a given `ksrsigner_configfile` exists. -/
theorem loadKsrSection_ok_iff (dflt : WksrDefaults) (d : KsrDoc) (s : KsrSection) :
    loadKsrSection dflt d = .ok s ↔
      (∀ m, d.maxSize = some m → m > dflt.maxSizeGt) ∧ d.ksrsignerConfigfile ≠ .present false ∧
      s = { maxSize := d.maxSize.getD dflt.maxSize, contentType := d.contentType.getD dflt.contentType,
            uploadPath := d.uploadPath.getD dflt.uploadPath,
            hasSignerConfig := d.ksrsignerConfigfile == .present true } := by
  unfold loadKsrSection
  rw [ite_err_iff, ite_err_iff, eq_comm (a := s)]
  cases d.maxSize <;> simp [pure, Except.pure]

/-- Under the defaults of the current tree: a document that does not say
    `require_client_cert` is refused; every loaded whitelist consists of hex strings; every loaded size
    limit is positive, and an unset one is 1 MiB; the content type defaults to `application/xml` and the
    upload directory to the relative path `upload`. -/
theorem config_current_tree :
    (∀ d, d.requireClientCert = none → loadTls currentDefaults d = err .validation) ∧
    (∀ d c, loadTls currentDefaults d = .ok c →
        d.requireClientCert = some c.requireClientCert ∧ ∀ s ∈ c.clientWhitelist, isHexDigestString s = true) ∧
    (∀ d s, loadKsrSection currentDefaults d = .ok s → s.maxSize > 0) ∧
    (∀ d s, loadKsrSection currentDefaults d = .ok s → d.maxSize = none → s.maxSize = 1048576) ∧
    currentDefaults.contentType = "application/xml" ∧
    parsePath currentDefaults.uploadPath = { absolute := false, parts := [[117, 112, 108, 111, 97, 100]] } := by
  refine ⟨?_, ?_, ?_, ?_, by decide, by decide +kernel⟩
  · intro d h
    unfold loadTls
    rw [h]
    simp [currentDefaults, KskmGen.wksrRequireClientCertDefault, err]
  · intro d c h
    obtain ⟨_, _, _, hr, hw, _, hc⟩ := (loadTls_ok_iff _ _ _).mp h
    constructor
    · cases hd : d.requireClientCert with
      | none => rw [hd] at hr; simp [currentDefaults, KskmGen.wksrRequireClientCertDefault] at hr
      | some r => rw [hd] at hr; simpa using hr
    · intro s hs
      rw [hc] at hs
      cases hd : d.clientWhitelist with
      | none => rw [hd] at hs; simp [currentDefaults, KskmGen.wksrClientWhitelistDefault] at hs
      | some l => rw [hd] at hs; exact hw l hd s (by simpa using hs)
  · intro d s h
    obtain ⟨hm, _, rfl⟩ := (loadKsrSection_ok_iff _ _ _).mp h
    cases hd : d.maxSize with
    | none => simp [currentDefaults, KskmGen.wksrMaxSizeDefault]
    | some m =>
      have := hm m hd
      simp only [currentDefaults, KskmGen.wksrMaxSizeGt] at this
      simpa using this
  · intro d s h hn
    obtain ⟨_, _, rfl⟩ := (loadKsrSection_ok_iff _ _ _).mp h
    simp [hn, currentDefaults, KskmGen.wksrMaxSizeDefault]

/-! ## What the TLS server is told (tools/wksr.py) -/

/-- For every configuration: the server is told `CERT_REQUIRED` exactly when
    `require_client_cert` is true, `CERT_OPTIONAL` exactly when it is false, and never `CERT_NONE`; the
    cipher string is the configured list joined by colons. -/
theorem tls_cert_reqs (tls : TlsCfg) (host : String) (port : Int) (debug : Bool) :
    ((serverArgs tls host port debug).sslCertReqs = .certRequired ↔ tls.requireClientCert = true) ∧
    ((serverArgs tls host port debug).sslCertReqs = .certOptional ↔ tls.requireClientCert = false) ∧
    (serverArgs tls host port debug).sslCertReqs ≠ .certNone ∧
    (serverArgs tls host port debug).sslCiphers = joinColon tls.ciphers := by
  cases h : tls.requireClientCert <;> simp [serverArgs, certReqsOf, h]

/-- In the tree in /repo (tables regenerated by reading
    tools/wksr.py and by EXECUTING its `main()` with a recording `uvicorn.run`): `ssl_cert_reqs` is the
    expression `certReqsOf` mirrors and is what `uvicorn.run` receives: CERT_REQUIRED for `true`,
    CERT_OPTIONAL for `false`, and no server is started for a document without the key; the whitelist middleware
    is installed.  Client verification CAN be configured down to OPTIONAL — never to NONE — but not by
    omission; see `optional_tls_still_needs_certificate` for what OPTIONAL then admits. -/
theorem tls_requires_client_cert_current_tree :
    KskmGen.wksrCertReqsExpr = "ssl.CERT_REQUIRED if app.config.tls.require_client_cert else ssl.CERT_OPTIONAL" ∧
    ("ssl_cert_reqs", "ssl_cert_reqs") ∈ KskmGen.wksrUvicornKeywords ∧
    ("ssl_ciphers", "':'.join(app.config.tls.ciphers)") ∈ KskmGen.wksrUvicornKeywords ∧
    ("ssl_ca_certs", "str(app.config.tls.ca_cert)") ∈ KskmGen.wksrUvicornKeywords ∧
    KskmGen.wksrCertReqsObserved =
      [("true", some (certReqsOf true).toNat), ("false", some (certReqsOf false).toNat), ("absent", none)] ∧
    KskmGen.sslVerifyModes =
      [("CERT_NONE", CertReqs.certNone.toNat), ("CERT_OPTIONAL", CertReqs.certOptional.toNat),
       ("CERT_REQUIRED", CertReqs.certRequired.toNat)] ∧
    KskmGen.wksrRequireClientCertDefault = none ∧
    KskmGen.wksrMiddleware = ["ClientCertificateWhitelist"] := by
  refine ⟨rfl, ?_, ?_, ?_, rfl, rfl, rfl, rfl⟩ <;>
    simp only [KskmGen.wksrUvicornKeywords, List.mem_cons, true_or, or_true]

/-! ## `POST /upload` behind the whitelist middleware -/

/-- the client presented a parseable certificate whose fingerprint is on the list -/
def Listed (parseOk : Bytes → Bool) (fp : Bytes → String) (whitelist : List String) (peer : Peer) : Prop :=
  ∃ der, peer = .der der ∧ parseOk der = true ∧ fp der ∈ whitelist

/-- a whitelist none of whose entries is lower-case hex (e.g. fingerprints pasted in upper case or with
    colons — both of which a configuration may hold only in part: colons are refused, upper case is
    accepted) lists NOBODY: every client is refused -/
theorem non_lowercase_whitelist_lists_nobody (sha : Bytes → Bytes) (parseOk : Bytes → Bool) (whitelist : List String)
    (h : ∀ e ∈ whitelist, ∃ c ∈ e.toList, ¬ (('0' ≤ c ∧ c ≤ '9') ∨ ('a' ≤ c ∧ c ≤ 'f'))) (peer : Peer) :
    ¬ Listed parseOk (fingerprintHex sha) whitelist peer := by
  rintro ⟨der, rfl, _, hm⟩
  exact entry_not_lowercase_never_admits sha der _ (h _ hm) rfl

/-- a listed client's request is the route's business, with the digest the middleware saw -/
theorem handleUpload_listed {parseOk : Bytes → Bool} {fp : Bytes → String} {whitelist : List String} {cfg : KsrCfg}
    {hashHex : Bytes → String} {suffix : List Nat} {openOk : Bool} {validate : WPath → Res KsrStatus}
    {smtp : Option String} {mailOk : Bool} {der : Bytes} (hp : parseOk der = true) (hm : fp der ∈ whitelist)
    (u : Upload) :
    handleUpload parseOk (fun _ => true) fp whitelist (.der der) cfg hashHex suffix openOk validate smtp mailOk u =
      uploadPost cfg hashHex suffix openOk validate (.ok (some (fp der))) smtp mailOk u := by
  simp only [handleUpload, dispatch_der (truthy := fun _ => true) fp whitelist hp rfl, if_pos hm, digest_der _ fp hp, if_true]

section Route
variable (parseOk : Bytes → Bool) (fp : Bytes → String) (whitelist : List String) (cfg : KsrCfg)
  (hashHex : Bytes → String) (suffix : List Nat) (openOk : Bool) (validate : WPath → Res KsrStatus)
  (smtp : Option String) (mailOk : Bool)

/-- For EVERY request (any file name, size, content type, body) of a client
    that is not listed — no TLS object, no certificate, octets that are no certificate, a certificate
    whose fingerprint is not on the list — the effect log is EMPTY: the body is not read, nothing is
    written, nothing validated, no mail, no page; a parseable certificate is answered 403, the others end
    in an exception.  (The whitelist comes before every gate of `save_ksr`.) -/
theorem upload_refused_unlisted (peer : Peer) (u : Upload) (h : ¬ Listed parseOk fp whitelist peer) :
    (handleUpload parseOk (fun _ => true) fp whitelist peer cfg hashHex suffix openOk validate smtp mailOk u).2 = [] ∧
    ((∃ der, peer = .der der ∧ parseOk der = true) →
      (handleUpload parseOk (fun _ => true) fp whitelist peer cfg hashHex suffix openOk validate smtp mailOk u).1
        = .http 403) ∧
    ((¬ ∃ der, peer = .der der ∧ parseOk der = true) →
      ∃ k, (handleUpload parseOk (fun _ => true) fp whitelist peer cfg hashHex suffix openOk validate smtp mailOk u).1
        = .exception (.error k)) := by
  obtain ⟨h1, h2, h3⟩ := no_certificate_no_handler parseOk (fun _ => true) fp whitelist
  cases peer with
  | noTls => simp [handleUpload, h1, err]
  | noCert => simp [handleUpload, h2, err]
  | der b =>
    cases hp : parseOk b
    · simp [handleUpload, h3 b hp, hp, err]
    · have hm : fp b ∉ whitelist := fun hm => h ⟨b, rfl, hp, hm⟩
      simp [handleUpload, dispatch_der (truthy := fun _ => true) fp whitelist hp rfl, hp, hm]

/-- Whatever `require_client_cert` says: a client that presents
    no certificate (possible under CERT_OPTIONAL) never reaches the route — the middleware ends in a
    `TypeError`, with an empty effect log. -/
theorem optional_tls_still_needs_certificate (truthy : Bytes → Bool) (u : Upload) :
    handleUpload parseOk truthy fp whitelist .noCert cfg hashHex suffix openOk validate smtp mailOk u =
      (.exception (.error .type), []) := rfl

/-- For a listed client: wrong content type → 400, no size → 400, over-size → 413,
    each with an EMPTY effect log (body unread, nothing written, nothing validated, no mail). -/
theorem upload_gate_failure (der : Bytes) (hp : parseOk der = true) (hm : fp der ∈ whitelist) (u : Upload) :
    (u.contentType ≠ some cfg.contentType →
      handleUpload parseOk (fun _ => true) fp whitelist (.der der) cfg hashHex suffix openOk validate smtp mailOk u
        = (.http 400, [])) ∧
    (u.contentType = some cfg.contentType → u.size = none →
      handleUpload parseOk (fun _ => true) fp whitelist (.der der) cfg hashHex suffix openOk validate smtp mailOk u
        = (.http 400, [])) ∧
    (u.contentType = some cfg.contentType → ∀ size, u.size = some size → size > cfg.maxSize →
      handleUpload parseOk (fun _ => true) fp whitelist (.der der) cfg hashHex suffix openOk validate smtp mailOk u
        = (.http 413, [])) := by
  obtain ⟨g1, g2, g3⟩ := gates_before_write cfg hashHex suffix openOk u
  rw [handleUpload_listed hp hm u]
  refine ⟨fun h => ?_, fun h1 h2 => ?_, fun h1 size h2 h3 => ?_⟩
  · simp [uploadPost, g1 h]
  · simp [uploadPost, g2 h1 h2]
  · simp [uploadPost, g3 h1 size h2 h3]

/-- the route itself shows the page exactly when the upload was stored, `validate_ksr` on the stored path
    returned, the digest could be asked for again, and a configured notification went through -/
theorem uploadPost_page_iff (dgr : Res (Option String)) (u : Upload) (st : KsrStatus) (p : WPath) (h : String)
    (dg : Option String) :
    (uploadPost cfg hashHex suffix openOk validate dgr smtp mailOk u).1 = .page st p h dg ↔
      (saveKsr cfg hashHex suffix openOk u).1 = .ok (p, h) ∧ validate p = .ok st ∧ dgr = .ok dg ∧
      (notifyActive smtp = true → mailOk = true) := by
  unfold uploadPost
  rcases saveKsr cfg hashHex suffix openOk u with ⟨e | ⟨p', h'⟩, effs⟩
  · cases e <;> simp
  · by_cases hp : p' = p
    · subst hp
      cases hv : validate p' <;> cases dgr <;> cases hn : notifyActive smtp <;> cases mailOk <;> simp [hv, and_left_comm]
    · cases hv : validate p' <;> cases dgr <;> cases hn : notifyActive smtp <;> cases mailOk <;> simp [hv, hp]

/-- The result page with status `st`, stored path `p`, hash `h` and client digest `dg`
    is produced exactly when: the client is listed, `save_ksr` stored the upload at `p` with hash `h`,
    `validate_ksr` ON THAT PATH returned `st`, `dg` is the client's fingerprint, and the notification (if
    one is configured) went through. -/
theorem upload_page_iff (peer : Peer) (u : Upload) (st : KsrStatus) (p : WPath) (h : String) (dg : Option String) :
    (handleUpload parseOk (fun _ => true) fp whitelist peer cfg hashHex suffix openOk validate smtp mailOk u).1
        = .page st p h dg ↔
      Listed parseOk fp whitelist peer ∧ (saveKsr cfg hashHex suffix openOk u).1 = .ok (p, h) ∧
      validate p = .ok st ∧ (∃ der, peer = .der der ∧ dg = some (fp der)) ∧
      (notifyActive smtp = true → mailOk = true) := by
  by_cases hl : Listed parseOk fp whitelist peer
  · obtain ⟨der, rfl, hp, hm⟩ := hl
    rw [handleUpload_listed hp hm u, uploadPost_page_iff]
    simp [Listed, hp, hm]
    exact fun _ _ _ => eq_comm
  · have hr := (upload_refused_unlisted parseOk fp whitelist cfg hashHex suffix openOk validate smtp mailOk peer u hl)
    constructor
    · intro hx
      by_cases hd : ∃ der, peer = .der der ∧ parseOk der = true
      · rw [hr.2.1 hd] at hx; cases hx
      · obtain ⟨k, hk⟩ := hr.2.2 hd; rw [hk] at hx; cases hx
    · rintro ⟨hl', _⟩; exact absurd hl' hl

/-- End to end, with `validate_ksr` in the route: the client is shown `OK`
    exactly when it is listed, the upload passed the gates and was stored, and the signer's own checks
    accept the stored KSR: the ksrsigner configuration loaded, the file parsed, `validate_request` accepts
    under the configured policy and — with a previous SKR — the token-less `check_skr_and_ksr` accepts
    (and a configured notification went through). -/
theorem upload_ok_iff_signer_ok (verify : Verifier) (now : Int) (scfg : Res RequestPolicy)
    (prev : Option (Res Response)) (parsed : WPath → Res Request)
    (peer : Peer) (u : Upload) (p : WPath) (h : String) (dg : Option String) :
    (handleUpload parseOk (fun _ => true) fp whitelist peer cfg hashHex suffix openOk
        (fun q => validateKsr verify now scfg prev (parsed q)) smtp mailOk u).1 = .page .OK p h dg ↔
      Listed parseOk fp whitelist peer ∧ (saveKsr cfg hashHex suffix openOk u).1 = .ok (p, h) ∧
      (∃ pol ksr, scfg = .ok pol ∧ parsed p = .ok ksr ∧ validateRequest verify now ksr pol = .ok () ∧
        (prev = none ∨ ∃ skr, prev = some (.ok skr) ∧ checkSkrAndKsr ksr skr pol none = .ok ())) ∧
      (∃ der, peer = .der der ∧ dg = some (fp der)) ∧ (notifyActive smtp = true → mailOk = true) := by
  rw [upload_page_iff, verdict_iff]

/-- When `save_ksr` stored the upload, the effect log of the request is: read
    the body, the clock, open `p`, write the body to `p`, log; then `validate_ksr` on THE SAME `p`; then
    — whatever the verdict — at most the mail and the page.  So what is judged is what was stored, and it
    was stored before it was judged: an upload that is then reported `ERROR`, or whose validation raises,
    stays in the upload directory. -/
theorem upload_effects_order (der : Bytes) (hp : parseOk der = true) (hm : fp der ∈ whitelist) (u : Upload)
    (p : WPath) (h : String) (hs : (saveKsr cfg hashHex suffix openOk u).1 = .ok (p, h)) :
    ∃ tail, (handleUpload parseOk (fun _ => true) fp whitelist (.der der) cfg hashHex suffix openOk validate smtp
        mailOk u).2 =
      [.save .readBody, .save .now, .save (.openWrite p), .save (.write p u.body), .save .logSaved, .validate p]
        ++ tail ∧
      (tail = [] ∨ tail = [.mail] ∨ tail = [.mail, .respond] ∨ tail = [.respond]) := by
  rw [handleUpload_listed hp hm u]
  obtain ⟨_, _, _, _, he⟩ := write_once_inside cfg hashHex suffix openOk u p h hs
  unfold uploadPost
  rcases hs' : saveKsr cfg hashHex suffix openOk u with ⟨r, effs⟩
  rw [hs'] at hs he
  simp only at hs he
  subst hs he
  cases hv : validate p with
  | error f => exact ⟨[], by simp [hv], Or.inl rfl⟩
  | ok st =>
    cases hn : notifyActive smtp <;> cases mailOk
    · exact ⟨[.respond], by simp [hv], by simp⟩
    · exact ⟨[.respond], by simp [hv], by simp⟩
    · exact ⟨[.mail], by simp [hv], by simp⟩
    · exact ⟨[.mail, .respond], by simp [hv], by simp⟩

/-- Any effect of a request that touches the disk implies a listed
    client and an upload that passed all three gates. -/
theorem upload_disk_needs_listed_and_gates (peer : Peer) (u : Upload) (e : RouteEffect)
    (he : e ∈ (handleUpload parseOk (fun _ => true) fp whitelist peer cfg hashHex suffix openOk validate smtp
      mailOk u).2) :
    Listed parseOk fp whitelist peer ∧ u.contentType = some cfg.contentType ∧
      ∃ size, u.size = some size ∧ size ≤ cfg.maxSize := by
  by_cases hl : Listed parseOk fp whitelist peer
  · refine ⟨hl, ?_⟩
    obtain ⟨der, rfl, hp, hm⟩ := hl
    rw [handleUpload_listed hp hm u] at he
    rcases saveKsr_cases cfg hashHex suffix openOk u with ⟨c, hc⟩ | ⟨h1, h2, _⟩
    · simp [uploadPost, hc] at he
    · exact ⟨h1, h2⟩
  · rw [(upload_refused_unlisted parseOk fp whitelist cfg hashHex suffix openOk validate smtp mailOk peer u hl).1] at he
    cases he

/-- End to end, for EVERY request (any peer, file name, size, content type,
    body) and every clock string of the suffix shape: whatever the request writes, it writes the body, to
    the upload directory extended by exactly one component — the washed name + timestamp + `.xml`, which
    contains no separator. -/
theorem upload_writes_confined (peer : Peer) (u : Upload) (p : WPath) (data : Bytes) (hsfx : SuffixShape suffix)
    (he : RouteEffect.save (.write p data) ∈ (handleUpload parseOk (fun _ => true) fp whitelist peer cfg hashHex
      suffix openOk validate smtp mailOk u).2) :
    data = u.body ∧ p.parent = cfg.uploadPath ∧
      p.name = wash (pyStrOpt u.filename) ++ suffix ++ dotXml ∧ 47 ∉ p.name ∧ 0 ∉ p.name ∧
      p.name ≠ [46, 46] := by
  have hc := path_confined cfg.uploadPath u.filename suffix hsfx
  simp only at hc
  obtain ⟨c47, c0, _, _, cdd, _, _, cpar, cname⟩ := hc
  obtain ⟨⟨der, rfl, hp, hm⟩, _⟩ :=
    upload_disk_needs_listed_and_gates parseOk fp whitelist cfg hashHex suffix openOk validate smtp mailOk peer u _ he
  rcases saveKsr_cases cfg hashHex suffix openOk u with ⟨c, hc⟩ | ⟨_, _, hs⟩
  · simp [handleUpload_listed hp hm, uploadPost, hc] at he
  cases openOk with
  | false => simp [handleUpload_listed hp hm, uploadPost, hs] at he
  | true =>
    obtain ⟨tail, heq, htail⟩ :=
      upload_effects_order parseOk fp whitelist cfg hashHex suffix true validate smtp mailOk der hp hm u _ _
        (by rw [hs]; rfl)
    rw [heq] at he
    have : p = savePath cfg.uploadPath (wash (pyStrOpt u.filename)) suffix ∧ data = u.body := by
      rcases htail with rfl | rfl | rfl | rfl <;> simpa using he
    obtain ⟨rfl, rfl⟩ := this
    exact ⟨rfl, cpar, cname, by rw [cname]; exact c47, by rw [cname]; exact c0, by rw [cname]; exact cdd⟩

end Route

/-! ## Non-vacuity -/

/-- `../../etc/passwd`, a NUL, a non-BMP code point and a lone surrogate -/
example : wash [46, 46, 47, 46, 46, 47, 101, 116, 99, 47, 112, 97, 115, 115, 119, 100, 0, 0x1F600, 0xD800, 120]
    = [95, 101, 116, 99, 95, 112, 97, 115, 115, 119, 100, 95, 120] := by decide
example : wash [] = [] ∧ wash [47, 47, 47] = [95] ∧ wash [0xFF11, 0x0661] = [95] := by decide
/-- `_20260926_120000_000001` has the suffix shape -/
example : SuffixShape [95, 50, 48, 50, 54, 48, 57, 50, 54, 95, 49, 50, 48, 48, 48, 48, 95, 48, 48, 48, 48, 48, 49] := by
  unfold SuffixShape; decide
/-- the default `upload_path: upload` and a hostile name -/
example : (savePath (parsePath [117, 112, 108, 111, 97, 100]) (wash [46, 46, 47, 120]) [95, 49]).render
    = [117, 112, 108, 111, 97, 100, 47, 95, 120, 95, 49, 46, 120, 109, 108] := by decide
/-- what pathlib would do WITHOUT washing: `..` is kept, an absolute name replaces the directory —
    so the confinement does rest on `wash` -/
example : ((parsePath [117, 112]).join (parsePath [46, 46, 47, 120])).parts = [[117, 112], [46, 46], [120]] ∧
    ((parsePath [117, 112]).join (parsePath [47, 120])) = { absolute := true, parts := [[120]] } := by decide

def exCfg : KsrCfg := { contentType := "application/xml", maxSize := 65535, uploadPath := parsePath [117, 112] }
def exUpload : Upload := { contentType := some "application/xml", size := some 3, filename := some [97, 47, 98], body := [1, 2, 3] }

example : (saveKsr exCfg (fun _ => "h") [95, 49] true exUpload).1.toOption.map (·.1.render) =
    some [117, 112, 47, 97, 95, 98, 95, 49, 46, 120, 109, 108] := by decide
example : saveKsr exCfg (fun _ => "h") [95, 49] true { exUpload with size := some 65536 } = (.error (.http 413), []) := by
  rfl
example : (saveKsr exCfg (fun _ => "h") [95, 49] true { exUpload with size := some 65535 }).2.length = 5 := by decide
example : saveKsr exCfg (fun _ => "h") [95, 49] true { exUpload with contentType := none } = (.error (.http 400), []) := by
  rfl

example : dispatch (fun _ => true) (fun _ => true) (fun _ => "ab") ["ab"] (.der [1]) = .ok .callNext := by decide
example : dispatch (fun _ => true) (fun _ => true) (fun _ => "ab") [] (.der [1]) = .ok (.http 403) := by decide
/-- an upper-case entry never matches the lower-case fingerprint: the comparison is on the text -/
example : dispatch (fun _ => true) (fun _ => true) (fun _ => "ab") ["AB"] (.der [1]) = .ok (.http 403) := by decide

/-- a request every rule accepts under a policy with the optional checks off … -/
def exPol : RequestPolicy :=
  { KskmGen.requestPolicyDefaults with
    numBundles := 1, validateSignatures := false, keysMatchZskPolicy := false,
    checkKeysMatchKskOperatorPolicy := false, checkCycleLength := false,
    signatureCheckExpireHorizon := false }
def exBundle (id : String) (i e : Int) : Bundle := { id := id, inception := i, expiration := e, keys := [], signatures := [] }
def exReq : Request :=
  { id := "ksr-2", serial := 2, domain := ".", zskPolicy := {}, bundles := [exBundle "b2" 100 100] }
def exSkr (id : String) : Response :=
  { id := id, serial := 1, domain := ".", zskPolicy := {}, kskPolicy := {}, bundles := [exBundle "b1" 0 100] }
def anyVerifier : Verifier := fun _ _ _ _ => .valid

example : validateKsr anyVerifier 0 (.ok exPol) none (.ok exReq) = .ok .OK := by decide +kernel
example : validateKsr anyVerifier 0 (.ok exPol) (some (.ok (exSkr "skr-1"))) (.ok exReq) = .ok .OK := by decide +kernel
/-- … ERROR for a replayed request id (chain rule) and for a wrong bundle count (KSR rule) … -/
example : validateKsr anyVerifier 0 (.ok exPol) (some (.ok (exSkr "ksr-2"))) (.ok exReq) = .ok .ERROR := by
  decide +kernel
example : validateKsr anyVerifier 0 (.ok { exPol with numBundles := 9 }) none (.ok exReq) = .ok .ERROR := by
  decide +kernel
/-- … and an uncaught failure for an unparsable upload or an unloadable previous SKR. -/
example : validateKsr anyVerifier 0 (.ok exPol) none (err .value) = err .value := by decide +kernel
example : validateKsr anyVerifier 0 (.ok exPol) (some (err .runtime)) (.ok exReq) = err .runtime := by decide +kernel

/-! ### configuration, TLS options, the route -/

def exTls : TlsDoc :=
  { cert := .present true, key := .present true, caCert := .present true, ciphers := none,
    requireClientCert := some false, clientWhitelist := some ["ab", "AB"] }
example : (loadTls currentDefaults exTls).toOption.map (·.clientWhitelist) = some ["ab", "AB"] := by decide +kernel
example : loadTls currentDefaults { exTls with clientWhitelist := some ["ab:cd"] } = err .validation := by decide +kernel
example : loadTls currentDefaults { exTls with clientWhitelist := some [""] } = err .validation := by decide +kernel
example : loadTls currentDefaults { exTls with requireClientCert := none } = err .validation := by decide +kernel
def exKsrDoc : KsrDoc := { maxSize := some 1, contentType := none, uploadPath := none, ksrsignerConfigfile := .absent }
example : loadKsrSection currentDefaults { exKsrDoc with maxSize := some 0 } = err .validation := by decide +kernel
example : loadKsrSection currentDefaults { exKsrDoc with ksrsignerConfigfile := .present false } = err .validation := by
  decide +kernel
example : (loadKsrSection currentDefaults exKsrDoc).toOption.map (·.maxSize) = some 1 := by decide +kernel
example : (serverArgs { ciphers := ["A", "B"], requireClientCert := false, clientWhitelist := [] } "h" 1 false)
    = { host := "h", port := 1, logLevel := "info", sslCiphers := "A:B", sslCertReqs := .certOptional } := by
  decide +kernel

/-- a listed client, a good upload, the signer's checks accept, mail configured and delivered: the page says OK … -/
example : (handleUpload (fun _ => true) (fun _ => true) (fun _ => "ab") ["ab"] (.der [1]) exCfg (fun _ => "h") [95, 49] true
    (fun _ => validateKsr anyVerifier 0 (.ok exPol) none (.ok exReq)) (some "mx") true exUpload).1
    = .page .OK (savePath exCfg.uploadPath (wash [97, 47, 98]) [95, 49]) "h" (some "ab") := by decide +kernel
/-- … the write of that request (hypothesis of `upload_writes_confined`) … -/
example : RouteEffect.save (.write (savePath exCfg.uploadPath (wash [97, 47, 98]) [95, 49]) [1, 2, 3]) ∈
    (handleUpload (fun _ => true) (fun _ => true) (fun _ => "ab") ["ab"] (.der [1]) exCfg (fun _ => "h") [95, 49] true
      (fun _ => validateKsr anyVerifier 0 (.ok exPol) none (.ok exReq)) (some "mx") true exUpload).2 := by decide +kernel
/-- … ERROR under a policy the KSR violates (the file is stored all the same) … -/
example : (handleUpload (fun _ => true) (fun _ => true) (fun _ => "ab") ["ab"] (.der [1]) exCfg (fun _ => "h") [95, 49] true
    (fun _ => validateKsr anyVerifier 0 (.ok { exPol with numBundles := 9 }) none (.ok exReq)) none true exUpload).2.length
    = 7 := by decide +kernel
/-- … and an unlisted client with the same request: 403 and nothing happened. -/
example : handleUpload (fun _ => true) (fun _ => true) (fun _ => "ab") ["AB"] (.der [1]) exCfg (fun _ => "h") [95, 49] true
    (fun _ => validateKsr anyVerifier 0 (.ok exPol) none (.ok exReq)) none true exUpload = (.http 403, []) := by
  decide +kernel

end Kskm.C20
