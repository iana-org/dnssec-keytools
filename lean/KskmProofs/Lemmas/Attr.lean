/- The two simp sets of the proof files.  An attribute cannot be used in the module that declares it, so they
   are declared here and filled where their lemmas are proved. -/
import Lean.Meta.Tactic.Simp.RegisterCommand
import Lean.Meta.Tactic.Simp.BuiltinSimprocs.Core
import Lean.Meta.Tactic.Simp.BuiltinSimprocs.String

/-- The lemmas that read a `do` block of the model off as its success condition: every bind an `∃`, every
    guard a conjunct, every loop a `∀`, every failing branch `False` (`simp only [res_ok]`; the lemmas are
    tagged in `Lemmas/Res.lean`).  What is left is logic about the conditions themselves. -/
register_simp_attr res_ok

/-- How the glue's `v["attrs"][k]` and `v["value"][k]` are read off an element of the writer's tree
    (`simp only [glue_reads]`; the lemmas are tagged in Lemmas/SkrGlue.lean): the two entries of an element's
    dict, an attribute by its name, the children of a given name. -/
register_simp_attr glue_reads
