import Kskm.Dnssec

/-! Octet strings: the order `bytesLe`, the fixed-width encodings `be8/be16/be32`, and the big-endian numerals
    `beNat` / `natToBytes`. -/

namespace Kskm

theorem ofNat_ne_zero {n : Nat} (h0 : 0 < n) (h : n < 256) : UInt8.ofNat n ≠ 0 := by
  intro hz
  have := UInt8.toNat_ofNat_of_lt' (n := n) h
  rw [hz] at this
  exact absurd this.symm (by simpa using Nat.ne_of_gt h0)

/-! ### `bytesLe` is core's lexicographic order on `List UInt8`, a linear order -/

theorem bytesLe_iff : ∀ a b : Bytes, bytesLe a b = true ↔ a ≤ b
  | [], _ => by simp [bytesLe]
  | _ :: _, [] => by simp [bytesLe]
  | x :: xs, y :: ys => by
    rw [bytesLe, List.cons_le_cons_iff, ← bytesLe_iff xs ys]
    by_cases h1 : x < y
    · simp [h1]
    · by_cases h2 : y < x
      · have : x ≠ y := fun e => by subst e; exact UInt8.lt_irrefl _ h2
        simp [h1, h2, this]
      · have : x = y := UInt8.le_antisymm (UInt8.not_lt.mp h2) (UInt8.not_lt.mp h1)
        simp [this]

theorem bytesLe_refl : ∀ a : Bytes, bytesLe a a = true := fun a => (bytesLe_iff a a).mpr (List.le_refl a)

theorem bytesLe_total (a b : Bytes) : (bytesLe a b || bytesLe b a) = true := by
  simpa [bytesLe_iff] using List.le_total a b

theorem bytesLe_antisymm (a b : Bytes) (h1 : bytesLe a b = true) (h2 : bytesLe b a = true) : a = b :=
  List.le_antisymm ((bytesLe_iff a b).mp h1) ((bytesLe_iff b a).mp h2)

theorem bytesLe_trans (a b c : Bytes) (h1 : bytesLe a b = true) (h2 : bytesLe b c = true) : bytesLe a c = true :=
  (bytesLe_iff a c).mpr (List.le_trans ((bytesLe_iff a b).mp h1) ((bytesLe_iff b c).mp h2))

/-! ### fixed width: `struct.pack("!B" / "!H" / "!I")` loses nothing within range -/

theorem beNat_be8 {a : Nat} (h : a < 256) : beNat (be8 a) = a := by
  simp only [beNat, be8, List.foldl, UInt8.toNat_ofNat']; omega

theorem beNat_be16 {a : Nat} (h : a < 65536) : beNat (be16 a) = a := by
  simp only [beNat, be16, List.foldl, UInt8.toNat_ofNat']; omega

theorem beNat_be32 {a : Nat} (h : a < 4294967296) : beNat (be32 a) = a := by
  simp only [beNat, be32, List.foldl, UInt8.toNat_ofNat']; omega

theorem be8_inj {a b : Nat} (ha : a < 256) (hb : b < 256) (h : be8 a = be8 b) : a = b := by
  rw [← beNat_be8 ha, h, beNat_be8 hb]

theorem be16_inj {a b : Nat} (ha : a < 65536) (hb : b < 65536) (h : be16 a = be16 b) : a = b := by
  rw [← beNat_be16 ha, h, beNat_be16 hb]

theorem be32_inj {a b : Nat} (ha : a < 4294967296) (hb : b < 4294967296) (h : be32 a = be32 b) : a = b := by
  rw [← beNat_be32 ha, h, beNat_be32 hb]

theorem toNat_lt_of_inRange {n : Nat} {x : Int} (h : inRange n x = true) : x.toNat < 2 ^ n := by
  simp only [inRange, Bool.and_eq_true, decide_eq_true_eq] at h; exact h.2

theorem toNat_inj_of_inRange {n : Nat} {x y : Int} (h₁ : inRange n x = true) (h₂ : inRange n y = true)
    (h : x.toNat = y.toNat) : x = y := by
  simp only [inRange, Bool.and_eq_true, decide_eq_true_eq] at h₁ h₂
  omega

/-! ### numerals of minimal length: `beNat` is `int.from_bytes(b, "big")`, `natToBytes` its inverse without leading zero -/

theorem beNat_fold_lt (b : Bytes) : ∀ acc : Nat,
    b.foldl (fun acc x => acc * 256 + x.toNat) acc < (acc + 1) * 256 ^ b.length := by
  induction b with
  | nil => intro acc; simp
  | cons x r ih =>
    intro acc
    simp only [List.foldl_cons, List.length_cons, Nat.pow_succ]
    have h1 := ih (acc * 256 + x.toNat)
    have hx := x.toNat_lt
    have h2 : (acc * 256 + x.toNat + 1) * 256 ^ r.length ≤ ((acc + 1) * 256) * 256 ^ r.length :=
      Nat.mul_le_mul_right _ (by omega)
    calc _ < _ := h1
      _ ≤ _ := h2
      _ = _ := by rw [Nat.mul_assoc, Nat.mul_comm 256]

theorem beNat_lt (b : Bytes) : beNat b < 256 ^ b.length := by
  have := beNat_fold_lt b 0
  simpa [beNat] using this

theorem beNat_append_single (l : Bytes) (b : UInt8) : beNat (l ++ [b]) = beNat l * 256 + b.toNat := by
  simp [beNat, List.foldl_append]

theorem beNat_natToBytes (e : Nat) : beNat (natToBytes e) = e := by
  induction e using Nat.strongRecOn with
  | _ e ih =>
    rw [natToBytes]
    split
    · simp_all [beNat]
    · rename_i h
      rw [beNat_append_single, ih (e / 256) (by omega)]
      simp [UInt8.toNat_ofNat']; omega

theorem natToBytes_ne_nil (e : Nat) (h : 0 < e) : natToBytes e ≠ [] := by
  rw [natToBytes]; split
  · omega
  · simp

theorem natToBytes_length_le (k : Nat) : ∀ e, e < 256 ^ k → (natToBytes e).length ≤ k := by
  induction k with
  | zero => intro e he; simp at he; subst he; rw [natToBytes]; simp
  | succ k ih =>
    intro e he
    rw [natToBytes]
    split
    · simp
    · rw [List.length_append, List.length_singleton]
      have : e / 256 < 256 ^ k := by
        rw [Nat.pow_succ] at he
        exact Nat.div_lt_of_lt_mul (by rw [Nat.mul_comm]; exact he)
      have := ih _ this
      omega

/-- the RFC 3110 encoding of (exponent, modulus) exists when the exponent's octets fit the 16-bit length -/
theorem rsaEncodeBytes_ok (n e : Bytes) (hlen : e.length < 65536) :
    ∃ b, rsaEncodeBytes (beNat e) n = .ok b := by
  have hl : (natToBytes (beNat e)).length ≤ e.length := natToBytes_length_le _ _ (beNat_lt e)
  unfold rsaEncodeBytes
  simp only
  split
  · rw [if_pos (by omega)]; exact ⟨_, rfl⟩
  · exact ⟨_, rfl⟩

end Kskm
