/-
  Helper lemmas for C01 "completion", independent of the key family: stated over an interface `KeyReady`
  that RSA keys (`OnToken` + `RsaConfigured`, Lemmas/SignerComplete.lean) and EC keys (`EcOnToken` +
  `EcConfigured`, Lemmas/C01Ec.lean) both meet, so that RSA-only, EC-only and mixed schemas are covered by
  one proof (`gAction_ready`, `gslot_run`); `AnyLoc` puts the two families side by side at store level.
-/
import KskmProofs.Lemmas.C01Ec
namespace Kskm

/-- the composite key built from key octets `raw` and a token key record -/
def gck (ttl : Int) (rawOf : String → Bytes) (p11 : KskKey → Bool → P11Key) (ksk : KskKey)
    (isPublic : Bool) : CompositeKey :=
  { p11 := p11 ksk isPublic, dns := dnsOf ksk ttl (rawOf ksk.label) }

/-- **What completion needs of one configured key** with published key octets `raw` and token records
    `p11 isPublic`: `load_pkcs11_key` returns it (public and private lookup, any state, any login
    oracle), the algorithm number and the RDATA fit their fields, the private record carries the key
    text, is asymmetric and has a handle, the text is parsable for the algorithm, and
    `_format_data_for_signing` succeeds once the hash oracle answers. -/
structure KeyReady (ext : Externals) (st : Store) (mods : List P11Module) (cfg : SignerConfig) (b : Bundle)
    (ksk : KskKey) (raw : Bytes) (p11 : Bool → P11Key) : Prop where
  loads : ∀ (ok : String → Nat → Bool) (isPublic : Bool) (s : TokState),
    ∃ s', loadPkcs11Key mods ksk cfg.kskPolicy b isPublic (storeToken st ok) s =
      (.ok (some ⟨p11 isPublic, dnsOf ksk cfg.kskPolicy.ttl raw⟩), s')
  algLt : ksk.algorithm < 256
  small : raw.length + 4 < 65536
  text : (p11 false).publicKey = some (Base64.encode raw)
  notAes : (p11 false).keyType ≠ .aes
  notDes3 : (p11 false).keyType ≠ .des3
  handle : ∃ hdl, (p11 false).privHandle = some hdl
  fromKey : publicKeyFromKey (dnsOf ksk cfg.kskPolicy.ttl raw) = .ok ()
  formats : (∀ h d, ∃ x, ext.hash h d = some x) →
    ∀ data, ∃ d, formatDataForSigning ext.hash (p11 false) data ksk.algorithm = .ok d

theorem keyReady_rsa (ext : Externals) (st : Store) (mods : List P11Module) (cfg : SignerConfig) (b : Bundle)
    (ksk : KskKey) (L : KeyLoc) (hw : C04.InWindow ksk b) (h : OnToken st mods ksk.label L)
    (hc : RsaConfigured ksk L) :
    KeyReady ext st mods cfg b ksk L.raw (p11Of ksk.label ksk.hashUsingHsm L) where
  loads := fun ok isPublic s => loadPkcs11Key_onToken st ok mods ksk cfg.kskPolicy b L hw h hc isPublic s
  algLt := rsa_alg_lt hc.family
  small := h.small
  text := rfl
  notAes := by simp [p11Of]
  notDes3 := by simp [p11Of]
  handle := ⟨L.privO.handle, by simp [p11Of, classOf, ckoPublic, ckoPrivate, KeyLoc.obj]⟩
  fromKey := by
    simp only [publicKeyFromKey, dnsOf, hc.family, ↓reduceIte, rsaDecode_raw h ksk.algorithm hc.family, bind,
      Except.bind, pure, Except.pure]
  formats := fun htot data =>
    formatDataForSigning_rsa ext.hash _ data ksk.algorithm (Base64.encode L.raw) _ hc.family rfl
      (by simpa using encode_raw_ne_empty h) (rsaDecode_raw h ksk.algorithm hc.family) htot

theorem formatDataForSigning_ecdsa (hash : Hasher) (key : P11Key) (raw : Bytes) (alg : Nat)
    (ha : alg = 13 ∨ alg = 14) (htot : ∀ h d, ∃ x, hash h d = some x) :
    ∃ d, formatDataForSigning hash key raw alg = .ok d := by
  by_cases hk : key.hashUsingHsm = some true
  · obtain ⟨_, _, he⟩ := C15.formatDataForSigning_onToken hash key raw alg hk
      (by rcases ha with rfl | rfl <;> decide)
    exact ⟨_, he⟩
  · obtain ⟨x, hx⟩ := htot (if alg = 13 then .sha256 else .sha384) raw
    rw [C15.formatDataForSigning_hostEcdsa hash key raw alg hk ha, hx]
    exact ⟨_, rfl⟩

theorem keyReady_ec (ext : Externals) (st : Store) (mods : List P11Module) (cfg : SignerConfig) (b : Bundle)
    (ksk : KskKey) (L : EcLoc) (hw : C04.InWindow ksk b) (h : EcOnToken st mods ksk.label L)
    (hc : EcConfigured ksk L) :
    KeyReady ext st mods cfg b ksk L.raw (ecP11 ksk.label ksk.hashUsingHsm L) where
  loads := fun ok isPublic s => loadPkcs11Key_ecOnToken st ok mods ksk cfg.kskPolicy b L hw h hc isPublic s
  algLt := hc.alg_lt
  small := by rcases h.raw_length with ⟨_, hl⟩ | ⟨_, hl⟩ <;> omega
  text := rfl
  notAes := by simp [ecP11, ecP11Of]
  notDes3 := by simp [ecP11, ecP11Of]
  handle := ⟨L.privO.handle, by simp [ecP11, ecP11Of, classOf, ckoPublic, ckoPrivate, EcLoc.obj]⟩
  fromKey := by
    simp only [publicKeyFromKey, dnsOf, hc.not_rsa, hc.ecdsa, Bool.false_eq_true, ↓reduceIte,
      Base64.decode_encode]
    rfl
  formats := fun htot data => formatDataForSigning_ecdsa ext.hash _ data ksk.algorithm
    (by rcases hc with ⟨h, _⟩ | ⟨h, _⟩ <;> simp [h]) htot

/-- what must hold of one name the schema lists, for request bundle `b` -/
structure GName (ext : Externals) (st : Store) (mods : List P11Module) (cfg : SignerConfig)
    (rawOf : String → Bytes) (p11 : KskKey → Bool → P11Key) (b : Bundle) (name : String) (ksk : KskKey) :
    Prop where
  configured : cfg.kskKeys.lookup name = some ksk
  ready : KeyReady ext st mods cfg b ksk (rawOf ksk.label) (p11 ksk)
  identity : validateDnskeyMatchesKsk ext ksk (dnsOf ksk cfg.kskPolicy.ttl (rawOf ksk.label)) = .ok ()

/-- the keys `_fetch_keys` returns: one per name, in order -/
def GFetched (cfg : SignerConfig) (rawOf : String → Bytes) (p11 : KskKey → Bool → P11Key) (isPublic : Bool) :
    List String → List CompositeKey → Prop
  | [], cks => cks = []
  | name :: rest, cks => ∃ ksk more, cfg.kskKeys.lookup name = some ksk ∧
      cks = gck cfg.kskPolicy.ttl rawOf p11 ksk isPublic :: more ∧ GFetched cfg rawOf p11 isPublic rest more

theorem GFetched.mem {cfg : SignerConfig} {rawOf : String → Bytes} {p11 : KskKey → Bool → P11Key}
    {isPublic : Bool} :
    ∀ {names : List String} {cks : List CompositeKey}, GFetched cfg rawOf p11 isPublic names cks →
      (∀ ck ∈ cks, ∃ name ∈ names, ∃ ksk, cfg.kskKeys.lookup name = some ksk ∧
        ck = gck cfg.kskPolicy.ttl rawOf p11 ksk isPublic) ∧
      (∀ name ∈ names, ∃ ksk, cfg.kskKeys.lookup name = some ksk ∧
        gck cfg.kskPolicy.ttl rawOf p11 ksk isPublic ∈ cks)
  | [], cks, h => by
    simp only [GFetched] at h
    subst h
    simp
  | name :: rest, cks, h => by
    obtain ⟨ksk, more, hl, rfl, hrest⟩ := h
    obtain ⟨ih1, ih2⟩ := GFetched.mem hrest
    constructor
    · intro ck hck
      rcases List.mem_cons.mp hck with rfl | hck
      · exact ⟨name, List.mem_cons_self, ksk, hl, rfl⟩
      · obtain ⟨n, hn, r⟩ := ih1 ck hck
        exact ⟨n, List.mem_cons_of_mem _ hn, r⟩
    · intro n hn
      rcases List.mem_cons.mp hn with rfl | hn
      · exact ⟨ksk, hl, List.mem_cons_self⟩
      · obtain ⟨k, hk, hm⟩ := ih2 n hn
        exact ⟨k, hk, List.mem_cons_of_mem _ hm⟩

theorem gfetchKeys (ext : Externals) (st : Store) (ok : String → Nat → Bool)
    (sg : String → Nat → Nat → Nat → Bytes → Bytes)
    (mods : List P11Module) (cfg : SignerConfig) (rawOf : String → Bytes) (p11 : KskKey → Bool → P11Key)
    (b : Bundle) (isPublic : Bool) (names : List String)
    (hall : ∀ name ∈ names, ∃ ksk, GName ext st mods cfg rawOf p11 b name ksk) (s : TokState) :
    ∃ cks s', fetchKeys ext mods cfg b isPublic names (signingToken st ok sg) s = (.ok cks, s') ∧
      GFetched cfg rawOf p11 isPublic names cks := by
  have key : ∀ (names : List String), (∀ name ∈ names, ∃ ksk, GName ext st mods cfg rawOf p11 b name ksk) →
      ∀ s, ∃ cks s', fetchKeys ext mods cfg b isPublic names (storeToken st ok) s = (.ok cks, s') ∧
        GFetched cfg rawOf p11 isPublic names cks := by
    intro names
    induction names with
    | nil => intro _ s; exact ⟨[], s, by simp [fetchKeys], rfl⟩
    | cons name rest ih =>
      intro hall s
      obtain ⟨ksk, hn⟩ := hall name List.mem_cons_self
      obtain ⟨s1, hload⟩ := hn.ready.loads ok isPublic s
      obtain ⟨more, s2, hmore, hex⟩ := ih (fun n h => hall n (List.mem_cons_of_mem _ h)) s1
      refine ⟨_ :: more, s2, (fetchKeys_cons_ok_iff ..).mpr
        ⟨_, more, s1, rfl, (fetchOne_ok_iff ..).mpr ⟨ksk, hn.configured, hload, hn.identity⟩, hmore⟩,
        ksk, more, hn.configured, rfl, hex⟩
  obtain ⟨cks, s', h, hex⟩ := key names hall s
  obtain ⟨s1, h1⟩ := (fetchKeys_plays ext mods cfg b isPublic names).via.transfer
    (signingToken_reads st ok sg mods) h s
  exact ⟨cks, s1, h1, hex⟩

/-- a record of the slot's key set that stems from a configured KSK: label, key text, algorithm,
    policy TTL, decodable RDATA of bounded length, computed tag -/
structure GRec (cfg : SignerConfig) (rawOf : String → Bytes) (ksk : KskKey) (x : Key) : Prop where
  id : x.keyIdentifier = ksk.label
  pk : x.publicKey = Base64.encode (rawOf ksk.label)
  alg : x.algorithm = ksk.algorithm
  ttl : x.ttl = cfg.kskPolicy.ttl
  rdata : ∃ flags, keyToRdata x = .ok (rdataOf flags 3 ksk.algorithm (rawOf ksk.label))
  tag : ∃ r, x.keyTag = ((keyTagOfRdata r : Nat) : Int)

theorem gRec_dnsOf (cfg : SignerConfig) (rawOf : String → Bytes) (ksk : KskKey) (ha : ksk.algorithm < 256) :
    GRec cfg rawOf ksk (dnsOf ksk cfg.kskPolicy.ttl (rawOf ksk.label)) :=
  ⟨rfl, rfl, rfl, rfl, ⟨257, keyToRdata_dnsOf ksk _ _ 257 _ (by omega) ha⟩, ⟨_, rfl⟩⟩

theorem gRec_revokedOf (cfg : SignerConfig) (rawOf : String → Bytes) (ksk : KskKey) (ha : ksk.algorithm < 256) :
    GRec cfg rawOf ksk (revokedOf ksk cfg.kskPolicy.ttl (rawOf ksk.label)) :=
  ⟨rfl, rfl, rfl, rfl, ⟨385, keyToRdata_dnsOf ksk _ _ 385 _ (by omega) ha⟩, ⟨_, rfl⟩⟩

/-- **What must hold of one schema action `act` and one request bundle `b`** (keys of any family) for
    the slot to reach the algorithm-agreement check on `signingToken st ok sg`: `HealthyAction` with
    `rawOf` / `p11` in place of the RSA-only `KeyLoc`, WITHOUT the agreement of the algorithm sets
    (`AlgsAgree` below), so that the outcome can be stated for either case.
    The prefix `G` / `g` (`gck`, `GName`, `GRec`, `gslot_run` …) marks what is stated for keys of either family
    ("generic"), through `rawOf` and `p11`. -/
structure GActionCore (ext : Externals) (st : Store) (sg : String → Nat → Nat → Nat → Bytes → Bytes)
    (mods : List P11Module) (cfg : SignerConfig) (rawOf : String → Bytes) (p11 : KskKey → Bool → P11Key)
    (b : Bundle) (act : SchemaAction) : Prop where
  names : ∀ name ∈ act.names, ∃ ksk, GName ext st mods cfg rawOf p11 b name ksk
  labelAlg : ∀ n₁ ∈ act.names, ∀ n₂ ∈ act.names, ∀ k₁ k₂, cfg.kskKeys.lookup n₁ = some k₁ →
    cfg.kskKeys.lookup n₂ = some k₂ → k₁.label = k₂.label → k₁.algorithm = k₂.algorithm
  distinctKeys : ∀ n₁ ∈ act.names, ∀ n₂ ∈ act.names, ∀ k₁ k₂, cfg.kskKeys.lookup n₁ = some k₁ →
    cfg.kskKeys.lookup n₂ = some k₂ → rawOf k₁.label = rawOf k₂.label → k₁.label = k₂.label
  zsks : b.keys ≠ []
  zskIds : b.keys.Pairwise (fun x y => x.keyIdentifier ≠ y.keyIdentifier)
  zskNotKsk : ∀ z ∈ b.keys, ∀ name ∈ act.names, ∀ k, cfg.kskKeys.lookup name = some k →
    z.keyIdentifier ≠ k.label
  zskRdata : ∀ z ∈ b.keys, ∃ r, keyToRdata z = .ok r ∧ r.length < 65536
  expiration : inRange 32 (tsSeconds b.expiration) = true
  inception : inRange 32 (tsSeconds b.inception) = true
  signs : ∀ name ∈ act.sign, ∀ k, cfg.kskKeys.lookup name = some k → ∀ raw d hdl,
    (p11 k false).privHandle = some hdl →
    formatDataForSigning ext.hash (p11 k false) raw k.algorithm = .ok d →
    ext.verify k.algorithm (Base64.encode (rawOf k.label)) raw
      (sg (p11 k false).module (p11 k false).slot hdl d.mechanism d.data) = .valid

theorem GActionCore.of_lookup {ext : Externals} {st : Store} {sg : String → Nat → Nat → Nat → Bytes → Bytes}
    {mods : List P11Module} {cfg : SignerConfig} {rawOf : String → Bytes} {p11 : KskKey → Bool → P11Key}
    {b : Bundle} {act : SchemaAction} (ha : GActionCore ext st sg mods cfg rawOf p11 b act) {name : String}
    {k : KskKey} (hname : name ∈ act.names) (hk : cfg.kskKeys.lookup name = some k) :
    GName ext st mods cfg rawOf p11 b name k := by
  obtain ⟨k', h'⟩ := ha.names name hname
  obtain rfl := Option.some.inj (h'.configured.symm.trans hk)
  exact h'

def AlgsAgree (cfg : SignerConfig) (b : Bundle) (act : SchemaAction) : Prop :=
  ∀ a, a ∈ b.keys.map (·.algorithm) ↔
    ∃ name ∈ act.sign, ∃ k, cfg.kskKeys.lookup name = some k ∧ k.algorithm = a

def GSlotRec (cfg : SignerConfig) (rawOf : String → Bytes) (act : SchemaAction) (b : Bundle)
    (ksks : List Key) (x : Key) : Prop :=
  (∃ name ∈ act.names, ∃ k, cfg.kskKeys.lookup name = some k ∧ GRec cfg rawOf k x) ∨
  (∃ z ∈ b.keys, x = { z with ttl := cfg.kskPolicy.ttl } ∧ ∀ k ∈ ksks, k.publicKey ≠ z.publicKey)

/-- **Every record of the key set a healthy slot assembles** stems from a KSK configured under a listed
    name (key text = its token key octets, its algorithm) or is a request key with the TTL set. -/
theorem gslot_class {ext : Externals} {st : Store} {sg : String → Nat → Nat → Nat → Bytes → Bytes}
    {mods : List P11Module} {cfg : SignerConfig}
    {rawOf : String → Bytes} {p11 : KskKey → Bool → P11Key} {b : Bundle} {act : SchemaAction}
    (ha : GActionCore ext st sg mods cfg rawOf p11 b act)
    {pub rev signing : List CompositeKey} {revoked : List Key}
    (epub : GFetched cfg rawOf p11 true act.publish pub) (erev : GFetched cfg rawOf p11 true act.revoke rev)
    (esign : GFetched cfg rawOf p11 false act.sign signing)
    (hrevoked : rev.mapM (fun ck => ck.dns.asRevoked) = .ok revoked) :
    ∀ x ∈ slotFold cfg.kskPolicy.ttl (pub.map (·.dns)) revoked (signing.map (·.dns)) b.keys,
      GSlotRec cfg rawOf act b (pub.map (·.dns) ++ revoked ++ signing.map (·.dns)) x := by
  have hlt : ∀ {name}, name ∈ act.names → ∀ {k}, cfg.kskKeys.lookup name = some k → k.algorithm < 256 :=
    fun hname _ hk => (ha.of_lookup hname hk).ready.algLt
  intro x hx
  rcases (C02.slotFold_spec cfg.kskPolicy.ttl (pub.map (·.dns)) revoked (signing.map (·.dns)) b.keys).sound x hx
    with ⟨r, hr, rfl⟩ | ⟨k0, hkm, rfl, _⟩ | ⟨z, hz, rfl, hzn⟩
  · obtain ⟨ck, hck, hck'⟩ := ((mapM_ok_mem _ _ _ hrevoked).1 r).mp hr
    obtain ⟨name, hname, k, hk, rfl⟩ := erev.mem.1 ck hck
    have hname := SchemaAction.revoke_names hname
    obtain rfl := Except.ok.inj ((asRevoked_dnsOf k _ _ (hlt hname hk)).symm.trans hck')
    exact Or.inl ⟨name, hname, k, hk, gRec_revokedOf cfg rawOf k (hlt hname hk)⟩
  · rcases List.mem_append.mp hkm with hkm | hkm
    · obtain ⟨ck, hck, rfl⟩ := List.mem_map.mp hkm
      obtain ⟨name, hname, k, hk, rfl⟩ := epub.mem.1 ck hck
      have hname := SchemaAction.publish_names hname
      exact Or.inl ⟨name, hname, k, hk, gRec_dnsOf cfg rawOf k (hlt hname hk)⟩
    · obtain ⟨ck, hck, rfl⟩ := List.mem_map.mp hkm
      obtain ⟨name, hname, k, hk, rfl⟩ := esign.mem.1 ck hck
      have hname := SchemaAction.sign_names hname
      exact Or.inl ⟨name, hname, k, hk, gRec_dnsOf cfg rawOf k (hlt hname hk)⟩
  · exact Or.inr ⟨z, hz, rfl, hzn⟩

/-- **Records with different key texts have different identifiers**, in a list of KSK records and request
    keys (`GSlotRec`): the key text of a KSK record is that of its label, no request key bears a KSK's label,
    and the request keys have pairwise different identifiers. -/
theorem gslot_noDupIds {ext : Externals} {st : Store} {sg : String → Nat → Nat → Nat → Bytes → Bytes}
    {mods : List P11Module} {cfg : SignerConfig}
    {rawOf : String → Bytes} {p11 : KskKey → Bool → P11Key} {b : Bundle} {act : SchemaAction}
    (ha : GActionCore ext st sg mods cfg rawOf p11 b act) {keys ksks : List Key}
    (hu : keys.Pairwise (fun x y => x.publicKey ≠ y.publicKey))
    (hclass : ∀ x ∈ keys, GSlotRec cfg rawOf act b ksks x) : hasDupIds keys = false := by
  rw [noDupIds_iff]
  refine hu.imp_of_mem ?_
  intro x y hx hy hne hid
  apply hne
  rcases hclass x hx with ⟨n₁, hn₁, k₁, hk₁, r₁⟩ | ⟨z₁, hz₁, rfl, _⟩ <;>
    rcases hclass y hy with ⟨n₂, hn₂, k₂, hk₂, r₂⟩ | ⟨z₂, hz₂, rfl, _⟩
  · rw [r₁.pk, r₂.pk, show k₁.label = k₂.label by rw [← r₁.id, ← r₂.id]; exact hid]
  · exact absurd (r₁.id.symm.trans hid).symm (ha.zskNotKsk z₂ hz₂ n₁ hn₁ k₁ hk₁)
  · exact absurd (hid.trans r₂.id) (ha.zskNotKsk z₁ hz₁ n₂ hn₂ k₂ hk₂)
  · rw [C07L.eq_of_same_id (List.pairwise_map.mpr ha.zskIds) hz₁ hz₂ hid]

theorem gAction_ready (ext : Externals) (st : Store) (ok : String → Nat → Bool)
    (sg : String → Nat → Nat → Nat → Bytes → Bytes) (mods : List P11Module) (cfg : SignerConfig)
    (rawOf : String → Bytes) (p11 : KskKey → Bool → P11Key) (b : Bundle) (act : SchemaAction)
    (hb : HealthyBase ext cfg) (ha : GActionCore ext st sg mods cfg rawOf p11 b act) (s : TokState) :
    ∃ pub rev signing revoked s1 s2 s3,
      fetchKeys ext mods cfg b true act.publish (signingToken st ok sg) s = (.ok pub, s1) ∧
      fetchKeys ext mods cfg b true act.revoke (signingToken st ok sg) s1 = (.ok rev, s2) ∧
      rev.mapM (fun ck => ck.dns.asRevoked) = .ok revoked ∧
      fetchKeys ext mods cfg b false act.sign (signingToken st ok sg) s2 = (.ok signing, s3) ∧
      GFetched cfg rawOf p11 false act.sign signing ∧
      (∀ a, a ∈ signing.map (·.dns.algorithm) ↔
        ∃ name ∈ act.sign, ∃ k, cfg.kskKeys.lookup name = some k ∧ k.algorithm = a) ∧
      (∀ x ∈ signing, ∀ y ∈ signing, x.dns.keyIdentifier = y.dns.keyIdentifier →
        x.dns.algorithm = y.dns.algorithm) ∧
      hasDupIds (slotFold cfg.kskPolicy.ttl (pub.map (·.dns)) revoked (signing.map (·.dns)) b.keys) = false ∧
      ∀ sk ∈ signing, SignerReady ext b cfg.kskPolicy
        (slotFold cfg.kskPolicy.ttl (pub.map (·.dns)) revoked (signing.map (·.dns)) b.keys) sk
        (signingToken st ok sg) 0 := by
  have hpubN : ∀ {n}, n ∈ act.publish → n ∈ act.names := fun h => SchemaAction.publish_names h
  have hrevN : ∀ {n}, n ∈ act.revoke → n ∈ act.names := fun h => SchemaAction.revoke_names h
  have hsignN : ∀ {n}, n ∈ act.sign → n ∈ act.names := fun h => SchemaAction.sign_names h
  obtain ⟨pub, s1, hpub, epub⟩ := gfetchKeys ext st ok sg mods cfg rawOf p11 b true act.publish
    (fun n h => ha.names n (hpubN h)) s
  obtain ⟨rev, s2, hrev, erev⟩ := gfetchKeys ext st ok sg mods cfg rawOf p11 b true act.revoke
    (fun n h => ha.names n (hrevN h)) s1
  obtain ⟨signing, s3, hsign, esign⟩ := gfetchKeys ext st ok sg mods cfg rawOf p11 b false act.sign
    (fun n h => ha.names n (hsignN h)) s2
  obtain ⟨msign, msign'⟩ := esign.mem
  obtain ⟨revoked, hrevoked, _⟩ := mapM_ok_of_forall (fun ck : CompositeKey => ck.dns.asRevoked)
    (fun _ => True) rev (by
      intro ck hck
      obtain ⟨name, hname, k, hk, rfl⟩ := erev.mem.1 ck hck
      exact ⟨_, asRevoked_dnsOf k _ _ (ha.of_lookup (hrevN hname) hk).ready.algLt, trivial⟩)
  have hspec := C02.slotFold_spec cfg.kskPolicy.ttl (pub.map (·.dns)) revoked (signing.map (·.dns)) b.keys
  have hclass := gslot_class ha epub erev esign hrevoked
  refine ⟨pub, rev, signing, revoked, s1, s2, s3, hpub, hrev, hrevoked, hsign, esign, ?_, ?_, ?_, ?_⟩
  · intro a
    simp only [List.mem_map]
    constructor
    · rintro ⟨ck, hck, rfl⟩
      obtain ⟨name, hname, k, hk, rfl⟩ := msign ck hck
      exact ⟨name, hname, k, hk, rfl⟩
    · rintro ⟨name, hname, k, hk, rfl⟩
      obtain ⟨k', hk', hm⟩ := msign' name hname
      rw [hk] at hk'; cases hk'
      exact ⟨_, hm, rfl⟩
  · intro x hx y hy hid
    obtain ⟨n₁, hn₁, k₁, hk₁, rfl⟩ := msign x hx
    obtain ⟨n₂, hn₂, k₂, hk₂, rfl⟩ := msign y hy
    exact ha.labelAlg n₁ (hsignN hn₁) n₂ (hsignN hn₂) k₁ k₂ hk₁ hk₂ hid
  · exact gslot_noDupIds ha hspec.unique hclass
  · intro sk hsk
    obtain ⟨name, hname, k, hk, rfl⟩ := msign sk hsk
    have H := ha.of_lookup (hsignN hname) hk
    have hdnsS : (gck cfg.kskPolicy.ttl rawOf p11 k false).dns ∈ signing.map (·.dns) :=
      List.mem_map.mpr ⟨_, hsk, rfl⟩
    obtain ⟨x, hx, hxpk⟩ := hspec.complete (gck cfg.kskPolicy.ttl rawOf p11 k false).dns
      (List.mem_append_left _ (List.mem_append_right _ hdnsS))
    have hxpk' : x.publicKey = Base64.encode (rawOf k.label) := hxpk
    -- the published record with that key text is a KSK record under the same label and algorithm
    obtain ⟨n₂, hn₂, k₂, hk₂, r₂, hlab, halg⟩ : ∃ n₂ ∈ act.names, ∃ k₂, cfg.kskKeys.lookup n₂ = some k₂ ∧
        GRec cfg rawOf k₂ x ∧ k₂.label = k.label ∧ k₂.algorithm = k.algorithm := by
      rcases hclass x hx with ⟨n₂, hn₂, k₂, hk₂, r₂⟩ | ⟨z, hz, rfl, hzn⟩
      · have hraw : rawOf k₂.label = rawOf k.label :=
          base64_encode_inj (r₂.pk.symm.trans hxpk')
        have hlab := ha.distinctKeys n₂ hn₂ name (hsignN hname) k₂ k hk₂ hk hraw
        exact ⟨n₂, hn₂, k₂, hk₂, r₂, hlab,
          ha.labelAlg n₂ hn₂ name (hsignN hname) k₂ k hk₂ hk hlab⟩
      · exact absurd hxpk.symm (hzn _ (List.mem_append_right _ hdnsS))
    obtain ⟨rdatas, hrd, hshort⟩ := mapM_ok_of_forall keyToRdata (fun r => r.length < 65536)
      (slotFold cfg.kskPolicy.ttl (pub.map (·.dns)) revoked (signing.map (·.dns)) b.keys) (by
      intro y hy
      rcases hclass y hy with ⟨n₃, hn₃, k₃, hk₃, r₃⟩ | ⟨z, hz, rfl, _⟩
      · obtain ⟨fl, hfl⟩ := r₃.rdata
        refine ⟨_, hfl, ?_⟩
        rw [rdataOf_length]
        exact (ha.of_lookup hn₃ hk₃).ready.small
      · exact ha.zskRdata z hz)
    have htag : inRange 16 x.keyTag = true := by
      obtain ⟨r, hr⟩ := r₂.tag
      rw [hr]
      have := C14.keyTag_lt r
      simp only [inRange, Bool.and_eq_true, decide_eq_true_eq, Int.toNat_natCast]
      exact ⟨by omega, by omega⟩
    obtain ⟨raw, hraw⟩ : ∃ raw, makeRawRrsig
        (sigTemplate b (gck cfg.kskPolicy.ttl rawOf p11 k false) cfg.kskPolicy 0 x.keyTag)
        (slotFold cfg.kskPolicy.ttl (pub.map (·.dns)) revoked (signing.map (·.dns)) b.keys) = .ok raw :=
      ⟨_, makeRawRrsig_of
        (sig := sigTemplate b (gck cfg.kskPolicy.ttl rawOf p11 k false) cfg.kskPolicy 0 x.keyTag)
        (by simp [sigTemplate]) (by simp only [sigTemplate, gck, dnsOf]; exact H.ready.algLt)
        (by simp [sigTemplate, inRange]) (by simp only [sigTemplate]; exact hb.ttl)
        (by simp only [sigTemplate]; exact ha.expiration) (by simp only [sigTemplate]; exact ha.inception)
        (by simp only [sigTemplate]; exact htag) (by simp only [sigTemplate]; exact hb.root) hrd hshort⟩
    obtain ⟨d, hd⟩ := H.ready.formats hb.hashes raw
    obtain ⟨hdl, hh⟩ := H.ready.handle
    refine ⟨x, Base64.encode (rawOf k.label), raw, d, hdl, hx, ?_, hxpk', ?_, H.ready.text, H.ready.fromKey,
      hraw, H.ready.notAes, H.ready.notDes3, hd, hh, ?_⟩
    · rw [r₂.id, hlab]; rfl
    · rw [r₂.alg, halg]; rfl
    · intro n _
      exact ⟨_, signingToken_sign st ok sg n _ _ _ _ _, ha.signs name hname k hk _ d hdl hh hd⟩

/-- **One slot up to `finishBundle`.** On the store-backed signing token, from any state, an action
    that meets `GActionCore` runs through the fetches and the signing loop; the outcome of `signBundle`
    is that of `finishBundle` (algorithm agreement, then response-side re-validation) on a key set and
    signatures whose algorithm set is that of the keys configured under `sign`, and which pass
    `check_valid_signatures` whenever something is listed under `sign`. -/
theorem gslot_run (ext : Externals) (st : Store) (ok : String → Nat → Bool)
    (sg : String → Nat → Nat → Nat → Bytes → Bytes) (mods : List P11Module) (cfg : SignerConfig)
    (rawOf : String → Bytes) (p11 : KskKey → Bool → P11Key) (slot : Nat) (b : Bundle) (act : SchemaAction)
    (hb : HealthyBase ext cfg) (hact : cfg.actions.lookup slot = some act)
    (ha : GActionCore ext st sg mods cfg rawOf p11 b act) (s : TokState) :
    ∃ keys sigs s4,
      signBundle ext mods cfg slot b (signingToken st ok sg) s = (finishBundle ext cfg b keys sigs, s4) ∧
      (∀ a, a ∈ sigs.map (·.algorithm) ↔
        ∃ name ∈ act.sign, ∃ k, cfg.kskKeys.lookup name = some k ∧ k.algorithm = a) ∧
      (act.sign ≠ [] → checkValidSignatures ext.verify
        ⟨b.id, b.inception, b.expiration, keys, sigs, none⟩ cfg.responsePolicy = .ok ()) := by
  obtain ⟨pub, rev, signing, revoked, s1, s2, s3, hpub, hrev, hrevoked, hsign, esign, halgs, hidalg, hnd, hready⟩ :=
    gAction_ready ext st ok sg mods cfg rawOf p11 b act hb ha s
  obtain ⟨sigs, s4, hrun, hsa, hcv⟩ := signBundle_of_ready hact hpub hrev hrevoked hsign hb.root hnd
    (fun sk hsk => (hready sk hsk).mono (Nat.zero_le _))
  refine ⟨_, sigs, s4, hrun, fun a => by rw [hsa hidalg a, halgs a], fun hsne => hcv ?_⟩
  rintro rfl
  obtain ⟨n, hn⟩ := List.exists_mem_of_ne_nil _ hsne
  obtain ⟨_, _, hm⟩ := esign.mem.2 n hn
  cases hm

/-- the keys the `_fetch_keys` calls of a completed slot returned are exactly the `gck` of the names
    asked for (a call is a function of names and state; `gfetchKeys` says what it returns), and every record
    of the assembled key set is classified (`gslot_class`) -/
theorem gslot_of_run {ext : Externals} {st : Store} {ok : String → Nat → Bool}
    {sg : String → Nat → Nat → Nat → Bytes → Bytes} {mods : List P11Module} {cfg : SignerConfig}
    {rawOf : String → Bytes} {p11 : KskKey → Bool → P11Key} {b : Bundle} {act : SchemaAction}
    (ha : GActionCore ext st sg mods cfg rawOf p11 b act) {s s1 s2 s3 : TokState}
    {pub rev signing : List CompositeKey} {revoked : List Key}
    (hpub : fetchKeys ext mods cfg b true act.publish (signingToken st ok sg) s = (.ok pub, s1))
    (hrev : fetchKeys ext mods cfg b true act.revoke (signingToken st ok sg) s1 = (.ok rev, s2))
    (hrevoked : rev.mapM (fun ck => ck.dns.asRevoked) = .ok revoked)
    (hsign : fetchKeys ext mods cfg b false act.sign (signingToken st ok sg) s2 = (.ok signing, s3)) :
    GFetched cfg rawOf p11 true act.publish pub ∧ GFetched cfg rawOf p11 false act.sign signing ∧
      ∀ x ∈ slotFold cfg.kskPolicy.ttl (pub.map (·.dns)) revoked (signing.map (·.dns)) b.keys,
        GSlotRec cfg rawOf act b (pub.map (·.dns) ++ revoked ++ signing.map (·.dns)) x := by
  have key : ∀ (isPublic : Bool) (names : List String), (∀ n ∈ names, n ∈ act.names) → ∀ (s s' : TokState)
      (cks : List CompositeKey),
      fetchKeys ext mods cfg b isPublic names (signingToken st ok sg) s = (.ok cks, s') →
      GFetched cfg rawOf p11 isPublic names cks := by
    intro isPublic names hsub s s' cks h
    obtain ⟨cks', s'', h', hex⟩ := gfetchKeys ext st ok sg mods cfg rawOf p11 b isPublic names
      (fun n hn => ha.names n (hsub n hn)) s
    obtain rfl := Except.ok.inj (congrArg Prod.fst (h.symm.trans h'))
    exact hex
  have epub := key true _ (fun _ h => SchemaAction.publish_names h) _ _ _ hpub
  have erev := key true _ (fun _ h => SchemaAction.revoke_names h) _ _ _ hrev
  have esign := key false _ (fun _ h => SchemaAction.sign_names h) _ _ _ hsign
  exact ⟨epub, esign, gslot_class ha epub erev esign hrevoked⟩

inductive AnyLoc where
  | rsa (L : KeyLoc)
  | ec (L : EcLoc)
  deriving Inhabited

/-- the key octets published in the DNSKEY: RFC 3110 (exponent, modulus) for RSA; for EC the SEC 1 point
    `04 ‖ X ‖ Y` (finding F4) -/
def AnyLoc.raw : AnyLoc → Bytes
  | .rsa L => L.raw
  | .ec L => L.raw
def AnyLoc.path : AnyLoc → String
  | .rsa L => L.m.path
  | .ec L => L.m.path
def AnyLoc.slot : AnyLoc → Nat
  | .rsa L => L.slot
  | .ec L => L.slot
def AnyLoc.privHandle : AnyLoc → Nat
  | .rsa L => L.privO.handle
  | .ec L => L.privO.handle
def AnyLoc.p11 (label : String) (hh : Option Bool) : AnyLoc → Bool → P11Key
  | .rsa L => p11Of label hh L
  | .ec L => ecP11 label hh L

/-- the label is on the token once, as a key pair of the configured family and parameters -/
def AnyLoc.OnTokenAs (st : Store) (mods : List P11Module) (ksk : KskKey) : AnyLoc → Prop
  | .rsa L => OnToken st mods ksk.label L ∧ RsaConfigured ksk L
  | .ec L => EcOnToken st mods ksk.label L ∧ EcConfigured ksk L

theorem AnyLoc.p11_private (label : String) (hh : Option Bool) (A : AnyLoc) :
    (A.p11 label hh false).privHandle = some A.privHandle ∧ (A.p11 label hh false).module = A.path ∧
      (A.p11 label hh false).slot = A.slot := by
  cases A <;>
    simp [AnyLoc.p11, AnyLoc.privHandle, AnyLoc.path, AnyLoc.slot, p11Of, ecP11, ecP11Of, classOf, ckoPublic,
      ckoPrivate, KeyLoc.obj, EcLoc.obj]

/-- what must hold of one name the schema lists, for request bundle `b` (`HealthyName` for either family) -/
structure AnyHealthyName (ext : Externals) (st : Store) (mods : List P11Module) (cfg : SignerConfig)
    (loc : String → AnyLoc) (b : Bundle) (name : String) (ksk : KskKey) : Prop where
  configured : cfg.kskKeys.lookup name = some ksk
  window : C04.InWindow ksk b
  onToken : (loc ksk.label).OnTokenAs st mods ksk
  identity : validateDnskeyMatchesKsk ext ksk (dnsOf ksk cfg.kskPolicy.ttl (loc ksk.label).raw) = .ok ()

/-- **What must hold of one schema action and one request bundle** — `HealthyAction` for keys of either
    family, without the agreement of the algorithm sets (`AlgsAgree`, stated apart so that the refusal can
    be stated too). -/
structure AnyHealthyAction (ext : Externals) (st : Store) (sg : String → Nat → Nat → Nat → Bytes → Bytes)
    (mods : List P11Module) (cfg : SignerConfig) (loc : String → AnyLoc) (b : Bundle)
    (act : SchemaAction) : Prop where
  names : ∀ name ∈ act.names, ∃ ksk, AnyHealthyName ext st mods cfg loc b name ksk
  labelAlg : ∀ n₁ ∈ act.names, ∀ n₂ ∈ act.names, ∀ k₁ k₂, cfg.kskKeys.lookup n₁ = some k₁ →
    cfg.kskKeys.lookup n₂ = some k₂ → k₁.label = k₂.label → k₁.algorithm = k₂.algorithm
  distinctKeys : ∀ n₁ ∈ act.names, ∀ n₂ ∈ act.names, ∀ k₁ k₂, cfg.kskKeys.lookup n₁ = some k₁ →
    cfg.kskKeys.lookup n₂ = some k₂ → (loc k₁.label).raw = (loc k₂.label).raw → k₁.label = k₂.label
  zsks : b.keys ≠ []
  zskIds : b.keys.Pairwise (fun x y => x.keyIdentifier ≠ y.keyIdentifier)
  zskNotKsk : ∀ z ∈ b.keys, ∀ name ∈ act.names, ∀ k, cfg.kskKeys.lookup name = some k →
    z.keyIdentifier ≠ k.label
  zskRdata : ∀ z ∈ b.keys, ∃ r, keyToRdata z = .ok r ∧ r.length < 65536
  expiration : inRange 32 (tsSeconds b.expiration) = true
  inception : inRange 32 (tsSeconds b.inception) = true
  /-- **the signature scheme is healthy**: what the token answers to `C_Sign` on the private object of a
      signing key, for the data `_format_data_for_signing` hands over (digest + CKM_ECDSA, or the octets +
      CKM_ECDSA_SHA256/384, or the RSA forms), is accepted by the software verifier under the key text
      derived from the token, over the octets that were formatted -/
  signs : ∀ name ∈ act.sign, ∀ k, cfg.kskKeys.lookup name = some k → ∀ raw d,
    formatDataForSigning ext.hash ((loc k.label).p11 k.label k.hashUsingHsm false) raw k.algorithm = .ok d →
    ext.verify k.algorithm (Base64.encode (loc k.label).raw) raw
      (sg (loc k.label).path (loc k.label).slot (loc k.label).privHandle d.mechanism d.data) = .valid

theorem AnyHealthyAction.of_lookup {ext : Externals} {st : Store} {sg : String → Nat → Nat → Nat → Bytes → Bytes}
    {mods : List P11Module} {cfg : SignerConfig} {loc : String → AnyLoc} {b : Bundle} {act : SchemaAction}
    (ha : AnyHealthyAction ext st sg mods cfg loc b act) {name : String} {k : KskKey}
    (hname : name ∈ act.names) (hk : cfg.kskKeys.lookup name = some k) :
    AnyHealthyName ext st mods cfg loc b name k := by
  obtain ⟨k', h'⟩ := ha.names name hname
  obtain rfl := Option.some.inj (h'.configured.symm.trans hk)
  exact h'

def anyP11 (loc : String → AnyLoc) (k : KskKey) : Bool → P11Key := (loc k.label).p11 k.label k.hashUsingHsm

theorem anyHealthyName_g {ext : Externals} {st : Store} {mods : List P11Module} {cfg : SignerConfig}
    {loc : String → AnyLoc} {b : Bundle} {name : String} {ksk : KskKey}
    (h : AnyHealthyName ext st mods cfg loc b name ksk) :
    GName ext st mods cfg (fun l => (loc l).raw) (anyP11 loc) b name ksk := by
  refine ⟨h.configured, ?_, h.identity⟩
  have ht := h.onToken
  unfold anyP11
  cases hl : loc ksk.label with
  | rsa L =>
    rw [hl] at ht
    exact keyReady_rsa ext st mods cfg b ksk L h.window ht.1 ht.2
  | ec L =>
    rw [hl] at ht
    exact keyReady_ec ext st mods cfg b ksk L h.window ht.1 ht.2

theorem anyHealthyAction_core {ext : Externals} {st : Store} {sg : String → Nat → Nat → Nat → Bytes → Bytes}
    {mods : List P11Module} {cfg : SignerConfig} {loc : String → AnyLoc} {b : Bundle} {act : SchemaAction}
    (h : AnyHealthyAction ext st sg mods cfg loc b act) :
    GActionCore ext st sg mods cfg (fun l => (loc l).raw) (anyP11 loc) b act where
  names := fun name hn => by
    obtain ⟨ksk, hk⟩ := h.names name hn
    exact ⟨ksk, anyHealthyName_g hk⟩
  labelAlg := h.labelAlg
  distinctKeys := h.distinctKeys
  zsks := h.zsks
  zskIds := h.zskIds
  zskNotKsk := h.zskNotKsk
  zskRdata := h.zskRdata
  expiration := h.expiration
  inception := h.inception
  signs := fun name hn k hk raw d hdl hh hd => by
    obtain ⟨h1, h2, h3⟩ := AnyLoc.p11_private k.label k.hashUsingHsm (loc k.label)
    have hh' : (anyP11 loc k false).privHandle = some hdl := hh
    unfold anyP11 at hh' ⊢
    rw [h1] at hh'
    cases hh'
    rw [h2, h3]
    exact h.signs name hn k hk raw d hd

end Kskm
