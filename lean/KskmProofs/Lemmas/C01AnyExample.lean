/-
  A concrete healthy world with EC keys for the non-vacuity examples of C01 §5 (`AnyHealthyWorld`,
  `C01_completes_ecdsa`, `C01_completes_any`, `C01_refused_without_agreement`).

  One module, session slots 0 (a foreign RSA key) and 1, which holds
    "EA"  P-256, public object with the point WRAPPED in a DER OCTET STRING, private object WITHOUT a readable
          point (second lookup of `load_pkcs11_key`), configured algorithm 13, hashing on the token;
    "EB"  P-384, public and private object both answering the BARE point, algorithm 14, hashing on the host;
    "KA"  an RSA key pair, algorithm 8.
  Schema slot 1 = publish e f / sign e f (EC only, ZSKs of algorithms 13 and 14); slot 2 = publish a e /
  sign a e / revoke f (mixed RSA + EC, ZSKs of algorithms 8 and 13).
-/
import KskmProofs.Lemmas.C01Any
namespace Kskm.EcExample

def xy256 : Bytes := List.replicate 64 0x11
def xy384 : Bytes := List.replicate 96 0x22
def wrapped256 : Bytes := 4 :: UInt8.ofNat 65 :: 4 :: xy256
def bare384 : Bytes := 4 :: xy384

def rsaObj (h cls : Nat) (label : String) (n : Bytes) : StoreObj :=
  { handle := h, cls := cls, label := label, keyType := some ckkRsa, modulus := some n,
    publicExponent := some [1, 0, 1] }
def ecObj (h cls : Nat) (label : String) (point params : Option Bytes) : StoreObj :=
  { handle := h, cls := cls, label := label, keyType := some ckkEc, ecPoint := point, ecParams := params }

def store : Store := fun p sl =>
  if p = "mod" ∧ sl = 0 then [rsaObj 3 ckoPublic "other" [0x80, 5]]
  else if p = "mod" ∧ sl = 1 then
    [ecObj 21 ckoPublic "EA" (some wrapped256) (some ecOidP256), ecObj 22 ckoPrivate "EA" none none,
     ecObj 23 ckoPublic "EB" (some bare384) (some ecOidP384),
     ecObj 24 ckoPrivate "EB" (some bare384) (some ecOidP384),
     rsaObj 7 ckoPublic "KA" [0x80, 1], rsaObj 8 ckoPrivate "KA" [0x80, 1]]
  else []

def mod1 : P11Module := { label := "hsm", path := "mod", slots := [0, 1], sessions := [0, 1] }
def mods : List P11Module := [mod1]

def elocA : EcLoc :=
  { m := mod1, slot := 1, pubO := ecObj 21 ckoPublic "EA" (some wrapped256) (some ecOidP256),
    privO := ecObj 22 ckoPrivate "EA" none none, params := ecOidP256, point := wrapped256, xy := xy256 }
def elocB : EcLoc :=
  { m := mod1, slot := 1, pubO := ecObj 23 ckoPublic "EB" (some bare384) (some ecOidP384),
    privO := ecObj 24 ckoPrivate "EB" (some bare384) (some ecOidP384), params := ecOidP384,
    point := bare384, xy := xy384 }
def eloc (label : String) : EcLoc := if label = "EA" then elocA else elocB
def locKA : KeyLoc :=
  { m := mod1, slot := 1, pubO := rsaObj 7 ckoPublic "KA" [0x80, 1], privO := rsaObj 8 ckoPrivate "KA" [0x80, 1],
    n := [0x80, 1], e := [1, 0, 1], raw := [3, 1, 0, 1, 0x80, 1] }
def locE (label : String) : AnyLoc := .ec (eloc label)
def loc (label : String) : AnyLoc := if label = "KA" then .rsa locKA else .ec (eloc label)

/-- "EA": key tag configured (that of the DNSKEY with the PREFIXED point: F4), hashing on the token -/
def kE : KskKey :=
  { label := "EA", algorithm := 13, validFrom := 0, keyTag := some 10800, hashUsingHsm := some true }
def kF : KskKey := { label := "EB", algorithm := 14, validFrom := 1000000, validUntil := some 9000000000000000 }
def kA : KskKey := { label := "KA", algorithm := 8, validFrom := 0, rsaSize := some 16, rsaExponent := some 65537 }

def actE : SchemaAction := { publish := ["e", "f"], sign := ["e", "f"] }
def actM : SchemaAction := { publish := ["a", "e"], sign := ["a", "e"], revoke := ["f"] }
def cfg : SignerConfig :=
  { kskKeys := [("a", kA), ("e", kE), ("f", kF)], actions := [(1, actE), (2, actM)] }

def ext : Externals :=
  { hash := fun _ d => some d, verify := fun _ _ _ sg => if sg = [1, 2, 3] then .valid else .invalid }
def sg : String → Nat → Nat → Nat → Bytes → Bytes := fun _ _ _ _ _ => [1, 2, 3]

def z8 : Key := ⟨"zsk8", 2, 3600, 256, 3, 8, "AwEAAg=="⟩
def z13 : Key := ⟨"zsk13", 3, 3600, 256, 3, 13, "AwEAAw=="⟩
def z14 : Key := ⟨"zsk14", 4, 3600, 256, 3, 14, "AwEABA=="⟩
def bE : Bundle := ⟨"b1", 1700000000000000, 1701000000000000, [z13, z14], [], none⟩
def bM : Bundle := ⟨"b2", 1701000000000000, 1702000000000000, [z8, z13], [], none⟩
/-- only an RSA ZSK under the mixed action: refused -/
def bR : Bundle := ⟨"b2", 1701000000000000, 1702000000000000, [z8], [], none⟩
def reqE : Request := { id := "r", serial := 1, domain := ".", zskPolicy := {}, bundles := [bE] }
def reqM : Request := { id := "r", serial := 1, domain := ".", zskPolicy := {}, bundles := [bE, bM] }

theorem ecOnTokenA : EcOnToken store mods "EA" elocA where
  modules := ⟨[], [], rfl, by intro m' hm'; cases hm'⟩
  sessions := ⟨[0], [], rfl, by
    intro sl hsl isPublic
    simp only [List.mem_singleton] at hsl
    subst hsl
    cases isPublic <;> decide⟩
  one := by intro isPublic; cases isPublic <;> decide
  pub := ⟨by decide, rfl, rfl, rfl⟩
  priv := ⟨by decide, rfl, Or.inr (Or.inl rfl)⟩
  curve := ⟨65, by decide, by decide, .wrapped rfl⟩

theorem ecOnTokenB : EcOnToken store mods "EB" elocB where
  modules := ⟨[], [], rfl, by intro m' hm'; cases hm'⟩
  sessions := ⟨[0], [], rfl, by
    intro sl hsl isPublic
    simp only [List.mem_singleton] at hsl
    subst hsl
    cases isPublic <;> decide⟩
  one := by intro isPublic; cases isPublic <;> decide
  pub := ⟨by decide, rfl, rfl, rfl⟩
  priv := ⟨by decide, rfl, Or.inl ⟨rfl, rfl⟩⟩
  curve := ⟨97, by decide, by decide, .bare rfl (Or.inr (by decide))⟩

theorem onTokenKA : OnToken store mods "KA" locKA where
  modules := ⟨[], [], rfl, by intro m' hm'; cases hm'⟩
  sessions := ⟨[0], [], rfl, by
    intro sl hsl isPublic
    simp only [List.mem_singleton] at hsl
    subst hsl
    cases isPublic <;> decide⟩
  one := by intro isPublic; cases isPublic <;> decide
  rsa := by intro isPublic; cases isPublic <;> exact ⟨by decide, by decide, by decide, by decide⟩
  encoded := by decide +kernel
  positive := by decide
  small := by decide

theorem lookup_a : cfg.kskKeys.lookup "a" = some kA := by decide
theorem lookup_e : cfg.kskKeys.lookup "e" = some kE := by decide
theorem lookup_f : cfg.kskKeys.lookup "f" = some kF := by decide

/-- a description that agrees with `loc` on the EC labels (both `locE` and `loc` do) -/
structure Describes (loc' : String → AnyLoc) : Prop where
  ea : loc' "EA" = .ec elocA
  eb : loc' "EB" = .ec elocB

theorem describes_locE : Describes locE := ⟨rfl, rfl⟩
theorem describes_loc : Describes loc := ⟨rfl, rfl⟩

theorem healthyE {loc' : String → AnyLoc} (hd : Describes loc') (b : Bundle) (h1 : 0 ≤ b.inception) :
    AnyHealthyName ext store mods cfg loc' b "e" kE where
  configured := lookup_e
  window := ⟨h1, by intro u hu; cases hu⟩
  onToken := by
    show (loc' "EA").OnTokenAs store mods kE
    rw [hd.ea]
    exact ⟨ecOnTokenA, Or.inl ⟨rfl, rfl⟩⟩
  identity := by
    show validateDnskeyMatchesKsk ext kE (dnsOf kE cfg.kskPolicy.ttl (loc' "EA").raw) = .ok ()
    rw [hd.ea]
    decide +kernel

theorem healthyF {loc' : String → AnyLoc} (hd : Describes loc') (b : Bundle) (h1 : 1000000 ≤ b.inception)
    (h2 : b.expiration ≤ 9000000000000000) : AnyHealthyName ext store mods cfg loc' b "f" kF where
  configured := lookup_f
  window := ⟨h1, by intro u hu; cases hu; exact h2⟩
  onToken := by
    show (loc' "EB").OnTokenAs store mods kF
    rw [hd.eb]
    exact ⟨ecOnTokenB, Or.inr ⟨rfl, rfl⟩⟩
  identity := rfl

theorem healthyA (b : Bundle) (h1 : 0 ≤ b.inception) : AnyHealthyName ext store mods cfg loc b "a" kA where
  configured := lookup_a
  window := ⟨h1, by intro u hu; cases hu⟩
  onToken := ⟨onTokenKA, by decide, by decide, by decide⟩
  identity := rfl

theorem lookup_cases {n : String} {k : KskKey} (hn : n = "a" ∨ n = "e" ∨ n = "f")
    (h : cfg.kskKeys.lookup n = some k) : (n = "a" ∧ k = kA) ∨ (n = "e" ∧ k = kE) ∨ (n = "f" ∧ k = kF) := by
  rcases hn with rfl | rfl | rfl
  · rw [lookup_a] at h; exact Or.inl ⟨rfl, (Option.some.inj h).symm⟩
  · rw [lookup_e] at h; exact Or.inr (Or.inl ⟨rfl, (Option.some.inj h).symm⟩)
  · rw [lookup_f] at h; exact Or.inr (Or.inr ⟨rfl, (Option.some.inj h).symm⟩)

theorem namesE {n : String} (h : n ∈ actE.names) : n = "e" ∨ n = "f" := by
  simp only [SchemaAction.names, actE, List.cons_append, List.nil_append, List.append_nil, List.mem_cons,
    List.not_mem_nil, or_false] at h
  rcases h with h | h | h | h <;> simp [h]

theorem namesM {n : String} (h : n ∈ actM.names) : n = "a" ∨ n = "e" ∨ n = "f" := by
  simp only [SchemaAction.names, actM, List.cons_append, List.nil_append, List.mem_cons,
    List.not_mem_nil, or_false] at h
  rcases h with h | h | h | h | h <;> simp [h]

theorem raw_a : (loc "KA").raw = [3, 1, 0, 1, 0x80, 1] := rfl
theorem raw_e {loc' : String → AnyLoc} (hd : Describes loc') : (loc' "EA").raw = 4 :: xy256 := by
  rw [hd.ea]; rfl
theorem raw_f {loc' : String → AnyLoc} (hd : Describes loc') : (loc' "EB").raw = 4 :: xy384 := by
  rw [hd.eb]; rfl

theorem labelAlg_E {loc' : String → AnyLoc} (hd : Describes loc') {n₁ n₂ : String} {k₁ k₂ : KskKey}
    (h1 : n₁ = "e" ∨ n₁ = "f") (h2 : n₂ = "e" ∨ n₂ = "f")
    (l1 : cfg.kskKeys.lookup n₁ = some k₁) (l2 : cfg.kskKeys.lookup n₂ = some k₂) :
    (k₁.label = k₂.label → k₁.algorithm = k₂.algorithm) ∧
    ((loc' k₁.label).raw = (loc' k₂.label).raw → k₁.label = k₂.label) := by
  have e1 : (loc' kE.label).raw = 4 :: xy256 := raw_e hd
  have e2 : (loc' kF.label).raw = 4 :: xy384 := raw_f hd
  rcases lookup_cases (Or.inr h1) l1 with ⟨rfl, rfl⟩ | ⟨_, rfl⟩ | ⟨_, rfl⟩ <;>
    rcases lookup_cases (Or.inr h2) l2 with ⟨rfl, rfl⟩ | ⟨_, rfl⟩ | ⟨_, rfl⟩
  all_goals first
    | (rcases h1 with h | h <;> exact absurd h (by decide))
    | (rcases h2 with h | h <;> exact absurd h (by decide))
    | (rw [e1, e2]; decide)
    | (rw [e2, e1]; decide)
    | exact ⟨fun _ => rfl, fun _ => rfl⟩

theorem labelAlg_M {n₁ n₂ : String} {k₁ k₂ : KskKey}
    (h1 : n₁ = "a" ∨ n₁ = "e" ∨ n₁ = "f") (h2 : n₂ = "a" ∨ n₂ = "e" ∨ n₂ = "f")
    (l1 : cfg.kskKeys.lookup n₁ = some k₁) (l2 : cfg.kskKeys.lookup n₂ = some k₂) :
    (k₁.label = k₂.label → k₁.algorithm = k₂.algorithm) ∧
    ((loc k₁.label).raw = (loc k₂.label).raw → k₁.label = k₂.label) := by
  have e0 : (loc kA.label).raw = [3, 1, 0, 1, 0x80, 1] := rfl
  have e1 : (loc kE.label).raw = 4 :: xy256 := rfl
  have e2 : (loc kF.label).raw = 4 :: xy384 := rfl
  rcases lookup_cases h1 l1 with ⟨_, rfl⟩ | ⟨_, rfl⟩ | ⟨_, rfl⟩ <;>
    rcases lookup_cases h2 l2 with ⟨_, rfl⟩ | ⟨_, rfl⟩ | ⟨_, rfl⟩
  all_goals first
    | exact ⟨fun _ => rfl, fun _ => rfl⟩
    | (rw [e0, e1]; decide)
    | (rw [e0, e2]; decide)
    | (rw [e1, e0]; decide)
    | (rw [e1, e2]; decide)
    | (rw [e2, e0]; decide)
    | (rw [e2, e1]; decide)

theorem zskNotKsk_ok {z : Key} {n : String} {k : KskKey} (hz : z = z8 ∨ z = z13 ∨ z = z14)
    (h1 : n = "a" ∨ n = "e" ∨ n = "f") (l1 : cfg.kskKeys.lookup n = some k) : z.keyIdentifier ≠ k.label := by
  rcases lookup_cases h1 l1 with ⟨_, rfl⟩ | ⟨_, rfl⟩ | ⟨_, rfl⟩ <;> rcases hz with rfl | rfl | rfl <;> decide

theorem zskRdata_ok {z : Key} (hz : z = z8 ∨ z = z13 ∨ z = z14) :
    ∃ r, keyToRdata z = .ok r ∧ r.length < 65536 := by
  rcases hz with rfl | rfl | rfl
  · exact ⟨_, eq_okOr [] (by decide +kernel), by decide +kernel⟩
  · exact ⟨_, eq_okOr [] (by decide +kernel), by decide +kernel⟩
  · exact ⟨_, eq_okOr [] (by decide +kernel), by decide +kernel⟩

theorem healthyActionE {loc' : String → AnyLoc} (hd : Describes loc') :
    AnyHealthyAction ext store sg mods cfg loc' bE actE where
  names := by
    intro n hn
    rcases namesE hn with rfl | rfl
    · exact ⟨kE, healthyE hd bE (by decide)⟩
    · exact ⟨kF, healthyF hd bE (by decide) (by decide)⟩
  labelAlg := fun n₁ h1 n₂ h2 k₁ k₂ l1 l2 => (labelAlg_E hd (namesE h1) (namesE h2) l1 l2).1
  distinctKeys := fun n₁ h1 n₂ h2 k₁ k₂ l1 l2 => (labelAlg_E hd (namesE h1) (namesE h2) l1 l2).2
  zsks := by decide
  zskIds := by decide
  zskNotKsk := fun z hz n hn k l =>
    zskNotKsk_ok (by right; simpa [bE] using hz) (Or.inr (namesE hn)) l
  zskRdata := fun z hz => zskRdata_ok (by right; simpa [bE] using hz)
  expiration := by decide
  inception := by decide
  signs := fun _ _ _ _ _ _ _ => rfl

theorem agreeE : AlgsAgree cfg bE actE := by
  intro a
  constructor
  · intro h
    have : a = 13 ∨ a = 14 := by simpa [bE, z13, z14] using h
    rcases this with rfl | rfl
    · exact ⟨"e", by simp [actE], kE, lookup_e, rfl⟩
    · exact ⟨"f", by simp [actE], kF, lookup_f, rfl⟩
  · rintro ⟨n, hn, k, l, rfl⟩
    have : n = "e" ∨ n = "f" := by simpa [actE] using hn
    rcases this with rfl | rfl
    · rw [lookup_e] at l; cases l; decide
    · rw [lookup_f] at l; cases l; decide

theorem healthyActionM (b : Bundle) (hne : b.keys ≠ [])
    (hids : b.keys.Pairwise (fun x y => x.keyIdentifier ≠ y.keyIdentifier))
    (hz : ∀ z ∈ b.keys, z = z8 ∨ z = z13) (h1 : 1000000 ≤ b.inception) (h2 : b.expiration ≤ 9000000000000000)
    (he : inRange 32 (tsSeconds b.expiration) = true) (hi : inRange 32 (tsSeconds b.inception) = true) :
    AnyHealthyAction ext store sg mods cfg loc b actM where
  names := by
    intro n hn
    rcases namesM hn with rfl | rfl | rfl
    · exact ⟨kA, healthyA b (by omega)⟩
    · exact ⟨kE, healthyE describes_loc b (by omega)⟩
    · exact ⟨kF, healthyF describes_loc b h1 h2⟩
  labelAlg := fun n₁ h1 n₂ h2 k₁ k₂ l1 l2 => (labelAlg_M (namesM h1) (namesM h2) l1 l2).1
  distinctKeys := fun n₁ h1 n₂ h2 k₁ k₂ l1 l2 => (labelAlg_M (namesM h1) (namesM h2) l1 l2).2
  zsks := hne
  zskIds := hids
  zskNotKsk := fun z hz' n hn k l => zskNotKsk_ok (by
    rcases hz z hz' with h | h
    · exact Or.inl h
    · exact Or.inr (Or.inl h)) (namesM hn) l
  zskRdata := fun z hz' => zskRdata_ok (by
    rcases hz z hz' with h | h
    · exact Or.inl h
    · exact Or.inr (Or.inl h))
  expiration := he
  inception := hi
  signs := fun _ _ _ _ _ _ _ => rfl

theorem healthyActionM_bM : AnyHealthyAction ext store sg mods cfg loc bM actM :=
  healthyActionM bM (by decide) (by decide) (by intro z hz; simpa [bM] using hz) (by decide) (by decide)
    (by decide) (by decide)

theorem healthyActionM_bR : AnyHealthyAction ext store sg mods cfg loc bR actM :=
  healthyActionM bR (by decide) (by decide) (by intro z hz; left; simpa [bR] using hz) (by decide) (by decide)
    (by decide) (by decide)

theorem agreeM : AlgsAgree cfg bM actM := by
  intro a
  constructor
  · intro h
    have : a = 8 ∨ a = 13 := by simpa [bM, z8, z13] using h
    rcases this with rfl | rfl
    · exact ⟨"a", by simp [actM], kA, lookup_a, rfl⟩
    · exact ⟨"e", by simp [actM], kE, lookup_e, rfl⟩
  · rintro ⟨n, hn, k, l, rfl⟩
    have : n = "a" ∨ n = "e" := by simpa [actM] using hn
    rcases this with rfl | rfl
    · rw [lookup_a] at l; cases l; decide
    · rw [lookup_e] at l; cases l; decide

theorem not_agreeR : ¬ AlgsAgree cfg bR actM := by
  intro h
  have := (h 13).mpr ⟨"e", by simp [actM], kE, lookup_e, rfl⟩
  simp [bR, z8] at this

theorem base : HealthyBase ext cfg := ⟨rfl, by decide, fun _ d => ⟨d, rfl⟩⟩

end Kskm.EcExample
