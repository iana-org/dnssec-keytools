/-
  Helper lemmas for C01 "completion" with EC keys (P-256 / P-384): from a store-level description of
  a healthy token holding EC key pairs to a successful run of `get_p11_key` / `load_pkcs11_key`.
-/
import KskmProofs.Lemmas.SignerComplete
namespace Kskm

/-- module, slot, the public and the private object, curve OID (CKA_EC_PARAMS), the CKA_EC_POINT
    octets as the token stores them, and the affine coordinates `X ‖ Y` of one EC key pair -/
structure EcLoc where
  m : P11Module
  slot : Nat
  pubO : StoreObj
  privO : StoreObj
  params : Bytes
  point : Bytes
  xy : Bytes
  deriving Repr, Inhabited

def EcLoc.obj (L : EcLoc) (isPublic : Bool) : StoreObj := if isPublic then L.pubO else L.privO

/-- the SEC 1 uncompressed point `04 ‖ X ‖ Y` — the octets the tool PUBLISHES (finding F4; RFC 6605
    wants `X ‖ Y`) -/
def EcLoc.raw (L : EcLoc) : Bytes := 4 :: L.xy

/-- **How the token presents the point** whose coordinates are `xy`, for a curve whose uncompressed
    point has `k` octets:
    * `wrapped`: a DER OCTET STRING `04 k 04 X Y` (SoftHSM2, PKCS#11 v2.40) — unwrapped by either rule;
    * `bare`: `04 X Y` itself — taken as it is when the tree has the repaired rule
      (`ecUnwrapChecksLength = true`), and under the unrepaired rule unless its first three octets look
      like a wrapper of itself (X starts `3f 04` / `5f 04`: finding F24, C15 `ec_bare_refused_pinned`). -/
inductive EcForm (k : Nat) (point xy : Bytes) : Prop
  | wrapped (h : point = 4 :: UInt8.ofNat k :: 4 :: xy)
  | bare (h : point = 4 :: xy)
      (hrule : KskmGen.ecUnwrapChecksLength = true ∨
        point.take 3 ≠ [4, UInt8.ofNat (point.length - 2), 4])

theorem ecForm_derive {params point xy : Bytes} {k : Nat} (hk : C15.ecPointOctets params = some k)
    (hxy : xy.length + 1 = k) (hf : EcForm k point xy) :
    ecDerive point params = .ok (some (Base64.encode (4 :: xy))) ∧
      2 ≤ point.length ∧ point.length < 258 := by
  have hk' := C15.ecPointOctets_size hk
  cases hf with
  | wrapped h =>
    subst h
    refine ⟨?_, by simp, by simp; omega⟩
    rw [ecDerive_eq_with]
    exact (C15.ec_wrapped_either_rule _ xy params k hk hxy).1
  | bare h hrule =>
    subst h
    have hl : (4 :: xy).length = k := by simp; omega
    refine ⟨?_, by simp; omega, by simp; omega⟩
    rcases hrule with hr | hr
    · rw [ecDerive_eq_with, hr]
      exact C15.ec_bare_any_octets_repaired _ params k hk hl
    · have hun : ecUnwrap (4 :: xy) = 4 :: xy := ecUnwrapWith_of_not_prefix _ _ hr
      rw [C15.ecDerive_of_length _ params k hk (by rw [hun]; exact hl), hun]

structure EcPubObj (st : Store) (path : String) (slot : Nat) (o : StoreObj) (point params : Bytes) : Prop where
  find : (st path slot).find? (·.handle == o.handle) = some o
  keyType : o.keyType = some ckkEc
  point : o.ecPoint = some point
  params : o.ecParams = some params

/-- an EC private object: either it answers CKA_EC_POINT / CKA_EC_PARAMS like the public object, or
    it has no readable point (absent or empty: SoftHSM2 and most devices) — then `load_pkcs11_key`
    asks for the public object -/
structure EcPrivObj (st : Store) (path : String) (slot : Nat) (o : StoreObj) (point params : Bytes) : Prop where
  find : (st path slot).find? (·.handle == o.handle) = some o
  keyType : o.keyType = some ckkEc
  point : (o.ecPoint = some point ∧ o.ecParams = some params) ∨ o.ecPoint = none ∨ o.ecPoint = some []

/-- **The EC label is on the token, once** (cf. `OnToken`): the first slot (module order, session-slot
    order) holding any public or private object under `label` is slot `L.slot` of module `L.m`; it holds
    exactly one public and exactly one private object under that label, both EC; the public object
    answers the point in one of the two forms for the curve named by its CKA_EC_PARAMS. -/
structure EcOnToken (st : Store) (mods : List P11Module) (label : String) (L : EcLoc) : Prop where
  modules : ∃ pre post, mods = pre ++ L.m :: post ∧
    ∀ m' ∈ pre, ∀ sl ∈ m'.sessions, ∀ isPublic, matching st m' label (classOf isPublic) sl = []
  sessions : ∃ spre spost, L.m.sessions = spre ++ L.slot :: spost ∧
    ∀ sl ∈ spre, ∀ isPublic, matching st L.m label (classOf isPublic) sl = []
  one : ∀ isPublic, matching st L.m label (classOf isPublic) L.slot = [L.obj isPublic]
  pub : EcPubObj st L.m.path L.slot L.pubO L.point L.params
  priv : EcPrivObj st L.m.path L.slot L.privO L.point L.params
  /-- P-256 (65-octet point) or P-384 (97), coordinates of that size, presented wrapped or bare -/
  curve : ∃ k, C15.ecPointOctets L.params = some k ∧ L.xy.length + 1 = k ∧ EcForm k L.point L.xy

theorem EcOnToken.raw_length {st : Store} {mods : List P11Module} {label : String} {L : EcLoc}
    (h : EcOnToken st mods label L) :
    (L.params = ecOidP256 ∧ L.raw.length = 65) ∨ (L.params = ecOidP384 ∧ L.raw.length = 97) := by
  obtain ⟨k, hk, hxy, _⟩ := h.curve
  rcases C15.ecPointOctets_cases hk with ⟨h1, h2⟩ | ⟨h1, h2⟩
  · left; exact ⟨h1, by simp [EcLoc.raw]; omega⟩
  · right; exact ⟨h1, by simp [EcLoc.raw]; omega⟩

/-- the key record `find_key_by_label` builds for that object, with key text `pk` -/
def ecP11Of (label : String) (hh : Option Bool) (L : EcLoc) (isPublic : Bool) (pk : Option String) : P11Key :=
  { label, keyType := .ec, keyClass := classOf isPublic, hashUsingHsm := hh,
    publicKey := pk, module := L.m.path, slot := L.slot,
    privHandle := if classOf isPublic ≠ ckoPublic then some (L.obj isPublic).handle else none,
    pubHandle := if classOf isPublic ≠ ckoSecret then some (L.obj isPublic).handle else none }

theorem ec_conv_present (st : Store) (ok : String → Nat → Bool) (path : String) (slot : Nat) (o : StoreObj)
    (point params xy : Bytes) (k : Nat)
    (hfind : (st path slot).find? (·.handle == o.handle) = some o) (hkt : o.keyType = some ckkEc)
    (hp : o.ecPoint = some point) (hpar : o.ecParams = some params)
    (hk : C15.ecPointOctets params = some k) (hxy : xy.length + 1 = k) (hf : EcForm k point xy)
    (s : TokState) :
    ∃ s1, p11ObjectToPublicKey path slot o.handle (storeToken st ok) s =
      (.ok (some (Base64.encode (4 :: xy))), s1) := by
  have ha : C15.EcAnswers (storeToken st ok) path slot o.handle point params :=
    ⟨fun i => by rw [storeToken_getAttr1 st ok i path slot _ o hfind, o.attr_keyType _ hkt],
     fun i => by rw [storeToken_getAttr1 st ok i path slot _ o hfind, o.attr_ecPoint, hp]; rfl,
     fun i => by rw [storeToken_getAttr1 st ok i path slot _ o hfind, o.attr_ecParams, hpar]; rfl⟩
  obtain ⟨hd, hl1, hl2⟩ := ecForm_derive hk hxy hf
  exact ⟨_, by rw [C15.derived_key_ec _ path slot o.handle point params ha ⟨hl1, hl2⟩ s, hd]⟩

theorem ec_conv_absent (st : Store) (ok : String → Nat → Bool) (path : String) (slot : Nat) (o : StoreObj)
    (hfind : (st path slot).find? (·.handle == o.handle) = some o) (hkt : o.keyType = some ckkEc)
    (hp : o.ecPoint = none ∨ o.ecPoint = some []) (s : TokState) :
    ∃ s1, p11ObjectToPublicKey path slot o.handle (storeToken st ok) s = (.ok none, s1) := by
  refine ⟨_, C15.derived_key_ec_absent (storeToken st ok) path slot o.handle (optBytes o.ecPoint)
    (fun i => by rw [storeToken_getAttr1 st ok i path slot _ o hfind, o.attr_keyType _ hkt])
    (fun i => by rw [storeToken_getAttr1 st ok i path slot _ o hfind, o.attr_ecPoint]) ?_ s⟩
  rcases hp with h | h <;> rw [h]
  · left; rfl
  · right; rfl

/-- the key text the first lookup of the requested class yields: the point's text, or nothing for a
    private object without a readable point -/
def EcLoc.firstText (L : EcLoc) (isPublic : Bool) : Option String :=
  if isPublic then some (Base64.encode L.raw)
  else if L.privO.ecPoint = none ∨ L.privO.ecPoint = some [] then none else some (Base64.encode L.raw)

theorem getP11Key_ecOnToken (st : Store) (ok : String → Nat → Bool) (mods : List P11Module)
    (label : String) (hh : Option Bool) (L : EcLoc) (h : EcOnToken st mods label L) (isPublic : Bool)
    (s : TokState) :
    ∃ s', getP11Key label isPublic hh mods (storeToken st ok) s =
      (.ok (some (ecP11Of label hh L isPublic (L.firstText isPublic))), s') := by
  obtain ⟨pre, post, hm, hpre⟩ := h.modules
  obtain ⟨spre, spost, hs, hspre⟩ := h.sessions
  obtain ⟨k, hk, hxy, hf⟩ := h.curve
  have hfind : (st L.m.path L.slot).find? (·.handle == (L.obj isPublic).handle) = some (L.obj isPublic) := by
    cases isPublic
    · exact h.priv.find
    · exact h.pub.find
  have hkt : (L.obj isPublic).keyType = some ckkEc := by
    cases isPublic
    · exact h.priv.keyType
    · exact h.pub.keyType
  have hconv : ∀ s, ∃ s1, p11ObjectToPublicKey L.m.path L.slot (L.obj isPublic).handle (storeToken st ok) s =
      (.ok (L.firstText isPublic), s1) := by
    intro s
    cases isPublic
    · by_cases habs : L.privO.ecPoint = none ∨ L.privO.ecPoint = some []
      · simp only [EcLoc.firstText, Bool.false_eq_true, ↓reduceIte, habs, EcLoc.obj]
        exact ec_conv_absent st ok _ _ _ h.priv.find h.priv.keyType habs s
      · simp only [EcLoc.firstText, Bool.false_eq_true, ↓reduceIte, habs, EcLoc.obj]
        rcases h.priv.point with ⟨hp, hpar⟩ | hp
        · exact ec_conv_present st ok _ _ _ _ _ _ k h.priv.find h.priv.keyType hp hpar hk hxy hf s
        · exact absurd hp habs
    · simp only [EcLoc.firstText, ↓reduceIte, EcLoc.obj]
      exact ec_conv_present st ok _ _ _ _ _ _ k h.pub.find h.pub.keyType h.pub.point h.pub.params hk hxy hf s
  exact C15.getP11Key_first_conv st ok mods label isPublic hh L.m L.slot (L.obj isPublic) ckkEc .ec _
    ⟨pre, post, hm, fun m' hm' sl hsl => hpre m' hm' sl hsl isPublic⟩
    ⟨spre, spost, hs, fun sl hsl => hspre sl hsl isPublic⟩ (h.one isPublic) hfind hkt rfl hconv s

/-- the configured algorithm is the ECDSA algorithm of the curve the token names:
    13 ↔ P-256, 14 ↔ P-384 (RFC 6605) -/
def EcConfigured (ksk : KskKey) (L : EcLoc) : Prop :=
  (ksk.algorithm = 13 ∧ L.params = ecOidP256) ∨ (ksk.algorithm = 14 ∧ L.params = ecOidP384)

theorem EcConfigured.alg_cases {ksk : KskKey} {L : EcLoc} (h : EcConfigured ksk L) :
    ksk.algorithm = 13 ∨ ksk.algorithm = 14 :=
  h.imp And.left And.left

theorem EcConfigured.ecdsa {ksk : KskKey} {L : EcLoc} (h : EcConfigured ksk L) :
    isAlgorithmEcdsa ksk.algorithm = true := by
  rcases h with ⟨h, _⟩ | ⟨h, _⟩ <;> rw [h] <;> decide

theorem EcConfigured.alg_lt {ksk : KskKey} {L : EcLoc} (h : EcConfigured ksk L) : ksk.algorithm < 256 := by
  rcases h with ⟨h, _⟩ | ⟨h, _⟩ <;> omega

theorem EcConfigured.not_rsa {ksk : KskKey} {L : EcLoc} (h : EcConfigured ksk L) :
    isAlgorithmRsa ksk.algorithm = false := by
  rcases h with ⟨h, _⟩ | ⟨h, _⟩ <;> rw [h] <;> decide

theorem EcConfigured.size {st : Store} {mods : List P11Module} {label : String} {ksk : KskKey} {L : EcLoc}
    (h : EcConfigured ksk L) (ht : EcOnToken st mods label L) :
    (ksk.algorithm = 13 ∧ L.xy.length = 64) ∨ (ksk.algorithm = 14 ∧ L.xy.length = 96) := by
  have hne : ecOidP256 ≠ ecOidP384 := by decide
  rcases h with ⟨ha, hp⟩ | ⟨ha, hp⟩ <;> rcases ht.raw_length with ⟨hq, hl⟩ | ⟨hq, hl⟩ <;>
    simp only [EcLoc.raw, List.length_cons] at hl
  · left; exact ⟨ha, by omega⟩
  · exact absurd (hp.symm.trans hq) hne
  · exact absurd (hq.symm.trans hp) hne
  · right; exact ⟨ha, by omega⟩

/-- the pydantic validators of `Key` accept the PREFIXED point for the matching algorithm
    (`ecdsa_public_key_without_prefix` strips the `04` for the size check only) -/
theorem key_validate_ec (label : String) (ttl : Int) (xy : Bytes) (alg : Nat) (flags : Int)
    (hfl : flags = 257 ∨ flags = 385 ∨ flags = 256)
    (h : (alg = 13 ∧ xy.length = 64) ∨ (alg = 14 ∧ xy.length = 96)) :
    Key.validate ⟨label, 0, ttl, flags, 3, alg, Base64.encode (4 :: xy)⟩ = .ok () := by
  rcases h with ⟨rfl, hl⟩ | ⟨rfl, hl⟩ <;>
    simp [Key.validate, isAlgorithmEcdsa, algECDSAP256, algECDSAP384, Base64.decode_encode,
      ecdsaWithoutPrefix, expectedEcdsaKeySize, getEcdsaPubkeySize, hl, bind, Except.bind, pure,
      Except.pure, hfl]

theorem publicKeyToDnssecKey_ec (ksk : KskKey) (ttl : Int) (xy : Bytes)
    (h : (ksk.algorithm = 13 ∧ xy.length = 64) ∨ (ksk.algorithm = 14 ∧ xy.length = 96)) :
    publicKeyToDnssecKey (Base64.encode (4 :: xy)) ksk.label ksk.algorithm ttl 257 =
      .ok (dnsOf ksk ttl (4 :: xy)) := by
  have ha : ksk.algorithm < 256 := by rcases h with ⟨h, _⟩ | ⟨h, _⟩ <;> omega
  have hrd : keyToRdata ⟨ksk.label, 0, ttl, 257, 3, ksk.algorithm, Base64.encode (4 :: xy)⟩ =
      .ok (rdataOf 257 3 ksk.algorithm (4 :: xy)) := keyToRdata_dnsOf ksk ttl (4 :: xy) 257 0 (by omega) ha
  have hv := key_validate_ec ksk.label ttl xy ksk.algorithm 257 (Or.inl rfl) h
  simp only [publicKeyToDnssecKey, hv, calculateKeyTag, hrd, bind, Except.bind, pure, Except.pure]
  rfl

theorem encode_cons_ne_empty (a : UInt8) (r : Bytes) : Base64.encode (a :: r) ≠ "" := by
  intro he
  have := Base64.decode_encode (a :: r)
  rw [he] at this
  have h0 : Base64.decode "" = some [] := by decide
  rw [h0] at this
  cases this

/-- the key record after the optional second lookup: the public object's key text -/
def ecP11 (label : String) (hh : Option Bool) (L : EcLoc) (isPublic : Bool) : P11Key :=
  ecP11Of label hh L isPublic (some (Base64.encode L.raw))

/-- "Query again for the public key": a private object without a readable point gets the key text of
    the public object; otherwise nothing is asked -/
theorem refetchPublic_ec (st : Store) (ok : String → Nat → Bool) (mods : List P11Module) (ksk : KskKey)
    (L : EcLoc) (h : EcOnToken st mods ksk.label L) (isPublic : Bool) (s1 : TokState) :
    ∃ s', refetchPublic mods ksk isPublic
        (ecP11Of ksk.label ksk.hashUsingHsm L isPublic (L.firstText isPublic)) (storeToken st ok) s1 =
      (.ok (ecP11 ksk.label ksk.hashUsingHsm L isPublic), s') := by
  by_cases hcase : isPublic = false ∧ (L.privO.ecPoint = none ∨ L.privO.ecPoint = some [])
  · obtain ⟨rfl, habs⟩ := hcase
    obtain ⟨s2, hg2⟩ := getP11Key_ecOnToken st ok mods ksk.label ksk.hashUsingHsm L h true s1
    refine ⟨s2, ?_⟩
    have hft : L.firstText false = none := by simp [EcLoc.firstText, habs]
    unfold refetchPublic
    rw [hft]
    simp only [ecP11Of, Option.isNone_none, Bool.not_false, Bool.and_self, ↓reduceIte]
    rw [bind_run_ok _ _ _ _ _ _ hg2]
    rfl
  · refine ⟨s1, ?_⟩
    have hft : L.firstText isPublic = some (Base64.encode L.raw) := by
      cases isPublic
      · have : ¬ (L.privO.ecPoint = none ∨ L.privO.ecPoint = some []) := fun hc => hcase ⟨rfl, hc⟩
        simp [EcLoc.firstText, this]
      · simp [EcLoc.firstText]
    unfold refetchPublic
    rw [hft]
    simp only [ecP11Of, Option.isNone_some, Bool.false_and, Bool.false_eq_true, ↓reduceIte]
    rfl

/-- the composite key `load_pkcs11_key` returns for an EC key -/
def ecCkOf (ksk : KskKey) (ttl : Int) (L : EcLoc) (isPublic : Bool) : CompositeKey :=
  { p11 := ecP11 ksk.label ksk.hashUsingHsm L isPublic, dns := dnsOf ksk ttl L.raw }

/-- **`load_pkcs11_key` succeeds** on the store-backed token for an EC key that is on the token with the
    configured algorithm's curve, inside its window — public and private lookup, private object with or
    without a readable point, from any state — and returns `ecCkOf`: the DNSKEY of `04 ‖ X ‖ Y`. -/
theorem loadPkcs11Key_ecOnToken (st : Store) (ok : String → Nat → Bool) (mods : List P11Module)
    (ksk : KskKey) (pol : KskPolicy) (b : Bundle) (L : EcLoc) (hw : C04.InWindow ksk b)
    (h : EcOnToken st mods ksk.label L) (hc : EcConfigured ksk L) (isPublic : Bool) (s : TokState) :
    ∃ s', loadPkcs11Key mods ksk pol b isPublic (storeToken st ok) s =
      (.ok (some (ecCkOf ksk pol.ttl L isPublic)), s') := by
  obtain ⟨s1, hg⟩ := getP11Key_ecOnToken st ok mods ksk.label ksk.hashUsingHsm L h isPublic s
  obtain ⟨s2, hr⟩ := refetchPublic_ec st ok mods ksk L h isPublic s1
  exact ⟨s2, (C04.loaded_iff mods ksk pol b isPublic _ s s2 _).mpr
    ⟨hw, _, s1, _, hg, hr, Base64.encode L.raw, rfl, encode_cons_ne_empty _ _, rfl,
      publicKeyToDnssecKey_ec ksk pol.ttl L.xy (hc.size h), Or.inr ⟨rfl, Or.inl hc.ecdsa⟩⟩⟩

end Kskm
