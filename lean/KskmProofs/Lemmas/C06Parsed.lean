/-
  C06 helper lemmas: every declared algorithm entry that the KSR parser (`_parse_signature_algorithms`
  as modelled in `Kskm.XmlGlue`) can produce has the element kind of its number's family — the parser
  chooses the element by the algorithm NUMBER.  Hence `DeclaredWellFormed` holds of every parsed request.
-/
import Kskm.XmlGlue
import KskmProofs.Lemmas.C06
import KskmProofs.Lemmas.XmlStore
namespace Kskm.C06L
open Kskm.Xml

def EntryWellFormed (a : AlgPolicy) : Prop :=
  (a.kind = .ecdsa → isAlgorithmEcdsa a.algorithm = true) ∧
  (a.kind = .eddsa → isAlgorithmEddsa a.algorithm = true)

theorem algPolicyOf_wf (this : XVal) (a : AlgPolicy) (h : algPolicyOf this = .ok a) :
    EntryWellFormed a := by
  unfold algPolicyOf at h
  obtain ⟨_, _, h⟩ := Res.bind_ok h
  obtain ⟨_, _, h⟩ := Res.bind_ok h
  obtain ⟨alg, _, h⟩ := Res.bind_ok h
  split at h
  · repeat (obtain ⟨_, _, h⟩ := Res.bind_ok h)
    simp only [pure, Except.pure, Except.ok.injEq] at h
    subst h
    exact ⟨fun hk => (by simp at hk), fun hk => (by simp at hk)⟩
  · split at h
    · rename_i hec
      repeat (obtain ⟨_, _, h⟩ := Res.bind_ok h)
      simp only [pure, Except.pure, Except.ok.injEq] at h
      subst h
      exact ⟨fun _ => hec, fun hk => (by simp at hk)⟩
    · split at h
      · rename_i hed
        repeat (obtain ⟨_, _, h⟩ := Res.bind_ok h)
        simp only [pure, Except.pure, Except.ok.injEq] at h
        subst h
        exact ⟨fun hk => (by simp at hk), fun _ => hed⟩
      · cases h

theorem signatureAlgorithmsOf_wf (v : XVal) (l : List AlgPolicy) (h : signatureAlgorithmsOf v = .ok l) :
    ∀ a ∈ l, EntryWellFormed a := by
  unfold signatureAlgorithmsOf at h
  obtain ⟨l', hl', h⟩ := Res.bind_ok h
  simp only [pure, Except.pure, Except.ok.injEq] at h
  subst h
  intro a ha
  obtain ⟨x, _, hx⟩ := ((mapM_ok_mem _ _ _ hl').1 a).mp ((Xml.mem_dedup' a _).mp ha)
  exact algPolicyOf_wf x a hx

theorem signaturePolicyOf_wf (p : XVal) (sp : SigPolicy) (h : signaturePolicyOf p = .ok sp) :
    ∀ a ∈ sp.algorithms, EntryWellFormed a := by
  unfold signaturePolicyOf at h
  repeat (obtain ⟨_, _, h⟩ := Res.bind_ok h)
  simp only [pure, Except.pure, Except.ok.injEq] at h
  subst h
  exact signatureAlgorithmsOf_wf _ _ (by assumption)

theorem requestFromDict_wf (gs : GlueSwitches) (data : XVal) (req : Request)
    (h : requestFromDict gs data = .ok req) : ∀ a ∈ req.zskPolicy.algorithms, EntryWellFormed a := by
  unfold requestFromDict at h
  iterate 10 (obtain ⟨_, _, h⟩ := Res.bind_ok h)
  obtain ⟨zp, hzp, h⟩ := Res.bind_ok h
  have hwf := signaturePolicyOf_wf _ zp hzp
  clear hzp
  repeat (obtain ⟨_, _, h⟩ := Res.bind_ok h)
  simp only [pure, Except.pure, Except.ok.injEq] at h
  subst h
  exact hwf

end Kskm.C06L
