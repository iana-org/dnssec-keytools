/-
  Helper lemmas for C07 (proof of possession), and `VerifierSays`: what the verifier was asked and what
  it answered, the notion the property theorems of `KskmProofs/C07.lean` (and C08's) are stated in.
-/
import Kskm.KsrPolicy
import KskmProofs.Lemmas.Res

namespace Kskm

/-- what the verifier was asked about signature `sig` of bundle `b`, and that it answered `r`:
    the key is the one published under the signature's identifier, the message is the RRSIG
    to-be-signed octets over the bundle's whole key set -/
def VerifierSays (verify : Verifier) (b : Bundle) (sig : Signature) (r : VerifyResult) : Prop :=
  ∃ key sb raw, lookupKey b.keys sig.keyIdentifier = some key ∧ publicKeyFromKey key = .ok () ∧
    Base64.decode sig.signatureData = some sb ∧ makeRawRrsig sig b.keys = .ok raw ∧
    verify key.algorithm key.publicKey raw sb = r

end Kskm

namespace Kskm.C07L

theorem hasDupIds_eq_false_iff (l : List Key) :
    hasDupIds l = false ↔ (l.map (·.keyIdentifier)).Nodup :=
  dupScan_eq_false_iff (·.keyIdentifier) hasDupIds rfl (fun _ _ => rfl) l

theorem lookupKey_some {keys : List Key} {id : String} {k : Key} (h : lookupKey keys id = some k) :
    k ∈ keys ∧ k.keyIdentifier = id := by
  unfold lookupKey at h
  exact ⟨List.mem_of_find?_eq_some h, by simpa using List.find?_some h⟩

theorem lookupKey_none {keys : List Key} {id : String} :
    lookupKey keys id = none ↔ ∀ k ∈ keys, k.keyIdentifier ≠ id := by
  unfold lookupKey
  rw [List.find?_eq_none]
  simp

theorem lookupKey_of_mem : ∀ {keys : List Key} {k : Key}, (keys.map (·.keyIdentifier)).Nodup → k ∈ keys →
    lookupKey keys k.keyIdentifier = some k
  | [], _, _, h => by simp at h
  | a :: r, k, hn, h => by
    simp only [List.map_cons, List.nodup_cons, List.mem_map, not_exists, not_and] at hn
    unfold lookupKey
    rw [List.find?_cons]
    rcases List.mem_cons.mp h with rfl | hk
    · simp
    · have : a.keyIdentifier ≠ k.keyIdentifier := fun e => hn.1 k hk e.symm
      simp only [this, decide_false]
      exact lookupKey_of_mem hn.2 hk

theorem eq_of_same_id {keys : List Key} {a b : Key} (hn : (keys.map (·.keyIdentifier)).Nodup)
    (ha : a ∈ keys) (hb : b ∈ keys) (h : a.keyIdentifier = b.keyIdentifier) : a = b := by
  have h1 := lookupKey_of_mem hn ha
  have h2 := lookupKey_of_mem hn hb
  rw [h] at h1
  rw [h1] at h2
  exact Option.some.inj h2

theorem rrsigHeader_length (tc a l o e i t : Nat) : (rrsigHeader tc a l o e i t).length = 18 := by
  simp [rrsigHeader, be16, be8, be32]

theorem makeRawRrsig_ok_iff (s : Signature) (k : List Key) (raw : Bytes) :
    makeRawRrsig s k = .ok raw ↔
      (s.typeCovered < 65536 ∧ s.algorithm < 256 ∧ inRange 8 s.labels = true ∧
        inRange 32 s.originalTtl = true ∧ inRange 32 (tsSeconds s.expiration) = true ∧
        inRange 32 (tsSeconds s.inception) = true ∧ inRange 16 s.keyTag = true) ∧
      s.signersName = "." ∧
      ∃ rd, k.mapM keyToRdata = .ok rd ∧ (∀ r ∈ rd, r.length < 65536) ∧
        raw = rawRrsigOf s.typeCovered s.algorithm s.labels.toNat s.originalTtl.toNat
          (tsSeconds s.expiration).toNat (tsSeconds s.inception).toNat s.keyTag.toNat rd := by
  unfold makeRawRrsig dn2wire
  simp only [res_ok]
  simp [and_assoc, eq_comm (a := raw)]

/-- the body of the `for sig in bundle.signatures` loop of `validate_signatures` -/
def sigStep (verify : Verifier) (b : Bundle) (sig : Signature) : Res Unit := do
  match lookupKey b.keys sig.keyIdentifier with
  | none => err .value
  | some key =>
    publicKeyFromKey key
    match Base64.decode sig.signatureData with
    | none => unsupported
    | some sigBytes =>
      let raw ← makeRawRrsig sig b.keys
      match verify key.algorithm key.publicKey raw sigBytes with
      | .valid => pure ()
      | .invalid => err .invalidSignature
      | .error k => err k
      | .unknown => unsupported

theorem sigStep_ok_iff (verify : Verifier) (b : Bundle) (sig : Signature) :
    sigStep verify b sig = .ok () ↔ VerifierSays verify b sig .valid := by
  unfold sigStep VerifierSays
  cases lookupKey b.keys sig.keyIdentifier <;> simp only [res_ok] <;> simp
  cases Base64.decode sig.signatureData <;> simp only [res_ok] <;> simp
  refine fun _ => exists_congr fun raw => and_congr_right fun _ => ?_
  cases verify _ _ raw _ <;> simp only [res_ok] <;> simp

theorem sigStep_invalid (verify : Verifier) (b : Bundle) (sig : Signature)
    (h : VerifierSays verify b sig .invalid) : sigStep verify b sig = err .invalidSignature := by
  obtain ⟨key, sb, raw, hk, hp, hd, hr, hv⟩ := h
  unfold sigStep
  simp [hk, hp, hd, hr, hv, bind, Except.bind]

theorem validateSignatures_says_iff (verify : Verifier) (b : Bundle) :
    validateSignatures verify b = .ok () ↔
      b.keys ≠ [] ∧ b.signatures ≠ [] ∧ hasDupIds b.keys = false ∧
      ∀ sig ∈ b.signatures, VerifierSays verify b sig .valid := by
  unfold validateSignatures
  simp only [res_ok, List.isEmpty_iff, Bool.not_eq_true, ne_eq]
  exact and_congr_right fun _ => and_congr_right fun _ => and_congr_right fun _ =>
    forall_congr' fun s => imp_congr_right fun _ => sigStep_ok_iff verify b s

theorem validateSignatures_first_invalid (verify : Verifier) (b : Bundle) (spre spost : List Signature)
    (sig : Signature) (hkeys : b.keys ≠ []) (hdup : hasDupIds b.keys = false)
    (hs : b.signatures = spre ++ sig :: spost) (hspre : ∀ s ∈ spre, VerifierSays verify b s .valid)
    (hinv : VerifierSays verify b sig .invalid) :
    validateSignatures verify b = err .invalidSignature := by
  have h1 : b.keys.isEmpty = false := by simpa using hkeys
  have h2 : b.signatures.isEmpty = false := by rw [hs]; simp
  unfold validateSignatures
  simp only [h1, h2, hdup, Bool.false_eq_true, ↓reduceIte, pure, Except.pure]
  exact forEach_error_iff.mpr ⟨spre, sig, spost, hs, fun s h => (sigStep_ok_iff _ _ _).mpr (hspre s h),
    sigStep_invalid _ _ _ hinv⟩

/-- the body of the loop over bundles of `check_proof_of_possession` -/
def popStep (verify : Verifier) (b : Bundle) : Res Unit := do
  match validateSignatures verify b with
  | .error (.error .invalidSignature) => violation .bundlePop
  | .error e => .error e
  | .ok () => pure ()
  forEach b.keys fun k =>
    if b.signatures.any (fun s => s.keyIdentifier = k.keyIdentifier) then pure ()
    else violation .bundlePop

theorem checkProofOfPossession_eq (verify : Verifier) (req : Request) (pol : RequestPolicy) :
    checkProofOfPossession verify req pol =
      if !pol.validateSignatures then pure () else forEach req.bundles (popStep verify) := rfl

theorem popStep_ok_iff (verify : Verifier) (b : Bundle) :
    popStep verify b = .ok () ↔
      validateSignatures verify b = .ok () ∧
      ∀ k ∈ b.keys, ∃ s ∈ b.signatures, s.keyIdentifier = k.keyIdentifier := by
  unfold popStep
  rcases validateSignatures verify b with (_ | (_ | _) | _) | ⟨⟨⟩⟩ <;> simp only [res_ok] <;> simp

/-- once `validate_signatures` has accepted, the step passes or ends in the KSR-BUNDLE-POP violation -/
theorem popStep_of_valid (verify : Verifier) (b : Bundle) (hv : validateSignatures verify b = .ok ()) :
    popStep verify b = .ok () ∨ popStep verify b = violation .bundlePop := by
  unfold popStep
  rw [hv]
  refine forEach_ok_or fun k _ => ?_
  by_cases hk : (b.signatures.any fun s => s.keyIdentifier = k.keyIdentifier) = true <;> simp [hk, violation]

end Kskm.C07L
