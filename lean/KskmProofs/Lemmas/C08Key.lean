/-
  Helper lemmas for C08: when deriving a DNSKEY from the token's public key text can fail
  (`public_key_to_dnssec_key`: `EcPointOk`, `Derivable`), and one iteration of the loop of
  `check_last_skr_key_present` (`StepPasses`) — the notions C08's clauses are stated in.
-/
import Kskm.Chain
import KskmProofs.Lemmas.Res
import KskmProofs.C14
namespace Kskm

theorem publicKeyToDnssecKey_fields {pk id : String} {alg : Nat} {ttl flags : Int} {k : Key}
    (h : publicKeyToDnssecKey pk id alg ttl flags = .ok k) :
    k.publicKey = pk ∧ k.keyIdentifier = id ∧ k.algorithm = alg ∧ k.ttl = ttl ∧ k.flags = flags := by
  unfold publicKeyToDnssecKey at h
  revert h; simp only [res_ok]
  rintro ⟨_, tag, _, rfl⟩; simp

theorem isAlgorithmEcdsa_iff (a : Nat) : isAlgorithmEcdsa a = true ↔ (a = 13 ∨ a = 14) := by
  simp [isAlgorithmEcdsa, algECDSAP256, algECDSAP384]

/-- the ECDSA point-size validator of `Key`, on the decoded octets -/
def ecValidate (b : Bytes) (alg : Nat) : Res Unit := do
  let p ← ecdsaWithoutPrefix b alg
  let want ← expectedEcdsaKeySize alg
  if getEcdsaPubkeySize p != want then err .validation

/-- An EC point the validator accepts: x‖y of the curve's size (half the octets = 256 resp. 384
    bits), bare or behind one SEC 1 `0x04` octet. -/
def EcPointOk (alg : Nat) (b : Bytes) : Prop :=
  ∃ want : Nat, ((alg = 13 ∧ want = 256) ∨ (alg = 14 ∧ want = 384)) ∧
    (b.length * 8 / 2 = want ∨ ∃ r, b = 4 :: r ∧ r.length * 8 / 2 = want)

theorem ecValidate_iff (b : Bytes) (alg : Nat) (he : alg = 13 ∨ alg = 14) :
    ecValidate b alg = .ok () ↔ EcPointOk alg b := by
  -- the same case analysis for both curves, with the curve's size `want` a variable
  have key : ∀ want : Nat, want ≠ 0 → expectedEcdsaKeySize alg = .ok want →
      (ecValidate b alg = .ok () ↔
        (b.length * 8 / 2 = want ∨ ∃ r, b = 4 :: r ∧ r.length * 8 / 2 = want)) := by
    intro want h0 hw
    unfold ecValidate ecdsaWithoutPrefix getEcdsaPubkeySize
    simp only [hw, bind, Except.bind, pure, Except.pure]
    cases b with
    | nil => simp [err, Ne.symm h0]
    | cons x r =>
      by_cases h1 : (r.length + 1) * 8 / 2 = want
      · simp [h1]
      · by_cases hx : x = 4
        · subst hx
          by_cases h2 : r.length * 8 / 2 = want
          · simp [h1, h2]
          · simp [h1, h2, err]
        · simp [h1, hx, err]
  unfold EcPointOk
  rcases he with rfl | rfl
  · rw [key 256 (by decide) rfl]; simp
  · rw [key 384 (by decide) rfl]; simp

theorem Key.validate_ok_iff (k : Key) :
    k.validate = .ok () ↔
      (isAlgorithmEcdsa k.algorithm = true →
        ∃ b, Base64.decode k.publicKey = some b ∧ ecValidate b k.algorithm = .ok ()) ∧
      (k.flags = 257 ∨ k.flags = 385 ∨ k.flags = 256) := by
  unfold Key.validate ecValidate
  cases isAlgorithmEcdsa k.algorithm <;> cases Base64.decode k.publicKey <;> simp only [res_ok] <;> simp
  exact ⟨fun ⟨a, h1, _, h2, rfl, h3⟩ => ⟨⟨a, h1, h2⟩, h3⟩, fun ⟨⟨a, h1, h2⟩, h3⟩ => ⟨a, h1, _, h2, rfl, h3⟩⟩

/-- **Exactly when a DNSKEY can be derived from a token key text** (flags 257, protocol 3): the
    algorithm number fits its octet, the text is base64 the model decodes, and for the two ECDSA
    algorithms the point has the curve's size. -/
def Derivable (pk : String) (alg : Nat) : Prop :=
  alg < 256 ∧ ∃ b, Base64.decode pk = some b ∧ ((alg = 13 ∨ alg = 14) → EcPointOk alg b)

theorem publicKeyToDnssecKey_ok_iff (pk id : String) (alg : Nat) (ttl : Int) :
    (∃ k, publicKeyToDnssecKey pk id alg ttl 257 = .ok k) ↔ Derivable pk alg := by
  -- a key comes back iff `Key.validate` accepts and the RDATA, of which the key tag is computed, can be built
  have h1 : ∀ K : Key, (∃ k, (do K.validate; let tag ← calculateKeyTag K; pure { K with keyTag := tag } : Res Key) = .ok k) ↔
      K.validate = .ok () ∧ ∃ r, keyToRdata K = .ok r := by
    intro K
    unfold calculateKeyTag
    simp only [res_ok]
    exact ⟨fun ⟨_, hv, _, ⟨r, hr, _⟩, _⟩ => ⟨hv, r, hr⟩, fun ⟨hv, r, hr⟩ => ⟨_, hv, _, ⟨r, hr, rfl⟩, rfl⟩⟩
  unfold publicKeyToDnssecKey Derivable
  rw [h1, Key.validate_ok_iff]
  simp only [C14.keyToRdata_ok_iff, isAlgorithmEcdsa_iff]
  constructor
  · rintro ⟨⟨hv, _⟩, _, ⟨_, _, ha⟩, b, hb, _⟩
    refine ⟨ha, b, hb, fun he => ?_⟩
    obtain ⟨b', hb', hec⟩ := hv he
    obtain rfl := Option.some.inj (hb.symm.trans hb')
    exact (ecValidate_iff b alg he).mp hec
  · rintro ⟨ha, b, hb, hec⟩
    exact ⟨⟨fun he => ⟨b, hb, (ecValidate_iff b alg he).mpr (hec he)⟩, Or.inl trivial⟩,
      _, ⟨by decide, by decide, ha⟩, b, hb, rfl⟩

/-- the body of the `for sig in last_bundle.signatures` loop of `check_last_skr_key_present` -/
def keyPresentStep (lookup : TokenLookup) (lb : Bundle) (sig : Signature) : Res Unit := do
  match ← lookup sig.keyIdentifier with
  | none => violation .chainKeys
  | some none => violation .chainKeys
  | some (some pk) =>
    if pk.isEmpty then violation .chainKeys else do
    let hsmkey ← publicKeyToDnssecKey pk sig.keyIdentifier sig.algorithm sig.ttl 257
    match lb.keys.find? (fun k => k.keyIdentifier = sig.keyIdentifier) with
    | none => err .index
    | some key => if key.publicKey != hsmkey.publicKey then violation .chainKeys else pure ()

/-- what one iteration establishes when it passes: a public object under the signature's label with
    a non-empty key text from which a DNSKEY derives, and the (first-listed) published key with that
    identifier carries the same text -/
def StepPasses (lookup : TokenLookup) (lb : Bundle) (sig : Signature) : Prop :=
  ∃ pk, lookup sig.keyIdentifier = .ok (some (some pk)) ∧ pk ≠ "" ∧
    (∃ hk, publicKeyToDnssecKey pk sig.keyIdentifier sig.algorithm sig.ttl 257 = .ok hk) ∧
    ∃ key, lb.keys.find? (fun k => k.keyIdentifier = sig.keyIdentifier) = some key ∧ key.publicKey = pk

theorem keyPresentStep_ok_iff (lookup : TokenLookup) (lb : Bundle) (sig : Signature) :
    keyPresentStep lookup lb sig = .ok () ↔ StepPasses lookup lb sig := by
  unfold keyPresentStep StepPasses
  rcases lookup sig.keyIdentifier with _ | _ | _ | pk <;> simp only [res_ok] <;> simp
  refine fun _ => ⟨fun ⟨hk, hd, h⟩ => ⟨⟨hk, hd⟩, ?_⟩, fun ⟨⟨hk, hd⟩, h⟩ => ⟨hk, hd, ?_⟩⟩ <;>
    rw [(publicKeyToDnssecKey_fields hd).1] at * <;>
    cases hf : lb.keys.find? (fun k => k.keyIdentifier = sig.keyIdentifier) <;> simp_all

end Kskm
