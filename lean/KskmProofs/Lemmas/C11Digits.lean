/-
  Decimal printing (`Nat.toDigits 10`, what Python's `str(int)` and Lean's `Nat.repr` produce; `pad2`) read back:
  what a printed number consists of, and the fixed-width reader `parseDigitsN` on two-digit fields and four-digit
  years.  Shared by the duration and timestamp round trips.
-/
import Kskm.Duration
import Kskm.Time
namespace Kskm

/-! Digits and printed numbers: core's `Char.isDigit_iff_toNat` with the two bounds as numerals, and
    `Nat.isDigit_of_mem_toDigits`, `Nat.length_toDigits_le_iff`, `Nat.toDigits_ne_nil` at base 10 with the number
    explicit. -/

theorem digit_toNat (c : Char) (h : c.isDigit = true) : 48 ≤ c.toNat ∧ c.toNat ≤ 57 :=
  Char.isDigit_iff_toNat.mp h

theorem all_digits_toDigits (n : Nat) : ∀ c ∈ Nat.toDigits 10 n, c.isDigit = true :=
  fun _ hc => Nat.isDigit_of_mem_toDigits (by decide) (by decide) hc

theorem length_toDigits_le (n k : Nat) (hk : 0 < k) (h : n < 10 ^ k) : (Nat.toDigits 10 n).length ≤ k :=
  (Nat.length_toDigits_le_iff (by decide) hk).mpr h

theorem toDigits_ne_nil' (n : Nat) : Nat.toDigits 10 n ≠ [] := Nat.toDigits_ne_nil

theorem digit_ascii (c : Char) (h : c.isDigit = true) : c.toNat < 128 := by
  have := digit_toNat c h; omega

theorem digit_ne (c x : Char) (hc : c.isDigit = true) (hx : x.isDigit = false) : c ≠ x := by
  rintro rfl; rw [hc] at hx; cases hx

theorem digit_not_tz (c : Char) (h : c.isDigit = true) : isTzStart c = false := by
  simp [isTzStart, digit_ne c 'Z' h rfl, digit_ne c '+' h rfl, digit_ne c '-' h rfl]

/-- every digit the writer prints is `Nat.digitChar (k % 10)`: a digit, so ASCII, no offset sign, no `W` -/
theorem digitChar_mod (k : Nat) :
    (Nat.digitChar (k % 10)).isDigit = true ∧ isTzStart (Nat.digitChar (k % 10)) = false ∧
      (Nat.digitChar (k % 10)).toNat < 128 ∧ Nat.digitChar (k % 10) ≠ 'W' :=
  have h : (Nat.digitChar (k % 10)).isDigit = true := by simp [Nat.isDigit_digitChar, Nat.mod_lt k]
  ⟨h, digit_not_tz _ h, digit_ascii _ h, digit_ne _ 'W' h rfl⟩

theorem parseDigitsN_digitChar (k n : Nat) (r : List Char) (acc : Nat) :
    parseDigitsN (n + 1) (Nat.digitChar (k % 10) :: r) acc = parseDigitsN n r (acc * 10 + k % 10) := by
  rw [parseDigitsN, if_pos (digitChar_mod k).1, Nat.toNat_digitChar_sub_48_of_lt_ten (Nat.mod_lt k (by decide))]

theorem parseDigitsN_pad2 (n : Nat) (h : n < 100) (r : List Char) (acc : Nat) :
    parseDigitsN 2 (pad2 n ++ r) acc = some (acc * 100 + n, r) := by
  simp only [pad2, List.cons_append, List.nil_append, parseDigitsN_digitChar]
  rw [parseDigitsN]
  congr 2
  omega

theorem parseDigitsN_pad2_zero (n : Nat) (h : n < 100) (r : List Char) :
    parseDigitsN 2 (pad2 n ++ r) 0 = some (n, r) := by
  rw [parseDigitsN_pad2 n h, Nat.zero_mul, Nat.zero_add]

theorem toDigits_four (n : Nat) (h1 : 1000 ≤ n) (h2 : n ≤ 9999) :
    Nat.toDigits 10 n = [Nat.digitChar (n / 1000 % 10), Nat.digitChar (n / 100 % 10), Nat.digitChar (n / 10 % 10),
      Nat.digitChar (n % 10)] := by
  rw [Nat.toDigits_of_base_le (by decide) (by omega), Nat.toDigits_of_base_le (by decide) (by omega),
    Nat.toDigits_of_base_le (by decide) (by omega), Nat.toDigits_of_lt_base (by omega)]
  have e1 : n / 10 / 10 / 10 = n / 1000 % 10 := by omega
  have e2 : n / 10 / 10 % 10 = n / 100 % 10 := by omega
  rw [e1, e2]; rfl

/-- four digits, leading zeros included -/
theorem parseDigitsN_fourDigits (n : Nat) (h : n ≤ 9999) (r : List Char) :
    parseDigitsN 4 (Nat.digitChar (n / 1000 % 10) :: Nat.digitChar (n / 100 % 10) :: Nat.digitChar (n / 10 % 10) ::
      Nat.digitChar (n % 10) :: r) 0 = some (n, r) := by
  simp only [parseDigitsN_digitChar]
  rw [parseDigitsN]
  congr 2
  omega

theorem parseDigitsN_four (n : Nat) (h1 : 1000 ≤ n) (h2 : n ≤ 9999) (r : List Char) :
    parseDigitsN 4 (Nat.toDigits 10 n ++ r) 0 = some (n, r) := by
  rw [toDigits_four n h1 h2]
  exact parseDigitsN_fourDigits n h2 r

end Kskm
