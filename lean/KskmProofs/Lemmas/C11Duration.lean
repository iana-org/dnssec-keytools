/-
  Lemmas for the duration codec: the reader's two passes (ASCII digits, Unicode decimal digits) are one; every
  pass of its loop shortens the text, so the fuel is never exhausted and the loop is a function of the text alone
  (`durLoop`, with the run equation `durLoop_cons`); one pass on a printed component; the reader on any text made
  of printed components (`parseDurationChars_comps`); the writer's text as such a text.
-/
import KskmProofs.Lemmas.C11Digits
import KskmProofs.Lemmas.Res
namespace Kskm

theorem decimalZeros_ascii : ∃ rest, KskmGen.decimalZeros = 48 :: rest ∧ ∀ z ∈ rest, 128 ≤ z :=
  ⟨_, rfl, by decide +kernel⟩

/-- below 128 the only decimal digits are `0` … `9` -/
theorem isPyDecimal_ascii (c : Char) (h : c.toNat < 128) : isPyDecimal c = c.isDigit := by
  obtain ⟨rest, e, hr⟩ := decimalZeros_ascii
  have hnone : rest.find? (fun z => decide (z ≤ c.toNat) && decide (c.toNat < z + 10)) = none :=
    List.find?_eq_none.mpr fun z hz => by have := hr z hz; simp; omega
  rw [Bool.eq_iff_iff, Char.isDigit_iff_toNat]
  simp only [isPyDecimal, pyDecimal?, e, List.find?_cons, hnone]
  by_cases hd : 48 ≤ c.toNat ∧ c.toNat < 48 + 10
  · simp [hd]; omega
  · have : (decide (48 ≤ c.toNat) && decide (c.toNat < 48 + 10)) = false := by simpa using hd
    simp [this]; omega

/-- two tests that agree on the run `p` takes and on the element that stops it cut the list at the same place -/
theorem takeWhile_congr_stop {α} (p q : α → Bool) (l : List α) (h1 : ∀ c ∈ l.takeWhile p, q c = true)
    (h2 : ∀ c, (l.dropWhile p).head? = some c → q c = false) :
    l.takeWhile q = l.takeWhile p ∧ l.dropWhile q = l.dropWhile p := by
  have := takeWhile_append_stop q _ _ h1 h2
  rwa [List.takeWhile_append_dropWhile] at this

theorem designator_facts (w : Char) (hw : isDesignator w = true) :
    w.isDigit = false ∧ w.toNat < 128 ∧ intCharOk w = false ∧ w ≠ 'T' ∧ w ≠ '\n' := by
  simp only [isDesignator, Bool.or_eq_true, decide_eq_true_eq] at hw
  rcases hw with (((rfl | rfl) | rfl) | rfl) | rfl <;> decide

/-- On a digit run that ends at an ASCII character the two passes coincide; at a non-ASCII character the
    first hands over to the second by definition: `durationStepUni` after the `T` handling is the whole step. -/
theorem durationStep_eq_uni (s : List Char) (ts : Bool) (acc : Int) :
    durationStep s ts acc
      = durationStepUni (if s.head? = some 'T' then s.tail else s) (if s.head? = some 'T' then true else ts) acc := by
  unfold durationStep
  simp only []
  generalize (if s.head? = some 'T' then s.tail else s) = s1
  generalize (if s.head? = some 'T' then true else ts) = ts1
  have hds : ∀ c ∈ s1.takeWhile Char.isDigit, c.isDigit = true := fun _ => mem_takeWhile_imp
  have hpy : ∀ c ∈ s1.takeWhile Char.isDigit, isPyDecimal c = true := fun c hc => by
    rw [isPyDecimal_ascii c (by have := digit_toNat c (hds c hc); omega)]; exact hds c hc
  cases hr : s1.dropWhile Char.isDigit with
  | nil =>
    have := takeWhile_congr_stop Char.isDigit isPyDecimal s1 hpy (by simp [hr])
    simp only [durationStepUni, this.2, hr]
  | cons w r2 =>
    have hw : w.isDigit = false := by have := List.head?_dropWhile_not Char.isDigit s1; rwa [hr] at this
    by_cases h128 : w.toNat < 128
    · have := takeWhile_congr_stop Char.isDigit isPyDecimal s1 hpy
        (by intro c hc; simp only [hr, List.head?_cons, Option.some.injEq] at hc; subst hc; rw [isPyDecimal_ascii _ h128, hw])
      have hmap : (s1.takeWhile Char.isDigit).map intTranslit = s1.takeWhile Char.isDigit :=
        (List.map_congr_left fun c hc => if_pos (by have := digit_toNat c (hds c hc); omega)).trans (List.map_id' _)
      simp only [hr, if_neg (by omega : ¬ 128 ≤ w.toNat), durationStepUni, this.1, this.2, hmap]
    · have hnd : isDesignator w = false := by
        cases h : isDesignator w
        · rfl
        · exact absurd (designator_facts w h).2.1 h128
      simp only [hnd, (by omega : 128 ≤ w.toNat), Bool.not_false, ↓reduceIte]

theorem durationStepUni_shrinks (s1 : List Char) (ts : Bool) (acc : Int) (rest : List Char) (ts' : Bool) (acc' : Int)
    (h : durationStepUni s1 ts acc = .ok (.more rest ts' acc')) : rest.length < s1.length := by
  revert h
  fun_cases durationStepUni s1 ts acc
  case case6 _ r1 w r2 hr _ _ _ rest0 _ _ _ =>
    -- the sixth and last branch of the definition, the only one that does not refuse at once: a designator
    -- after a non-empty, short enough run of digits.  In it only the path where `int(rest)` fails goes round
    -- again, with the rest of the line after the designator
    intro h
    obtain ⟨_, -, h⟩ := Res.bind_ok h
    obtain ⟨_, -, h⟩ := Res.bind_ok h
    obtain ⟨o, -, h⟩ := Res.bind_ok h
    cases o with
    | none =>
      rw [← (DurStep.more.inj (Except.ok.inj h)).1]
      have h1 : r1.length ≤ s1.length := (List.dropWhile_suffix isPyDecimal).length_le
      have h2 : rest0.length ≤ r2.length := (List.takeWhile_prefix _).length_le
      rw [hr, List.length_cons] at h1
      omega
    | some v =>
      obtain ⟨_, -, h⟩ := Res.bind_ok h
      obtain ⟨_, -, h⟩ := Res.bind_ok h
      cases h
  all_goals intro h; cases h

/-- every pass that goes round again has strictly shortened `duration` -/
theorem durationStep_shrinks (s : List Char) (ts : Bool) (acc : Int) (rest : List Char) (ts' : Bool) (acc' : Int)
    (h : durationStep s ts acc = .ok (.more rest ts' acc')) : rest.length < s.length := by
  rw [durationStep_eq_uni] at h
  have := durationStepUni_shrinks _ _ _ _ _ _ h
  split at this
  · have : s.tail.length ≤ s.length := by simp
    omega
  · exact this

/-- with at least `length` fuel the answer does not depend on the fuel: the out-of-fuel branch is
    never taken -/
theorem parseDurationLoop_fuel (f1 f2 : Nat) (s : List Char) (ts : Bool) (acc : Int)
    (h1 : s.length ≤ f1) (h2 : s.length ≤ f2) :
    parseDurationLoop f1 s ts acc = parseDurationLoop f2 s ts acc := by
  induction f1 generalizing f2 s ts acc with
  | zero =>
    have : s = [] := List.eq_nil_of_length_eq_zero (by omega)
    subst this
    cases f2 <;> simp [parseDurationLoop]
  | succ n ih =>
    cases hs : s with
    | nil => cases f2 <;> simp [parseDurationLoop]
    | cons c t =>
      cases f2 with
      | zero => simp [hs] at h2
      | succ m =>
        simp only [parseDurationLoop, List.isEmpty_cons, Bool.false_eq_true, ↓reduceIte]
        cases hstep : durationStep (c :: t) ts acc with
        | error e => rfl
        | ok st =>
          cases st with
          | done v => rfl
          | more rest ts' acc' =>
            have := durationStep_shrinks _ _ _ _ _ _ hstep
            simp only
            apply ih
            · rw [hs] at h1; omega
            · rw [hs] at h2; omega

/-- fuel beyond the length of the input changes nothing (`parseDurationChars` starts the loop with
    `length + 1`) -/
theorem parseDurationLoop_never_out_of_fuel (f : Nat) (s : List Char) (ts : Bool) (acc : Int)
    (h : s.length ≤ f) : parseDurationLoop f s ts acc = parseDurationLoop (f + 1) s ts acc :=
  parseDurationLoop_fuel _ _ _ _ _ h (by omega)

/-- the loop with all the fuel it can need: what `parseDurationChars` runs after the `P` -/
def durLoop (s : List Char) (ts : Bool) (acc : Int) : Res Int := parseDurationLoop s.length s ts acc

theorem parseDurationChars_P (r : List Char) : parseDurationChars ('P' :: r) = durLoop r false 0 := rfl

theorem durLoop_nil (ts : Bool) (acc : Int) : durLoop [] ts acc = .ok acc := rfl

theorem parseDurationLoop_eq_durLoop {fuel : Nat} {s : List Char} (h : s.length ≤ fuel) (ts : Bool) (acc : Int) :
    parseDurationLoop fuel s ts acc = durLoop s ts acc :=
  parseDurationLoop_fuel _ _ _ _ _ h (Nat.le_refl _)

/-- one pass, without fuel: the out-of-fuel branch is gone because every pass shortens the text -/
theorem durLoop_cons (c : Char) (t : List Char) (ts : Bool) (acc : Int) :
    durLoop (c :: t) ts acc =
      match durationStep (c :: t) ts acc with
      | .error e => .error e
      | .ok (.done v) => .ok v
      | .ok (.more rest ts' acc') => durLoop rest ts' acc' := by
  unfold durLoop
  rw [List.length_cons, parseDurationLoop]
  simp only [List.isEmpty_cons, Bool.false_eq_true, ↓reduceIte]
  cases h : durationStep (c :: t) ts acc with
  | error e => rfl
  | ok st =>
    cases st with
    | done v => rfl
    | more rest ts' acc' =>
      have := durationStep_shrinks _ _ _ _ _ _ h
      exact parseDurationLoop_eq_durLoop (by rw [List.length_cons] at this; omega) _ _

theorem durLoop_more {s rest : List Char} {ts ts' : Bool} {acc acc' : Int}
    (h : durationStep s ts acc = .ok (.more rest ts' acc')) : durLoop s ts acc = durLoop rest ts' acc' := by
  cases s with
  | nil => exact absurd (durationStep_shrinks _ _ _ _ _ _ h) (Nat.not_lt_zero _)
  | cons c t => rw [durLoop_cons, h]

/-- the `T` that opens the time section costs no pass of the loop -/
theorem durLoop_T (c : Char) (s : List Char) (ts : Bool) (acc : Int) (h : c ≠ 'T') :
    durLoop ('T' :: c :: s) ts acc = durLoop (c :: s) true acc := by
  have hstep : durationStep ('T' :: c :: s) ts acc = durationStep (c :: s) true acc := by
    simp only [durationStep, List.head?_cons, List.tail_cons, Option.some.injEq, h, ↓reduceIte]
  rw [durLoop_cons, durLoop_cons, hstep]

theorem pyInt_nil : pyInt [] = .ok none := by decide

theorem pyInt_of_mem_bad (rest : List Char) (w : Char) (h2 : w.toNat < 128) (h3 : intCharOk w = false)
    (hm : w ∈ rest) : pyInt rest = .ok none := by
  unfold pyInt
  rw [if_pos]
  · rfl
  · simp only [List.any_eq_true]
    exact ⟨w, hm, by simp [h2, h3]⟩

/-- One pass on `<digits of n><w><rest>` (no leading `T`): the unit is added and the loop continues with
    `rest`, provided `rest` is single-line and no integer literal, and the sums are in `timedelta` range. -/
theorem durationStep_component (n : Nat) (w : Char) (rest : List Char) (ts : Bool) (acc : Int)
    (hw : isDesignator w = true) (hn : n < 10 ^ 4300) (hnl : '\n' ∉ rest) (hint : pyInt rest = .ok none)
    (hM : w = 'M' → ts = true)
    (hr1 : tdInRange ((n : Int) * unitUs w) = true) (hr2 : tdInRange (acc + (n : Int) * unitUs w) = true) :
    durationStep (Nat.toDigits 10 n ++ w :: rest) ts acc = .ok (.more rest ts (acc + (n : Int) * unitUs w)) := by
  obtain ⟨hd, _, _, hT, _⟩ := designator_facts w hw
  obtain ⟨c, cs, hcs⟩ := List.exists_cons_of_ne_nil (toDigits_ne_nil' n)
  have hc : c.isDigit = true := all_digits_toDigits n c (by simp [hcs])
  have hcT : c ≠ 'T' := by intro e; rw [e] at hc; exact absurd hc (by decide)
  have hscan := takeWhile_append_stop Char.isDigit _ (w :: rest) (all_digits_toDigits n)
    fun c' h => Option.some.inj h ▸ hd
  have hhead : (Nat.toDigits 10 n ++ w :: rest).head? ≠ some 'T' := by
    rw [hcs]; simp [hcT]
  unfold durationStep
  simp only [hhead, ↓reduceIte, hscan.1, hscan.2, hw, Bool.not_true, Bool.false_eq_true, List.isEmpty_eq_false_iff.mpr (toDigits_ne_nil' n)]
  have hlen : ¬ (Nat.toDigits 10 n).length > maxStrDigits := by
    have := length_toDigits_le n 4300 (by decide) hn
    simp only [maxStrDigits]; omega
  rw [if_neg hlen]
  have hMc : ¬ ((w = 'M' && !ts) = true) := by
    intro h
    simp only [Bool.and_eq_true, decide_eq_true_eq, Bool.not_eq_eq_eq_not, Bool.not_true] at h
    rw [hM h.1] at h; simp at h
  have hline := takeWhile_all (· ≠ '\n') rest fun a ha => decide_eq_true fun e => hnl (e ▸ ha)
  simp only [Nat.ofDigitChars_ten_toDigits, hline, hint, tdCheck, hr1, hr2, ↓reduceIte, bind,
    Except.bind, pure, Except.pure, hMc, Bool.false_eq_true]

/-- `<n><designator>` components, as both codecs see them -/
def renderComps : List (Nat × Char) → List Char
  | [] => []
  | (n, w) :: r => Nat.toDigits 10 n ++ w :: renderComps r

def sumComps : List (Nat × Char) → Int
  | [] => 0
  | (n, w) :: r => (n : Int) * unitUs w + sumComps r

theorem unitUs_pos (w : Char) : 0 < unitUs w := by
  unfold unitUs
  repeat' split
  all_goals decide

theorem sumComps_nonneg (cs : List (Nat × Char)) : 0 ≤ sumComps cs := by
  induction cs with
  | nil => exact Int.le_refl _
  | cons a r ih =>
    obtain ⟨n, w⟩ := a
    simp only [sumComps]
    have := unitUs_pos w
    have : 0 ≤ (n : Int) * unitUs w := Int.mul_nonneg (Int.natCast_nonneg n) (Int.le_of_lt this)
    omega

theorem tdInRange_of_bounds (x : Int) (h0 : 0 ≤ x) (h1 : x / usPerDay ≤ 999999999) : tdInRange x = true := by
  have : 0 ≤ x / usPerDay := Int.ediv_nonneg h0 (by decide)
  simp only [tdInRange, maxDeltaDays, Bool.and_eq_true]
  exact ⟨decide_eq_true (by omega), decide_eq_true (by omega)⟩

def GoodComps (cs : List (Nat × Char)) : Prop :=
  ∀ p ∈ cs, isDesignator p.2 = true ∧ p.1 < 10 ^ 4300

theorem nl_not_mem_renderComps (cs : List (Nat × Char)) (h : GoodComps cs) : '\n' ∉ renderComps cs := by
  induction cs with
  | nil => simp [renderComps]
  | cons a r ih =>
    obtain ⟨n, w⟩ := a
    have hw := (h (n, w) (by simp)).1
    obtain ⟨_, _, _, _, hnl⟩ := designator_facts w hw
    simp only [renderComps, List.mem_append, List.mem_cons, not_or]
    exact ⟨fun hm => absurd (all_digits_toDigits n '\n' hm) (by decide), fun e => hnl e.symm,
      ih (fun p hp => h p (by simp [hp]))⟩

theorem pyInt_renderComps_append (cs : List (Nat × Char)) (rest : List Char) (h : GoodComps cs)
    (hint : pyInt rest = .ok none) : pyInt (renderComps cs ++ rest) = .ok none := by
  cases cs with
  | nil => exact hint
  | cons a r =>
    obtain ⟨n, w⟩ := a
    obtain ⟨_, h2, h3, _⟩ := designator_facts w (h (n, w) (by simp)).1
    exact pyInt_of_mem_bad _ w h2 h3 (by simp [renderComps])

/-- The reader's loop over printed components adds them up, one pass each, and goes on with what follows
    them: single-line text that is no integer literal.  Minutes are read in the time section only. -/
theorem durLoop_comps_append (cs : List (Nat × Char)) (rest : List Char) (ts : Bool) (acc : Int)
    (hg : GoodComps cs) (hM : ∀ p ∈ cs, p.2 = 'M' → ts = true) (hnl : '\n' ∉ rest) (hint : pyInt rest = .ok none)
    (h0 : 0 ≤ acc) (hmax : (acc + sumComps cs) / usPerDay ≤ 999999999) :
    durLoop (renderComps cs ++ rest) ts acc = durLoop rest ts (acc + sumComps cs) := by
  induction cs generalizing acc with
  | nil => rw [sumComps, Int.add_zero]; rfl
  | cons a r ih =>
    obtain ⟨n, w⟩ := a
    have hgr : GoodComps r := fun p hp => hg p (by simp [hp])
    obtain ⟨hw, hn⟩ := hg (n, w) (by simp)
    have hnu : 0 ≤ (n : Int) * unitUs w := Int.mul_nonneg (Int.natCast_nonneg n) (Int.le_of_lt (unitUs_pos w))
    have hsr := sumComps_nonneg r
    simp only [sumComps] at hmax
    have b1 : ((n : Int) * unitUs w) / usPerDay ≤ 999999999 := by
      simp only [usPerDay] at *; omega
    have b2 : (acc + (n : Int) * unitUs w) / usPerDay ≤ 999999999 := by
      simp only [usPerDay] at *; omega
    simp only [renderComps, sumComps, List.append_assoc, List.cons_append]
    rw [durLoop_more (durationStep_component n w _ ts acc hw hn
      (by simpa [hnl] using nl_not_mem_renderComps r hgr) (pyInt_renderComps_append r rest hgr hint)
      (hM (n, w) (by simp)) (tdInRange_of_bounds _ hnu b1) (tdInRange_of_bounds _ (by omega) b2)),
      ih _ hgr (fun p hp => hM p (by simp [hp])) (by omega) (by rw [Int.add_assoc]; exact hmax), Int.add_assoc]

theorem durLoop_T_comps (cs : List (Nat × Char)) (ts : Bool) (acc : Int) (hne : cs ≠ []) (hg : GoodComps cs)
    (h0 : 0 ≤ acc) (hmax : (acc + sumComps cs) / usPerDay ≤ 999999999) :
    durLoop ('T' :: renderComps cs) ts acc = .ok (acc + sumComps cs) := by
  have := durLoop_comps_append cs [] true acc hg (fun _ _ _ => rfl) List.not_mem_nil pyInt_nil h0 hmax
  rw [List.append_nil] at this
  obtain ⟨⟨n, w⟩, r, rfl⟩ := List.exists_cons_of_ne_nil hne
  obtain ⟨c, t, hc⟩ := List.exists_cons_of_ne_nil (toDigits_ne_nil' n)
  have hd : c.isDigit = true := all_digits_toDigits n c (by simp [hc])
  have hT : c ≠ 'T' := by rintro rfl; exact absurd hd (by decide)
  rw [← durLoop_nil true, ← this]
  simp only [renderComps, hc, List.cons_append]
  exact durLoop_T c _ ts acc hT

theorem T_facts : 'T'.toNat < 128 ∧ intCharOk 'T' = false := by decide

/-- The reader is exact on every text `P<n><u>…[T<n><u>…]`: any number of components with units `W D H S`
    before the `T` and `W D H M S` after it, in any order within their section, of any magnitude a
    `timedelta` can hold. -/
theorem parseDurationChars_comps (dc tc : List (Nat × Char)) (hd : GoodComps dc) (hM : ∀ p ∈ dc, p.2 ≠ 'M')
    (ht : GoodComps tc) (hmax : (sumComps dc + sumComps tc) / usPerDay ≤ 999999999) :
    parseDurationChars ('P' :: (renderComps dc ++ (if tc.isEmpty then [] else 'T' :: renderComps tc)))
      = .ok (sumComps dc + sumComps tc) := by
  have hsd := sumComps_nonneg dc
  have hst := sumComps_nonneg tc
  have hb : (0 + sumComps dc) / usPerDay ≤ 999999999 := by simp only [usPerDay] at *; omega
  have hM' : ∀ p ∈ dc, p.2 = 'M' → false = true := fun p hp e => absurd e (hM p hp)
  generalize htail : (if tc.isEmpty then [] else 'T' :: renderComps tc) = tail
  have hok : '\n' ∉ tail ∧ pyInt tail = .ok none := by
    subst htail; split
    · exact ⟨List.not_mem_nil, pyInt_nil⟩
    · exact ⟨by simpa using nl_not_mem_renderComps tc ht, pyInt_of_mem_bad _ 'T' T_facts.1 T_facts.2 (by simp)⟩
  rw [parseDurationChars_P, durLoop_comps_append dc tail false 0 hd hM' hok.1 hok.2 (Int.le_refl 0) hb, Int.zero_add]
  subst htail
  split
  · rename_i he; rw [List.isEmpty_iff.mp he, sumComps, Int.add_zero, durLoop_nil]
  · rename_i he; exact durLoop_T_comps tc _ _ (by simpa using he) ht hsd hmax

theorem renderComps_append (a b : List (Nat × Char)) : renderComps (a ++ b) = renderComps a ++ renderComps b := by
  induction a with
  | nil => rfl
  | cons p r ih => simp only [List.cons_append, renderComps, ih, List.append_assoc]

theorem sumComps_append (a b : List (Nat × Char)) : sumComps (a ++ b) = sumComps a + sumComps b := by
  induction a with
  | nil => simp [sumComps]
  | cons p r ih => simp only [List.cons_append, sumComps, ih, Int.add_assoc]

theorem goodComps_append {a b : List (Nat × Char)} (ha : GoodComps a) (hb : GoodComps b) : GoodComps (a ++ b) :=
  fun p hp => (List.mem_append.mp hp).elim (ha p) (hb p)

/-- a component the writer prints only when its test holds -/
def compIf (c : Prop) [Decidable c] (n : Nat) (w : Char) : List (Nat × Char) := if c then [(n, w)] else []

theorem mem_compIf {c : Prop} [Decidable c] {n : Nat} {w : Char} {p : Nat × Char} (hp : p ∈ compIf c n w) :
    p = (n, w) := by
  unfold compIf at hp
  split at hp
  · exact List.mem_singleton.mp hp
  · cases hp

theorem goodComps_compIf (c : Prop) [Decidable c] (n : Nat) (w : Char) (hw : isDesignator w = true)
    (hn : n < 10 ^ 10) : GoodComps (compIf c n w) := fun p hp => by
  rw [mem_compIf hp]
  exact ⟨hw, Nat.lt_of_lt_of_le hn (Nat.pow_le_pow_right (by decide) (by decide : 10 ≤ 4300))⟩

theorem sumComps_compIf (c : Prop) [Decidable c] (n : Nat) (w : Char) :
    sumComps (compIf c n w) = if c then (n : Int) * unitUs w else 0 := by
  unfold compIf; split <;> simp [sumComps]

/-- hours / minutes / seconds components of `td.seconds = s`, with the writer's strict `>` tests -/
def timeComps (s : Nat) : List (Nat × Char) :=
  let r1 := if s > 3600 then s % 3600 else s
  let r2 := if r1 > 60 then r1 % 60 else r1
  compIf (s > 3600) (s / 3600) 'H' ++ compIf (r1 > 60) (r1 / 60) 'M' ++ compIf (r2 ≠ 0) r2 'S'

theorem formatTimePart_eq (s : Nat) : formatTimePart s = 'T' :: renderComps (timeComps s) := by
  simp only [formatTimePart, timeComps, renderComps_append, compIf]
  split <;> split <;> split <;> rfl

theorem unitUs_H : unitUs 'H' = 3600000000 := by decide
theorem unitUs_M : unitUs 'M' = 60000000 := by decide
theorem unitUs_S : unitUs 'S' = 1000000 := by decide
theorem unitUs_D : unitUs 'D' = 86400000000 := by decide

theorem sumComps_timeComps (s : Nat) : sumComps (timeComps s) = (s : Int) * 1000000 := by
  simp only [timeComps, sumComps_append, sumComps_compIf, unitUs_H, unitUs_M, unitUs_S]
  split <;> split <;> split <;> omega

theorem timeComps_ne_nil (s : Nat) (h : s ≠ 0) : timeComps s ≠ [] := fun e => by
  have := sumComps_timeComps s
  rw [e] at this
  simp only [sumComps] at this
  omega

theorem timeComps_good (s : Nat) (h : s < 86400) : GoodComps (timeComps s) := by
  simp only [timeComps]
  refine goodComps_append (goodComps_append ?_ ?_) ?_ <;> apply goodComps_compIf _ _ _ (by decide)
  · omega
  · split <;> omega
  · split <;> split <;> omega

/-- `timedelta_to_duration` of `D` days and `S` seconds prints the components `<D>D` and those of `S` -/
theorem formatDurationChars_comps (d : Int) (D S : Nat) (hd0 : d ≠ 0) (hD : d / usPerDay = D)
    (hS : d % usPerDay / usPerSecond = S) :
    formatDurationChars d = 'P' :: (renderComps (compIf (D ≠ 0) D 'D') ++
      (if (timeComps S).isEmpty then [] else 'T' :: renderComps (timeComps S))) := by
  have hstr : pyIntStr (D : Int) = Nat.toDigits 10 D := by
    unfold pyIntStr
    rw [if_neg (by omega)]; rfl
  have hT : (if S ≠ 0 then formatTimePart S else []) =
      if (timeComps S).isEmpty then [] else 'T' :: renderComps (timeComps S) := by
    by_cases hS0 : S = 0
    · subst hS0; rfl
    · rw [if_pos hS0, if_neg (by simpa using timeComps_ne_nil S hS0), formatTimePart_eq]
  unfold formatDurationChars
  rw [if_neg hd0]
  simp only [hD, hS, Int.toNat_natCast, hstr, hT, compIf, Int.natCast_eq_zero, ne_eq]
  split <;> simp [renderComps]

/-- Every non-negative duration in `timedelta` range reads back from its printed text as its whole
    seconds: the writer drops the microseconds and nothing else. -/
theorem duration_reads_whole_seconds (d : Int) (h0 : 0 ≤ d) (hmax : d / usPerDay ≤ 999999999) :
    parseDurationChars (formatDurationChars d) = .ok (d - d % 1000000) := by
  by_cases hd0 : d = 0
  · subst hd0; decide
  · obtain ⟨D, hD⟩ := Int.eq_ofNat_of_zero_le (Int.ediv_nonneg h0 (by decide : (0 : Int) ≤ usPerDay))
    obtain ⟨S, hS⟩ := Int.eq_ofNat_of_zero_le
      (Int.ediv_nonneg (Int.emod_nonneg d (by decide : usPerDay ≠ 0)) (by decide : (0 : Int) ≤ usPerSecond))
    have hsum : sumComps (compIf (D ≠ 0) D 'D') + sumComps (timeComps S) = d - d % 1000000 := by
      rw [sumComps_compIf, sumComps_timeComps, unitUs_D]
      simp only [usPerDay, usPerSecond] at hD hS
      split <;> omega
    rw [formatDurationChars_comps d D S hd0 hD hS, ← hsum]
    refine parseDurationChars_comps _ _ (goodComps_compIf _ _ _ (by decide) (by omega))
      (fun p hp => by rw [mem_compIf hp]; exact of_decide_eq_true rfl)
      (timeComps_good S (by simp only [usPerDay, usPerSecond] at hS; omega)) ?_
    rw [hsum]; simp only [usPerDay] at hmax ⊢; omega

theorem duration_roundtrip_chars (d : Int) (h0 : 0 ≤ d) (hs : d % 1000000 = 0)
    (hmax : d / usPerDay ≤ 999999999) : parseDurationChars (formatDurationChars d) = .ok d := by
  rw [duration_reads_whole_seconds d h0 hmax, hs, Int.sub_zero]

end Kskm
