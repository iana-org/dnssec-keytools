/-
  The writer's text is the rendering of the element tree: `skrToXmlChars r = renderDoc (treeOf r)` on the
  writer's domain.  (`Safe` text: no newline — so `_indent` leaves it alone — and no '<' — so that
  a tag can only start where the writer starts one.)  The shapes of `treeOf r` are walked here once, at the model's
  own conditions on strings (`XTree.Wf`); `TextSafe` is what the walk needs of the strings the signer copies.

  The classes of text that occur here and in the files built on this one, from the narrowest:
    `Printed` ⊆ `Ink` ⊆ plain (`plainChar`) ⊆ `Safe`   on characters — what the signer's own codecs print; visible
        and plain; no `"` `<` `>` `&`, no control character; no newline and no '<';
    `attrTextOk` = plain and not empty, `elemTextOk` = plain and `strip()`-stable (the model's, on strings): both
        imply `Safe` (`safe_of_plain`) and `PlainVal` / the reader's plain text (SkrPlain);
    `TextSafe r` (= `textSafe r`; `textSafe_iff`) asks `attrTextOk` / `elemTextOk` of every COPIED string
        of a response, so despite the shared word it is much stronger than `Safe`; `idsSafe r` is `TextSafe r` less
        the base64 texts, which are `Ink` anyway;
    on trees, `XTree.All N A T` asks `N` of every name, `A` of every attribute value, `T` of every text; `t.Wf` is
        `All` at word names, `attrTextOk`, `elemTextOk`, and implies `XTree.safe` (`XTree.Wf.safe`) and, with the
        levels of the element names (`Ranked`, SkrTree), the reader's plainness `PlainX` (SkrPlain).
-/
import KskmProofs.Lemmas.Res
import KskmProofs.Lemmas.C11Writer
import KskmProofs.Lemmas.SkrInk
namespace Kskm

def safeChar (c : Char) : Bool := c != '\n' && c != '<'

def Safe (l : List Char) : Prop := ∀ c ∈ l, safeChar c = true

theorem Safe.nl {l : List Char} (h : Safe l) : '\n' ∉ l := fun hm => by
  have := h _ hm; revert this; decide

theorem Safe.lt {l : List Char} (h : Safe l) : '<' ∉ l := fun hm => by
  have := h _ hm; revert this; decide

theorem Safe.append {a b : List Char} (ha : Safe a) (hb : Safe b) : Safe (a ++ b) :=
  List.forall_mem_append.mpr ⟨ha, hb⟩

theorem Safe.cons {c : Char} {l : List Char} (hc : safeChar c = true) (hl : Safe l) : Safe (c :: l) :=
  List.forall_mem_cons.mpr ⟨hc, hl⟩

theorem Safe.nil : Safe [] := List.forall_mem_nil _

theorem safe_of_plain (s : String) (h : s.toList.all plainChar = true) : Safe s.toList := by
  intro c hc
  have := List.all_eq_true.mp h c hc
  simp only [plainChar, Bool.and_eq_true, bne_iff_ne, ne_eq] at this
  simp only [safeChar, Bool.and_eq_true, bne_iff_ne, ne_eq]
  refine ⟨?_, this.1.1.1.1.1.1.2⟩
  intro e
  subst e
  have := this.1.1.1.2
  revert this; decide

def attrsSafe (a : List (String × String)) : Prop := ∀ p ∈ a, Safe p.1.toList ∧ Safe p.2.toList

mutual
def XTree.safe : XTree → Prop
  | .node n a cs => Safe n.toList ∧ attrsSafe a ∧ XTree.safeList cs
  | .leaf n a t => Safe n.toList ∧ attrsSafe a ∧ Safe t.toList
  | .empty n a => Safe n.toList ∧ attrsSafe a
def XTree.safeList : List XTree → Prop
  | [] => True
  | t :: ts => t.safe ∧ XTree.safeList ts
end

theorem safeList_iff (ts : List XTree) : XTree.safeList ts ↔ ∀ t ∈ ts, t.safe := by
  induction ts with
  | nil => simp [XTree.safeList]
  | cons t ts ih => simp [XTree.safeList, ih]

theorem safe_renderAttrs (a : List (String × String)) (h : attrsSafe a) : Safe (renderAttrs a) := by
  induction a with
  | nil => exact Safe.nil
  | cons p t ih =>
    obtain ⟨n, v⟩ := p
    have hp := h (n, v) (by simp)
    simp only [renderAttrs]
    exact ((Safe.cons (by decide) hp.1).append (Safe.cons (by decide) (Safe.cons (by decide) hp.2))).append
      (Safe.cons (by decide) (ih (fun q hq => h q (by simp [hq]))))

theorem LineOk.tag {l : List Char} (h : Safe l) : LineOk ('<' :: l) :=
  ⟨fun hm => by rcases List.mem_cons.mp hm with e | e; exact absurd e (by decide); exact h.nl e, List.cons_ne_nil _ _⟩

theorem openTag_ok (n : String) (a : List (String × String)) (hn : Safe n.toList) (ha : attrsSafe a) :
    LineOk (openTag n a) :=
  LineOk.tag (l := n.toList ++ renderAttrs a ++ ['>'])
    ((hn.append (safe_renderAttrs a ha)).append (Safe.cons (by decide) Safe.nil))

theorem closeTag_ok (n : String) (hn : Safe n.toList) : LineOk (closeTag n) :=
  LineOk.tag (l := '/' :: n.toList ++ ['>']) (Safe.cons (by decide) (hn.append (Safe.cons (by decide) Safe.nil)))

theorem emptyTag_ok (n : String) (a : List (String × String)) (hn : Safe n.toList) (ha : attrsSafe a) :
    LineOk (emptyTag n a) :=
  LineOk.tag (l := n.toList ++ renderAttrs a ++ ['/', '>'])
    ((hn.append (safe_renderAttrs a ha)).append (Safe.cons (by decide) (Safe.cons (by decide) Safe.nil)))

theorem ind_ok (l : List Char) (h : LineOk l) : LineOk (ind l) :=
  ⟨fun hm => by rcases List.mem_append.mp hm with e | e; exact absurd e (by decide); exact h.1 e, by simp [ind, sp4]⟩

mutual
theorem renderLines_ok : ∀ (t : XTree), t.safe → ∀ l ∈ renderLines t, LineOk l
  | .node n a cs, h => by
    intro l hl
    simp only [renderLines, List.mem_cons, List.mem_append, List.mem_map, List.not_mem_nil,
      or_false] at hl
    rcases hl with (rfl | ⟨l', hl', rfl⟩) | rfl
    · exact openTag_ok n a h.1 h.2.1
    · exact ind_ok l' (renderLinesList_ok cs h.2.2 l' hl')
    · exact closeTag_ok n h.1
  | .leaf n a t, h => by
    intro l hl
    simp only [renderLines, List.mem_singleton] at hl
    subst hl
    refine ⟨?_, by simp [openTag]⟩
    simp only [List.mem_append, not_or]
    exact ⟨⟨(openTag_ok n a h.1 h.2.1).1, h.2.2.nl⟩, (closeTag_ok n h.1).1⟩
  | .empty n a, h => by
    intro l hl
    simp only [renderLines, List.mem_singleton] at hl
    subst hl
    exact emptyTag_ok n a h.1 h.2
theorem renderLinesList_ok : ∀ (ts : List XTree), XTree.safeList ts → ∀ l ∈ renderLinesList ts, LineOk l
  | [], _ => by intro l hl; simp [renderLinesList] at hl
  | t :: ts, h => by
    intro l hl
    simp only [renderLinesList, List.mem_append] at hl
    rcases hl with hl | hl
    · exact renderLines_ok t h.1 l hl
    · exact renderLinesList_ok ts h.2 l hl
end

theorem renderLines_head (t : XTree) : ∃ r rest, renderLines t = ('<' :: r) :: rest := by
  cases t with
  | node n a cs =>
    exact ⟨n.toList ++ renderAttrs a ++ ['>'], (renderLinesList cs).map ind ++ [closeTag n], by
      simp [renderLines, openTag]⟩
  | leaf n a t =>
    exact ⟨n.toList ++ renderAttrs a ++ ['>'] ++ t.toList ++ closeTag n, [], by simp [renderLines, openTag]⟩
  | empty n a => exact ⟨n.toList ++ renderAttrs a ++ ['/', '>'], [], by simp [renderLines, emptyTag]⟩

theorem renderLinesList_append (a b : List XTree) :
    renderLinesList (a ++ b) = renderLinesList a ++ renderLinesList b := by
  induction a with
  | nil => simp [renderLinesList]
  | cons t ts ih => simp [renderLinesList, ih]

theorem renderLinesList_map {α} (f : α → XTree) (l : List α) :
    renderLinesList (l.map f) = (l.map (fun x => renderLines (f x))).flatten := by
  induction l with
  | nil => simp [renderLinesList]
  | cons x t ih => simp [renderLinesList, ih]

theorem lt_not_space : pyIsSpace '<' = false := by decide

/-- the loops of the writer: the pieces one after the other -/
theorem mapM_flatten_ok {α β} (f : α → Res (List β)) (g : α → List β) (l : List α) (h : ∀ x ∈ l, f x = .ok (g x)) :
    (do let parts ← l.mapM f; pure parts.flatten) = .ok ((l.map g).flatten) := by
  rw [mapM_ok f g l h]; rfl

/-- `_skr_key_to_xml` -/
theorem keyXml_eq (k : Key) : keyXml k = block (renderLines (keyTree k)) := by
  simp [keyXml, keyTree, block, renderLines, renderLinesList, leafLine, str]

theorem formatDatetimeRes_ok (t : Int) (h : instantOk t = true) : formatDatetimeRes t = .ok (formatDatetimeChars t) := by
  simp only [instantOk, Bool.and_eq_true, decide_eq_true_eq] at h
  exact if_pos ⟨h.1.1.1.2, h.1.1.2⟩

theorem typeCoveredName_dnskey : typeCoveredName 48 = .ok "DNSKEY".toList := rfl

/-- `_skr_signature_to_xml` -/
theorem sigXml_eq (s : Signature) (h1 : s.typeCovered = 48) (h2 : instantOk s.expiration = true)
    (h3 : instantOk s.inception = true) : sigXml s = .ok (block (renderLines (sigTree s))) := by
  simp only [sigXml, h1, typeCoveredName_dnskey, formatDatetimeRes_ok _ h2, formatDatetimeRes_ok _ h3, Res.ok_bind]
  simp [sigTree, block, renderLines, renderLinesList, leafLine, str, formatDatetime, pure, Except.pure]

/-! ### the writer's domain, field by field

  The model states the domain as Boolean conjunctions (`algOk`, `keyOk`, `sigOk`, `bundleOk`, `policyOk`,
  `writerDomain`).  Per predicate: a structure of named facts and the iff between the two, so that a proof takes a
  field, or supplies one, by its name. -/

structure AlgParts (a : AlgPolicy) : Prop where
  kind : a.kind = .rsa
  exp : a.exponent.isSome = true
  alg : a.algorithm = 5 ∨ a.algorithm = 8 ∨ a.algorithm = 10
  bits0 : 0 ≤ a.bits
  exp0 : 0 ≤ a.exponent.getD 0
  pbits : printable a.bits = true
  pexp : printable (a.exponent.getD 0) = true

theorem algOk_parts (a : AlgPolicy) (h : algOk a = true) : AlgParts a := by
  simp only [algOk, Bool.and_eq_true, Bool.or_eq_true, decide_eq_true_eq, beq_iff_eq, and_assoc, or_assoc] at h
  obtain ⟨kind, exp, alg, bits0, exp0, pbits, pexp⟩ := h
  exact ⟨kind, exp, alg, bits0, exp0, pbits, pexp⟩

/-- one pass of `_signature_algorithms_to_xml` -/
theorem algXml_eq (a : AlgPolicy) (h : algOk a = true) : algXml a = .ok (block (renderLines (algTree a))) := by
  have ap := algOk_parts a h
  obtain ⟨e, he'⟩ := Option.isSome_iff_exists.mp ap.exp
  simp [algXml, ap.kind, he', algTree, block, renderLines, renderLinesList, pure, Except.pure]

structure KeyParts (k : Key) : Prop where
  id : attrTextOk k.keyIdentifier = true
  pk : elemTextOk k.publicKey = true
  b64 : (Base64.decode k.publicKey).isSome = true
  tag0 : 0 ≤ k.keyTag
  tag1 : k.keyTag ≤ 65535
  ttl : 0 ≤ k.ttl
  flags0 : 0 ≤ k.flags
  flags1 : k.flags ≤ 65535
  protocol : k.protocol = 3
  alg : k.algorithm ≤ 255
  pttl : printable k.ttl = true

/-- `keyOk`, field by field (`KeyParts` leaves out that the key text is not empty) -/
theorem keyOk_iff (k : Key) : keyOk k = true ↔ KeyParts k ∧ k.publicKey.toList ≠ [] := by
  simp only [keyOk, Bool.and_eq_true, decide_eq_true_eq, Bool.not_eq_true', List.isEmpty_eq_false_iff, and_assoc]
  exact ⟨fun ⟨id, pk, ne, b64, tag0, tag1, ttl, flags0, flags1, protocol, alg, pttl⟩ =>
      ⟨⟨id, pk, b64, tag0, tag1, ttl, flags0, flags1, protocol, alg, pttl⟩, ne⟩,
    fun ⟨h, ne⟩ => ⟨h.id, h.pk, ne, h.b64, h.tag0, h.tag1, h.ttl, h.flags0, h.flags1, h.protocol, h.alg, h.pttl⟩⟩

theorem keyOk_parts (k : Key) (h : keyOk k = true) : KeyParts k := ((keyOk_iff k).mp h).1

structure SigParts (s : Signature) : Prop where
  id : attrTextOk s.keyIdentifier = true
  tc : s.typeCovered = 48
  exp : instantOk s.expiration = true
  inc : instantOk s.inception = true
  name : elemTextOk s.signersName = true
  nameNe : s.signersName.toList ≠ []
  data : elemTextOk s.signatureData = true
  dataNe : s.signatureData.toList ≠ []
  b64 : (Base64.decode s.signatureData).isSome = true
  tag0 : 0 ≤ s.keyTag
  tag1 : s.keyTag ≤ 65535
  ttl : 0 ≤ s.ttl
  ottl : 0 ≤ s.originalTtl
  labels0 : 0 ≤ s.labels
  labels1 : s.labels ≤ 255
  alg : s.algorithm ≤ 255
  pttl : printable s.ttl = true
  pottl : printable s.originalTtl = true

theorem sigOk_iff (s : Signature) : sigOk s = true ↔ SigParts s := by
  simp only [sigOk, Bool.and_eq_true, decide_eq_true_eq, beq_iff_eq, Bool.not_eq_true', List.isEmpty_eq_false_iff, and_assoc]
  exact ⟨fun ⟨id, tc, exp, inc, name, nameNe, data, dataNe, b64, tag0, tag1, ttl, ottl, labels0, labels1, alg, pttl, pottl⟩ =>
      ⟨id, tc, exp, inc, name, nameNe, data, dataNe, b64, tag0, tag1, ttl, ottl, labels0, labels1, alg, pttl, pottl⟩,
    fun h => ⟨h.id, h.tc, h.exp, h.inc, h.name, h.nameNe, h.data, h.dataNe, h.b64, h.tag0, h.tag1, h.ttl, h.ottl, h.labels0,
      h.labels1, h.alg, h.pttl, h.pottl⟩⟩

theorem sigOk_parts (s : Signature) (h : sigOk s = true) : SigParts s := (sigOk_iff s).mp h

structure BundleParts (b : Bundle) : Prop where
  id : attrTextOk b.id = true
  signers : b.signers = none
  inc : instantOk b.inception = true
  exp : instantOk b.expiration = true
  keysNe : b.keys ≠ []
  keys : ∀ k ∈ b.keys, keyOk k = true
  sigsNe : b.signatures ≠ []
  sigs : ∀ s ∈ b.signatures, sigOk s = true

theorem bundleOk_iff (b : Bundle) : bundleOk b = true ↔ BundleParts b := by
  simp only [bundleOk, Bool.and_eq_true, List.all_eq_true, Bool.not_eq_true', List.isEmpty_eq_false_iff,
    Option.isNone_iff_eq_none, and_assoc]
  exact ⟨fun ⟨id, signers, inc, exp, keysNe, keys, sigsNe, sigs⟩ => ⟨id, signers, inc, exp, keysNe, keys, sigsNe, sigs⟩,
    fun h => ⟨h.id, h.signers, h.inc, h.exp, h.keysNe, h.keys, h.sigsNe, h.sigs⟩⟩

theorem bundleOk_parts (b : Bundle) (h : bundleOk b = true) : BundleParts b := (bundleOk_iff b).mp h

structure PolicyParts (p : SigPolicy) : Prop where
  d1 : durationOk p.publishSafety = true
  d2 : durationOk p.retireSafety = true
  d3 : durationOk p.maxSignatureValidity = true
  d4 : durationOk p.minSignatureValidity = true
  d5 : durationOk p.maxValidityOverlap = true
  d6 : durationOk p.minValidityOverlap = true
  algsNe : p.algorithms ≠ []
  algs : ∀ a ∈ p.algorithms, algOk a = true

theorem policyOk_iff (p : SigPolicy) : policyOk p = true ↔ PolicyParts p := by
  simp only [policyOk, Bool.and_eq_true, List.all_eq_true, Bool.not_eq_true', List.isEmpty_eq_false_iff, and_assoc]
  exact ⟨fun ⟨d1, d2, d3, d4, d5, d6, algsNe, algs⟩ => ⟨d1, d2, d3, d4, d5, d6, algsNe, algs⟩,
    fun h => ⟨h.d1, h.d2, h.d3, h.d4, h.d5, h.d6, h.algsNe, h.algs⟩⟩

theorem policyOk_parts (p : SigPolicy) (h : policyOk p = true) : PolicyParts p := (policyOk_iff p).mp h

theorem PolicyParts.policyOk {p : SigPolicy} (h : PolicyParts p) : policyOk p = true := (policyOk_iff p).mpr h

structure DomainParts (r : Response) : Prop where
  ts : r.timestamp = none
  id : attrTextOk r.id = true
  domain : attrTextOk r.domain = true
  serial : 0 ≤ r.serial
  pserial : printable r.serial = true
  ksk : policyOk r.kskPolicy = true
  zsk : policyOk r.zskPolicy = true
  bundlesNe : r.bundles ≠ []
  bundles : ∀ b ∈ r.bundles, bundleOk b = true
  sorted : bundlesSorted r.bundles = true

theorem writerDomain_iff (r : Response) : WriterDomain r ↔ DomainParts r := by
  simp only [WriterDomain, writerDomain, Bool.and_eq_true, List.all_eq_true, Bool.not_eq_true',
    List.isEmpty_eq_false_iff, decide_eq_true_eq, Option.isNone_iff_eq_none, and_assoc]
  exact ⟨fun ⟨ts, id, domain, serial, pserial, ksk, zsk, bundlesNe, bundles, sorted⟩ =>
      ⟨ts, id, domain, serial, pserial, ksk, zsk, bundlesNe, bundles, sorted⟩,
    fun h => ⟨h.ts, h.id, h.domain, h.serial, h.pserial, h.ksk, h.zsk, h.bundlesNe, h.bundles, h.sorted⟩⟩

theorem domain_parts (r : Response) (h : WriterDomain r) : DomainParts r := (writerDomain_iff r).mp h

theorem DomainParts.writerDomain {r : Response} (h : DomainParts r) : WriterDomain r := (writerDomain_iff r).mpr h

end Kskm

/-! ### the strings the signer copies -/

namespace Kskm.ReadBack
open Kskm

/-- **TextSafe** — what is asked of the strings of a response that the signer copies into the file
    rather than printing them with one of its own codecs. -/
def textSafe (r : Response) : Bool :=
  attrTextOk r.id && attrTextOk r.domain &&
    r.bundles.all (fun b =>
      attrTextOk b.id
        && b.keys.all (fun k => attrTextOk k.keyIdentifier && elemTextOk k.publicKey)
        && b.signatures.all (fun s => attrTextOk s.keyIdentifier && elemTextOk s.signersName
            && elemTextOk s.signatureData))

def TextSafe (r : Response) : Prop := textSafe r = true

instance (r : Response) : Decidable (TextSafe r) := by unfold TextSafe; infer_instance

def bundleSafe (b : Bundle) : Prop :=
  attrTextOk b.id = true ∧
    (∀ k ∈ b.keys, attrTextOk k.keyIdentifier = true ∧ elemTextOk k.publicKey = true) ∧
    (∀ s ∈ b.signatures, attrTextOk s.keyIdentifier = true ∧ elemTextOk s.signersName = true ∧
      elemTextOk s.signatureData = true)

theorem textSafe_iff (r : Response) :
    TextSafe r ↔ attrTextOk r.id = true ∧ attrTextOk r.domain = true ∧ ∀ b ∈ r.bundles, bundleSafe b := by
  simp only [TextSafe, textSafe, bundleSafe, Bool.and_eq_true, List.all_eq_true, and_assoc]

theorem bundleSafe_of_ok (b : Bundle) (h : bundleOk b = true) : bundleSafe b :=
  have bp := bundleOk_parts b h
  ⟨bp.id, fun k hk => ⟨(keyOk_parts k (bp.keys k hk)).id, (keyOk_parts k (bp.keys k hk)).pk⟩,
    fun s hs => have sp := sigOk_parts s (bp.sigs s hs); ⟨sp.id, sp.name, sp.data⟩⟩

theorem textSafe_of_domain (r : Response) (h : WriterDomain r) : TextSafe r :=
  have hp := domain_parts r h
  (textSafe_iff r).mpr ⟨hp.id, hp.domain, fun b hb => bundleSafe_of_ok b (hp.bundles b hb)⟩

end Kskm.ReadBack

/-! ### one walk over the writer's trees

  The trees are walked once, at the strongest class — the model's own domain conditions on strings (`XTree.Wf`).
  No newline and no '<' anywhere (`XTree.safe`, here) and names, attribute values and texts that the repository's
  reader returns unchanged (SkrTree) are weakenings of it (`XTree.All.mono`). -/

namespace Kskm
open Kskm.ReadBack

mutual
def XTree.All (N A T : String → Prop) : XTree → Prop
  | .node n a cs => N n ∧ (∀ p ∈ a, N p.1 ∧ A p.2) ∧ XTree.AllL N A T cs
  | .leaf n a t => N n ∧ (∀ p ∈ a, N p.1 ∧ A p.2) ∧ T t
  | .empty n a => N n ∧ (∀ p ∈ a, N p.1 ∧ A p.2)
def XTree.AllL (N A T : String → Prop) : List XTree → Prop
  | [] => True
  | t :: ts => t.All N A T ∧ XTree.AllL N A T ts
end

theorem allL_iff {N A T : String → Prop} (ts : List XTree) : XTree.AllL N A T ts ↔ ∀ t ∈ ts, t.All N A T := by
  induction ts with
  | nil => simp [XTree.AllL]
  | cons t ts ih => simp [XTree.AllL, ih]

theorem allL_map {N A T : String → Prop} {α} (f : α → XTree) (l : List α) (h : ∀ x ∈ l, (f x).All N A T) :
    XTree.AllL N A T (l.map f) :=
  (allL_iff _).mpr (fun t ht => by obtain ⟨x, hx, rfl⟩ := List.mem_map.mp ht; exact h x hx)

theorem allL_append {N A T : String → Prop} (a b : List XTree) :
    XTree.AllL N A T (a ++ b) ↔ XTree.AllL N A T a ∧ XTree.AllL N A T b := by
  simp only [allL_iff, List.mem_append, or_imp, forall_and]

def wordChar (c : Char) : Bool :=
  (48 ≤ c.toNat && c.toNat ≤ 57) || (65 ≤ c.toNat && c.toNat ≤ 90) || (97 ≤ c.toNat && c.toNat ≤ 122)

/-- a name of letters and digits -/
def wordName (l : List Char) : Bool := !l.isEmpty && l.all wordChar

mutual
theorem XTree.All.mono {N A T N' A' T' : String → Prop} (hN : ∀ s, N s → N' s) (hA : ∀ s, A s → A' s)
    (hT : ∀ s, T s → T' s) : ∀ t : XTree, t.All N A T → t.All N' A' T'
  | .node _ _ cs, h => ⟨hN _ h.1, fun p hp => ⟨hN _ (h.2.1 p hp).1, hA _ (h.2.1 p hp).2⟩, XTree.AllL.mono hN hA hT cs h.2.2⟩
  | .leaf _ _ _, h => ⟨hN _ h.1, fun p hp => ⟨hN _ (h.2.1 p hp).1, hA _ (h.2.1 p hp).2⟩, hT _ h.2.2⟩
  | .empty _ _, h => ⟨hN _ h.1, fun p hp => ⟨hN _ (h.2 p hp).1, hA _ (h.2 p hp).2⟩⟩
theorem XTree.AllL.mono {N A T N' A' T' : String → Prop} (hN : ∀ s, N s → N' s) (hA : ∀ s, A s → A' s)
    (hT : ∀ s, T s → T' s) : ∀ ts : List XTree, XTree.AllL N A T ts → XTree.AllL N' A' T' ts
  | [], _ => trivial
  | t :: ts, h => ⟨XTree.All.mono hN hA hT t h.1, XTree.AllL.mono hN hA hT ts h.2⟩
end

/-- the writer's domain conditions on strings, as a property of trees: names of letters and digits, attribute values
    `attrTextOk`, texts `elemTextOk` — the strongest class; what a consumer needs follows by `All.mono` -/
abbrev XTree.Wf (t : XTree) : Prop :=
  t.All (fun n => wordName n.toList = true) (fun v => attrTextOk v = true) (fun s => elemTextOk s = true)

abbrev AttrsWf (a : List (String × String)) : Prop := ∀ p ∈ a, wordName p.1.toList = true ∧ attrTextOk p.2 = true

/-- a literal name is checked on its characters -/
theorem wfName (l : List Char) (h : wordName l = true) : wordName (String.ofList l).toList = true := by
  rwa [String.toList_ofList]

/-! what the signer prints itself is in the class, for every value -/
theorem pyIntStr_ne_nil (i : Int) : pyIntStr i ≠ [] := by
  unfold pyIntStr
  split
  · exact List.cons_ne_nil _ _
  · exact Nat.toDigits_ne_nil

theorem wfIntA (i : Int) : attrTextOk (str (pyIntStr i)) = true :=
  attrTextOk_of_ink _ (ink_str _ (ink_pyIntStr i)) (by rw [str, String.toList_ofList]; exact pyIntStr_ne_nil i)
theorem wfIntT (i : Int) : elemTextOk (str (pyIntStr i)) = true := elemTextOk_of_ink _ (ink_str _ (ink_pyIntStr i))
theorem wfNatA (k : Nat) : attrTextOk (str (natStr k)) = true :=
  attrTextOk_of_ink _ (ink_str _ (ink_natStr k)) (by rw [str, String.toList_ofList]; exact Nat.toDigits_ne_nil)
theorem wfNatT (k : Nat) : elemTextOk (str (natStr k)) = true := elemTextOk_of_ink _ (ink_str _ (ink_natStr k))
theorem wfDur (d : Int) : elemTextOk (formatDuration d) = true := elemTextOk_of_ink _ (ink_formatDuration d)
theorem wfTime (t : Int) : elemTextOk (formatDatetime t) = true := elemTextOk_of_ink _ (ink_formatDatetime t)

def rpTree (r : Response) : XTree :=
  .node "ResponsePolicy" [] [policyTree "KSK" r.kskPolicy, policyTree "ZSK" r.zskPolicy]

def respTree (r : Response) : XTree := .node "Response" [] (rpTree r :: r.bundles.map bundleTree)

theorem wfNoAttrs : AttrsWf [] := fun _ h => nomatch h

theorem wfAttrs {l : List Char} {v : String} {rest : List (String × String)} (hv : attrTextOk v = true)
    (hrest : AttrsWf rest) (hl : wordName l = true := by decide) : AttrsWf ((String.ofList l, v) :: rest) := by
  intro p hp
  rcases List.mem_cons.mp hp with rfl | h
  · exact ⟨wfName l hl, hv⟩
  · exact hrest p h

theorem wfLeaf {l : List Char} {t : String} (ht : elemTextOk t = true) (hl : wordName l = true := by decide) :
    (XTree.leaf (String.ofList l) [] t).Wf := ⟨wfName l hl, wfNoAttrs, ht⟩

theorem algTree_all (a : AlgPolicy) : (algTree a).Wf :=
  ⟨wfName _ (by decide), wfAttrs (wfNatA _) wfNoAttrs,
    ⟨wfName _ (by decide), wfAttrs (wfIntA _) (wfAttrs (wfIntA _) wfNoAttrs)⟩, trivial⟩

theorem policyTree_all (name : String) (hn : wordName name.toList = true) (p : SigPolicy) : (policyTree name p).Wf :=
  ⟨hn, wfNoAttrs, (allL_append _ _).mpr ⟨⟨wfLeaf (wfDur _), wfLeaf (wfDur _), wfLeaf (wfDur _), wfLeaf (wfDur _),
    wfLeaf (wfDur _), wfLeaf (wfDur _), trivial⟩, allL_map _ _ (fun a _ => algTree_all a)⟩⟩

theorem keyTree_all (k : Key) (h1 : attrTextOk k.keyIdentifier = true) (h2 : elemTextOk k.publicKey = true) :
    (keyTree k).Wf :=
  ⟨wfName _ (by decide), wfAttrs h1 (wfAttrs (wfIntA _) wfNoAttrs),
    wfLeaf (wfIntT _), wfLeaf (wfIntT _), wfLeaf (wfIntT _), wfLeaf (wfNatT _), wfLeaf h2, trivial⟩

theorem sigTree_all (s : Signature) (h1 : attrTextOk s.keyIdentifier = true) (h2 : elemTextOk s.signersName = true)
    (h3 : elemTextOk s.signatureData = true) : (sigTree s).Wf :=
  ⟨wfName _ (by decide), wfAttrs h1 wfNoAttrs,
    wfLeaf (wfIntT _), wfLeaf (by decide), wfLeaf (wfNatT _), wfLeaf (wfIntT _), wfLeaf (wfIntT _), wfLeaf (wfTime _),
    wfLeaf (wfTime _), wfLeaf (wfIntT _), wfLeaf h2, wfLeaf h3, trivial⟩

theorem bundleTree_all (b : Bundle) (h : bundleSafe b) : (bundleTree b).Wf :=
  ⟨wfName _ (by decide), wfAttrs h.1 wfNoAttrs, (allL_append _ _).mpr ⟨(allL_append _ _).mpr
    ⟨⟨wfLeaf (wfTime _), wfLeaf (wfTime _), trivial⟩,
      allL_map _ _ (fun k hk => keyTree_all k (h.2.1 k (mem_sortKeys.mp hk)).1 (h.2.1 k (mem_sortKeys.mp hk)).2)⟩,
    allL_map _ _ (fun s hs => sigTree_all s (h.2.2 s hs).1 (h.2.2 s hs).2.1 (h.2.2 s hs).2.2)⟩⟩

theorem rpTree_all (r : Response) : (rpTree r).Wf :=
  ⟨wfName _ (by decide), wfNoAttrs, policyTree_all _ (wfName _ (by decide)) _,
    policyTree_all _ (wfName _ (by decide)) _, trivial⟩

theorem respTree_all (r : Response) (h : ∀ b ∈ r.bundles, bundleSafe b) : (respTree r).Wf :=
  ⟨wfName _ (by decide), wfNoAttrs, rpTree_all r, allL_map _ _ (fun b hb => bundleTree_all b (h b hb))⟩

theorem treeOf_all (r : Response) (h : TextSafe r) : (treeOf r).Wf :=
  have ⟨h1, h2, hb⟩ := (textSafe_iff r).mp h
  ⟨wfName _ (by decide), wfAttrs h1 (wfAttrs h2 (wfAttrs (wfIntA _) wfNoAttrs)), respTree_all r hb, trivial⟩

theorem safe_of_wordName (l : List Char) (h : wordName l = true) : Safe l := by
  simp only [wordName, Bool.and_eq_true, List.all_eq_true] at h
  intro c hc
  have := h.2 c hc
  simp only [safeChar, Bool.and_eq_true, bne_iff_ne, ne_eq]
  constructor <;> intro e <;> subst e <;> revert this <;> decide

mutual
theorem safe_of_all : ∀ t : XTree, t.All (fun s => Safe s.toList) (fun s => Safe s.toList) (fun s => Safe s.toList) → t.safe
  | .node _ _ cs, h => ⟨h.1, h.2.1, safeList_of_allL cs h.2.2⟩
  | .leaf _ _ _, h => h
  | .empty _ _, h => h
theorem safeList_of_allL : ∀ ts : List XTree,
    XTree.AllL (fun s => Safe s.toList) (fun s => Safe s.toList) (fun s => Safe s.toList) ts → XTree.safeList ts
  | [], _ => trivial
  | t :: ts, h => ⟨safe_of_all t h.1, safeList_of_allL ts h.2⟩
end

theorem XTree.Wf.safe {t : XTree} (h : t.Wf) : t.safe :=
  safe_of_all _ (XTree.All.mono (fun _ hn => safe_of_wordName _ hn)
    (fun s hs => safe_of_plain s (by simp only [attrTextOk, Bool.and_eq_true] at hs; exact hs.2))
    (fun s hs => safe_of_plain s (by simp only [elemTextOk, Bool.and_eq_true] at hs; exact hs.1.1)) t h)

theorem lines_ok_of_safe (t : XTree) (h : t.safe) : ∀ l ∈ renderLines t, LineOk l := renderLines_ok t h

/-- `_indent` of a concatenation of element templates -/
theorem indent_elements {α} (f : α → XTree) (l : List α) (hne : l ≠ []) (hs : ∀ x ∈ l, (f x).safe) :
    sp4 ++ indent ((l.map (fun x => block (renderLines (f x)))).flatten)
      = joinNl ((renderLinesList (l.map f)).map ind) := by
  have e : l.map (fun x => block (renderLines (f x))) = (l.map (fun x => renderLines (f x))).map block := by
    simp [List.map_map]
  rw [e, renderLinesList_map]
  cases l with
  | nil => exact absurd rfl hne
  | cons x t =>
    obtain ⟨r, rest, hr⟩ := renderLines_head (f x)
    refine indent_blocks _ ?_ '<' r (rest ++ (t.map (fun y => renderLines (f y))).flatten) ?_ lt_not_space
    · intro ls hls l' hl'
      obtain ⟨y, hy, rfl⟩ := List.mem_map.mp hls
      exact renderLines_ok (f y) (hs y hy) l' hl'
    · simp [hr]

/-- `_skr_signatures_to_xml` -/
theorem sigsXml_eq (b : Bundle) (h : ∀ s ∈ b.signatures, sigOk s = true) :
    sigsXml b = .ok ((b.signatures.map (fun s => block (renderLines (sigTree s)))).flatten) :=
  mapM_flatten_ok sigXml _ _ fun s hs => have sp := sigOk_parts s (h s hs); sigXml_eq s sp.tc sp.exp sp.inc

theorem renderLines_nonempty (t : XTree) : renderLines t ≠ [] := by
  obtain ⟨r, rest, h⟩ := renderLines_head t
  rw [h]; simp

theorem map_ind_lines_ne_nil (ts : List XTree) (h : ts ≠ []) : (renderLinesList ts).map ind ≠ [] := by
  cases ts with
  | nil => exact absurd rfl h
  | cons t r =>
    intro e
    rw [List.map_eq_nil_iff, renderLinesList] at e
    exact renderLines_nonempty t (List.append_eq_nil_iff.mp e).1

/-- `_skr_bundle_to_xml` -/
theorem bundleXml_eq (b : Bundle) (h : bundleOk b = true) :
    bundleXml b = .ok (block (renderLines (bundleTree b))) := by
  have bp := bundleOk_parts b h
  have hk := bp.keysNe
  have hsg := bp.sigsNe
  have hks : ∀ k ∈ b.keys, (keyTree k).safe := fun k hk' =>
    (keyTree_all k (keyOk_parts k (bp.keys k hk')).id (keyOk_parts k (bp.keys k hk')).pk).safe
  have hss : ∀ s ∈ b.signatures, (sigTree s).safe := fun s hs' =>
    have sp := sigOk_parts s (bp.sigs s hs')
    (sigTree_all s sp.id sp.name sp.data).safe
  have hK : sp4 ++ indent (keysXml b) = joinNl ((renderLinesList ((sortKeys b.keys).map keyTree)).map ind) := by
    rw [show keysXml b = ((sortKeys b.keys).map (fun k => block (renderLines (keyTree k)))).flatten from
      congrArg List.flatten (List.map_congr_left (fun k _ => keyXml_eq k))]
    exact indent_elements keyTree _ (sortKeys_ne_nil hk) (fun k hk' => hks k (mem_sortKeys.mp hk'))
  have hS := indent_elements sigTree b.signatures hsg hss
  simp only [bundleXml, formatDatetimeRes_ok _ bp.inc, formatDatetimeRes_ok _ bp.exp, sigsXml_eq b bp.sigs, Res.ok_bind,
    hK, hS]
  refine congrArg Except.ok ?_
  unfold block
  have s := joinNl_splice2
    [[], openTag "ResponseBundle" [("id", b.id)], leafLine "Inception" (formatDatetimeChars b.inception),
      leafLine "Expiration" (formatDatetimeChars b.expiration)]
    ((renderLinesList ((sortKeys b.keys).map keyTree)).map ind) ((renderLinesList (b.signatures.map sigTree)).map ind)
    [closeTag "ResponseBundle", []] (map_ind_lines_ne_nil _ (by simpa using sortKeys_ne_nil hk))
    (map_ind_lines_ne_nil _ (by simpa using hsg))
  simp only [List.cons_append, List.nil_append, List.append_assoc] at s
  rw [s]
  simp [bundleTree, renderLines, renderLinesList, renderLinesList_append, leafLine, formatDatetime, List.map_append]

/-- `_skr_response_bundles_to_xml` -/
theorem bundlesXml_eq (r : Response) (h : ∀ b ∈ r.bundles, bundleOk b = true) :
    bundlesXml r = .ok ((r.bundles.map (fun b => block (renderLines (bundleTree b)))).flatten) :=
  mapM_flatten_ok bundleXml _ _ fun b hb => bundleXml_eq b (h b hb)

/-- `_signature_algorithms_to_xml` -/
theorem algsXml_eq (algs : List AlgPolicy) (h : ∀ a ∈ algs, algOk a = true) :
    algsXml algs = .ok ((algs.map (fun a => block (renderLines (algTree a)))).flatten) :=
  mapM_flatten_ok algXml _ _ fun a ha => algXml_eq a (h a ha)

theorem nonEmptyLines_append (a b : List (List Char)) :
    nonEmptyLines (a ++ b) = nonEmptyLines a ++ nonEmptyLines b := by
  simp [nonEmptyLines]

/-- `_indent` of a template text whose non-blank lines are the lines of a safe element: the blank lines go, the
    element's lines are indented -/
theorem indent_template (t : XTree) (ht : t.safe) (ls : List (List Char)) (h : nonEmptyLines ls = renderLines t) :
    sp4 ++ indent (joinNl ls) = joinNl ((renderLines t).map ind) := by
  obtain ⟨r, rest, hr⟩ := renderLines_head t
  rw [indent_joinNl ls ?_, h, hr, sp4_lstrip_ind '<' r rest lt_not_space]
  intro l hl
  by_cases he : l = []
  · subst he; simp
  · have : l ∈ nonEmptyLines ls := List.mem_filter.mpr ⟨hl, by simpa using he⟩
    rw [h] at this
    exact (renderLines_ok t ht l this).1

/-- `_skr_response_policy_to_xml2` inside its template line -/
theorem policy2_lines (name : String) (p : SigPolicy) (hn : wordName name.toList = true) (hne : p.algorithms ≠ [])
    (ha : ∀ a ∈ p.algorithms, algOk a = true) :
    ∃ text, policy2Xml name p = .ok text ∧
      sp4 ++ indent text = joinNl ((renderLines (policyTree name p)).map ind) := by
  have hA := indent_elements algTree p.algorithms hne (fun a _ => (algTree_all a).safe)
  have hsafe := (policyTree_all name hn p).safe
  refine ⟨_, by simp only [policy2Xml, algsXml_eq _ ha, Res.ok_bind, hA]; rfl, ?_⟩
  -- the lines of the template, the algorithm block spliced in
  have s1 := joinNl_splice
    [[], openTag name [], [], leafLine "PublishSafety" (formatDurationChars p.publishSafety),
      leafLine "RetireSafety" (formatDurationChars p.retireSafety),
      leafLine "MaxSignatureValidity" (formatDurationChars p.maxSignatureValidity),
      leafLine "MinSignatureValidity" (formatDurationChars p.minSignatureValidity),
      leafLine "MaxValidityOverlap" (formatDurationChars p.maxValidityOverlap),
      leafLine "MinValidityOverlap" (formatDurationChars p.minValidityOverlap)]
    ((renderLinesList (p.algorithms.map algTree)).map ind) [closeTag name, []]
    (map_ind_lines_ne_nil (p.algorithms.map algTree) (by simpa using hne))
  simp only [List.cons_append, List.nil_append] at s1
  rw [s1]
  -- apart from the blank ones these are the element's lines
  refine indent_template _ hsafe _ ?_
  rw [← nonEmptyLines_of_ok _ (renderLines_ok _ hsafe)]
  simp [nonEmptyLines, List.filter_cons, policyTree, renderLines, renderLinesList, leafLine,
    formatDuration]

theorem map_ind_ne_nil (t : XTree) : (renderLines t).map ind ≠ [] := by
  intro e; exact renderLines_nonempty t (List.map_eq_nil_iff.mp e)

/-- `_skr_response_policy_to_xml` -/
theorem policyXml_eq (r : Response) (hk : policyOk r.kskPolicy = true) (hz : policyOk r.zskPolicy = true) :
    policyXml r = .ok (block (renderLines (rpTree r))) := by
  obtain ⟨tk, hk1, hk2⟩ := policy2_lines "KSK" r.kskPolicy (wfName _ (by decide)) (policyOk_parts _ hk).algsNe (policyOk_parts _ hk).algs
  obtain ⟨tz, hz1, hz2⟩ := policy2_lines "ZSK" r.zskPolicy (wfName _ (by decide)) (policyOk_parts _ hz).algsNe (policyOk_parts _ hz).algs
  simp only [policyXml, hk1, hz1, Res.ok_bind, hk2, hz2]
  refine congrArg Except.ok ?_
  unfold block
  have s := joinNl_splice2 [[], openTag "ResponsePolicy" []] ((renderLines (policyTree "KSK" r.kskPolicy)).map ind)
    ((renderLines (policyTree "ZSK" r.zskPolicy)).map ind) [closeTag "ResponsePolicy", []] (map_ind_ne_nil _)
    (map_ind_ne_nil _)
  simp only [List.cons_append, List.nil_append, List.append_assoc] at s
  rw [s]
  simp [rpTree, renderLines, renderLinesList, List.map_append]

/-- `_skr_response_to_xml` -/
theorem responseXml_eq (r : Response) (hd : WriterDomain r) :
    responseXml r = .ok (block (renderLines (respTree r))) := by
  have hp := domain_parts r hd
  have hk := hp.ksk
  have hz := hp.zsk
  have hne := hp.bundlesNe
  have h := hp.bundles
  have hP := indent_elements (fun (_ : Unit) => rpTree r) [()] (by simp) (fun _ _ => (rpTree_all r).safe)
  have hB := indent_elements bundleTree r.bundles hne
    (fun b hb => (bundleTree_all b (ReadBack.bundleSafe_of_ok b (h b hb))).safe)
  simp only [List.map_cons, List.map_nil, List.flatten_cons, List.flatten_nil, List.append_nil, renderLinesList] at hP
  simp only [responseXml, policyXml_eq r hk hz, bundlesXml_eq r h, Res.ok_bind, hP, hB]
  refine congrArg Except.ok ?_
  unfold block
  have s := joinNl_splice2 [[], openTag "Response" []] ((renderLines (rpTree r)).map ind)
    ((renderLinesList (r.bundles.map bundleTree)).map ind) [closeTag "Response", []] (map_ind_ne_nil _)
    (map_ind_lines_ne_nil _ (by simpa using hne))
  simp only [List.cons_append, List.nil_append, List.append_assoc] at s
  rw [s]
  simp [respTree, renderLines, renderLinesList, List.map_append]

theorem printable_small (i : Int) (h0 : 0 ≤ i) (h1 : i.toNat < 10000000000) : printable i = true := by
  have big : (10000000000 : Nat) ≤ 10 ^ maxStrDigits := by
    calc (10000000000 : Nat) ≤ 10 ^ 10 := by decide
      _ ≤ 10 ^ maxStrDigits := Nat.pow_le_pow_right (by decide) (by decide)
  simp only [printable, decide_eq_true_eq]
  omega

theorem printable_of_bounds (i : Int) (h0 : 0 ≤ i) (h1 : i ≤ 65535) : printable i = true :=
  printable_small i h0 (by omega)

theorem printable_nat (n : Nat) (h : n ≤ 65535) : printable (n : Int) = true :=
  printable_of_bounds _ (by omega) (by omega)

theorem KeyParts.ptag {k : Key} (kp : KeyParts k) : printable k.keyTag = true := printable_of_bounds _ kp.tag0 kp.tag1
theorem KeyParts.pflags {k : Key} (kp : KeyParts k) : printable k.flags = true :=
  printable_of_bounds _ kp.flags0 kp.flags1
theorem KeyParts.protocol0 {k : Key} (kp : KeyParts k) : 0 ≤ k.protocol := by rw [kp.protocol]; decide
theorem KeyParts.pprotocol {k : Key} (kp : KeyParts k) : printable k.protocol = true :=
  printable_of_bounds _ kp.protocol0 (by rw [kp.protocol]; decide)
theorem KeyParts.palg {k : Key} (kp : KeyParts k) : printable (k.algorithm : Int) = true :=
  printable_nat _ (by have := kp.alg; omega)
theorem SigParts.ptag {s : Signature} (sp : SigParts s) : printable s.keyTag = true :=
  printable_of_bounds _ sp.tag0 sp.tag1
theorem SigParts.plabels {s : Signature} (sp : SigParts s) : printable s.labels = true :=
  printable_of_bounds _ sp.labels0 (by have := sp.labels1; omega)
theorem SigParts.palg {s : Signature} (sp : SigParts s) : printable (s.algorithm : Int) = true :=
  printable_nat _ (by have := sp.alg; omega)
theorem AlgParts.palg {a : AlgPolicy} (ap : AlgParts a) : printable (a.algorithm : Int) = true :=
  printable_nat _ (by rcases ap.alg with e | e | e <;> omega)

theorem domain_printable (r : Response) (h : WriterDomain r) : (printedInts r).all printable = true := by
  have hp := domain_parts r h
  have halg : ∀ p : SigPolicy, policyOk p = true → ∀ a ∈ p.algorithms,
      ([(a.algorithm : Int), a.bits, a.exponent.getD 0].all printable) = true := by
    intro p hpo a ha
    have ap := algOk_parts a ((policyOk_parts p hpo).algs a ha)
    simp [ap.palg, ap.pbits, ap.pexp]
  simp only [printedInts, List.all_cons, List.all_append, List.all_flatMap, Bool.and_eq_true, List.all_eq_true,
    List.all_nil, Bool.and_true]
  refine ⟨⟨hp.pserial, ?_, ?_⟩, ?_⟩
  · intro a ha
    have := halg _ hp.ksk a ha
    simpa [and_assoc] using this
  · intro a ha
    have := halg _ hp.zsk a ha
    simpa [and_assoc] using this
  · intro b hb
    have bp := bundleOk_parts b (hp.bundles b hb)
    constructor
    · intro k hk
      have kp := keyOk_parts k (bp.keys k hk)
      simp [kp.ptag, kp.pttl, kp.pflags, kp.pprotocol, kp.palg]
    · intro s hs
      have sp := sigOk_parts s (bp.sigs s hs)
      simp [sp.pttl, sp.pottl, sp.ptag, sp.plabels, sp.palg]

/-- `skr_to_xml` -/
theorem skrToXmlChars_of_domain (r : Response) (h : WriterDomain r) :
    skrToXmlChars r = .ok (renderDoc (treeOf r)) := by
  have hts := (domain_parts r h).ts
  have hints := domain_printable r h
  have hR := indent_elements (fun (_ : Unit) => respTree r) [()] (by simp)
    (fun _ _ => (respTree_all r fun b hb => ReadBack.bundleSafe_of_ok b ((domain_parts r h).bundles b hb)).safe)
  simp only [List.map_cons, List.map_nil, List.flatten_cons, List.flatten_nil, List.append_nil, renderLinesList] at hR
  simp only [skrToXmlChars, hts, hints, Bool.not_true, Option.isSome_none, Bool.false_eq_true, ↓reduceIte, responseXml_eq r h,
    Res.ok_bind, hR]
  refine congrArg Except.ok ?_
  have s1 := joinNl_splice
    [xmlDecl, openTag "KSR" [("id", r.id), ("domain", r.domain), ("serial", str (pyIntStr r.serial))]]
    ((renderLines (respTree r)).map ind) [closeTag "KSR", []] (map_ind_ne_nil _)
  simp only [List.cons_append, List.nil_append] at s1
  rw [s1]
  simp [renderDoc, treeOf, respTree, rpTree, renderLines, renderLinesList, List.map_append]

end Kskm
