/-
  schema/ksr.rnc, Response side, as a predicate over element trees — a hand transliteration, pattern by
  pattern (the harness interprets the .rnc file itself on every emitted document and compares the
  ElementTree reading of the text with `treeOf`).

  * element names, order and cardinalities (`+`) are as in the grammar;
  * attributes are an unordered set: exactly the required names (plus the optional `timestamp`), each
    once, each value in its datatype;
  * `xsd:nonNegativeInteger` (with `minInclusive` / `maxInclusive`) is interpreted: an optional '+' is not
    needed by the writer, the predicate accepts the canonical decimal forms (digits only) — a subset
    of the XSD lexical space; `xsd:string` accepts everything;
  * `xsd:dateTime`, `xsd:duration`, `xsd:base64Binary` are PARAMETERS (`Datatypes`): conformance is proved
    for every interpretation that accepts what the two writer codecs print and the base64 texts of the
    domain; that the printed forms are in the XSD lexical spaces is checked on every run by
    harness/corr_C11.py (`xsd_valid`) on ≥ 5 000 printed values.
-/
import KskmProofs.Lemmas.C11Render
namespace Kskm.Rnc

structure Datatypes where
  dateTime : String → Prop
  duration : String → Prop
  base64 : String → Prop

/-- `xsd:nonNegativeInteger { minInclusive = lo  maxInclusive = hi }`, canonical decimal forms -/
def nonNeg (lo : Nat) (hi : Option Nat) (s : String) : Prop :=
  s.toList ≠ [] ∧ (∀ c ∈ s.toList, c.isDigit = true) ∧ lo ≤ Nat.ofDigitChars 10 s.toList 0 ∧
    ∀ h, hi = some h → Nat.ofDigitChars 10 s.toList 0 ≤ h

def xsdString (_ : String) : Prop := True

def keytag := nonNeg 0 (some 65535)
def algorithm := nonNeg 0 (some 255)
def ttl := nonNeg 0 none
def protocol := nonNeg 3 (some 3)
def flags := nonNeg 0 (some 65535)
def labels := nonNeg 0 (some 255)

/-- `attribute n₁ { T₁ }, …` (all required) with optional ones: an unordered set -/
def attrsAre (a : List (String × String)) (req : List (String × (String → Prop)))
    (opt : List (String × (String → Prop))) : Prop :=
  (a.map (·.1)).Nodup ∧
  (∀ p ∈ req, ∃ v, (p.1, v) ∈ a ∧ p.2 v) ∧
  (∀ q ∈ a, (∃ p ∈ req, p.1 = q.1) ∨ (∃ p ∈ opt, p.1 = q.1 ∧ p.2 q.2))

/-- `element name { T }` with no attributes -/
def textElem (name : String) (T : String → Prop) : XTree → Prop
  | .leaf n a t => n = name ∧ a = [] ∧ T t
  | _ => False

/-- `RSA = element RSA { attribute size {…}, attribute exponent {…}, empty }` -/
def rsa : XTree → Prop
  | .empty n a => n = "RSA" ∧ attrsAre a [("size", nonNeg 0 none), ("exponent", nonNeg 0 none)] []
  | _ => False

/-- `ECDSA = element ECDSA { attribute size {…}, empty }` -/
def ecdsa : XTree → Prop
  | .empty n a => n = "ECDSA" ∧ attrsAre a [("size", nonNeg 0 none)] []
  | _ => False

/-- `algorithmPolicy = element SignatureAlgorithm { attribute algorithm { algorithm }, (RSA | ECDSA) }` -/
def algorithmPolicy : XTree → Prop
  | .node n a [c] => n = "SignatureAlgorithm" ∧ attrsAre a [("algorithm", algorithm)] [] ∧ (rsa c ∨ ecdsa c)
  | _ => False

/-- `anykeyPolicy` as the content of `element name { … }` -/
def keyPolicyElem (dt : Datatypes) (name : String) : XTree → Prop
  | .node n a (c1 :: c2 :: c3 :: c4 :: c5 :: c6 :: algs) =>
    n = name ∧ a = [] ∧
    textElem "PublishSafety" dt.duration c1 ∧ textElem "RetireSafety" dt.duration c2 ∧
    textElem "MaxSignatureValidity" dt.duration c3 ∧ textElem "MinSignatureValidity" dt.duration c4 ∧
    textElem "MaxValidityOverlap" dt.duration c5 ∧ textElem "MinValidityOverlap" dt.duration c6 ∧
    algs ≠ [] ∧ ∀ x ∈ algs, algorithmPolicy x            -- algorithmPolicy+
  | _ => False

/-- `key = element Key { … }` -/
def key (dt : Datatypes) : XTree → Prop
  | .node n a [c1, c2, c3, c4, c5] =>
    n = "Key" ∧ attrsAre a [("keyIdentifier", xsdString), ("keyTag", keytag)] [] ∧
    textElem "TTL" ttl c1 ∧ textElem "Flags" flags c2 ∧ textElem "Protocol" protocol c3 ∧
    textElem "Algorithm" algorithm c4 ∧ textElem "PublicKey" dt.base64 c5
  | _ => False

/-- `signature = element Signature { … }` -/
def signature (dt : Datatypes) : XTree → Prop
  | .node n a [c1, c2, c3, c4, c5, c6, c7, c8, c9, c10] =>
    n = "Signature" ∧ attrsAre a [("keyIdentifier", xsdString)] [] ∧
    textElem "TTL" ttl c1 ∧ textElem "TypeCovered" xsdString c2 ∧ textElem "Algorithm" algorithm c3 ∧
    textElem "Labels" labels c4 ∧ textElem "OriginalTTL" ttl c5 ∧ textElem "SignatureExpiration" dt.dateTime c6 ∧
    textElem "SignatureInception" dt.dateTime c7 ∧ textElem "KeyTag" keytag c8 ∧
    textElem "SignersName" xsdString c9 ∧ textElem "SignatureData" dt.base64 c10
  | _ => False

/-- `element ResponseBundle { attribute id, Inception, Expiration, key+, signature+ }` -/
def responseBundle (dt : Datatypes) : XTree → Prop
  | .node n a (c1 :: c2 :: rest) =>
    n = "ResponseBundle" ∧ attrsAre a [("id", xsdString)] [] ∧
    textElem "Inception" dt.dateTime c1 ∧ textElem "Expiration" dt.dateTime c2 ∧
    ∃ ks ss, rest = ks ++ ss ∧ ks ≠ [] ∧ ss ≠ [] ∧ (∀ k ∈ ks, key dt k) ∧ (∀ s ∈ ss, signature dt s)
  | _ => False

/-- `element ResponsePolicy { element KSK { anykeyPolicy }, element ZSK { anykeyPolicy } }` -/
def responsePolicy (dt : Datatypes) : XTree → Prop
  | .node n a [k, z] => n = "ResponsePolicy" ∧ a = [] ∧ keyPolicyElem dt "KSK" k ∧ keyPolicyElem dt "ZSK" z
  | _ => False

/-- `response = element Response { attribute timestamp?, ResponsePolicy, ResponseBundle+ }` -/
def response (dt : Datatypes) : XTree → Prop
  | .node n a (p :: bundles) =>
    n = "Response" ∧ attrsAre a [] [("timestamp", dt.dateTime)] ∧ responsePolicy dt p ∧
    bundles ≠ [] ∧ ∀ b ∈ bundles, responseBundle dt b
  | _ => False

/-- `start = element KSR { attribute id, attribute serial, attribute domain, (request | response) }`,
    the `response` alternative -/
def start (dt : Datatypes) : XTree → Prop
  | .node n a [c] =>
    n = "KSR" ∧ attrsAre a [("id", xsdString), ("serial", nonNeg 0 none), ("domain", xsdString)] [] ∧ response dt c
  | _ => False

theorem nonNeg_nat (n lo : Nat) (hi : Option Nat) (hlo : lo ≤ n) (hhi : ∀ h, hi = some h → n ≤ h) :
    nonNeg lo hi (str (natStr n)) := by
  simp only [nonNeg, str, natStr, String.toList_ofList, Nat.ofDigitChars_ten_toDigits]
  exact ⟨Nat.toDigits_ne_nil, all_digits_toDigits n, hlo, hhi⟩

theorem nonNeg_int (i : Int) (lo : Nat) (hi : Option Nat) (hlo : (lo : Int) ≤ i)
    (hhi : ∀ h, hi = some h → i ≤ (h : Int)) : nonNeg lo hi (str (pyIntStr i)) := by
  have h0 : 0 ≤ i := by omega
  obtain ⟨n, rfl⟩ := Int.eq_ofNat_of_zero_le h0
  have : pyIntStr (n : Int) = natStr n := by
    unfold pyIntStr natStr
    rw [if_neg (by omega)]; simp
  rw [this]
  exact nonNeg_nat n lo hi (by omega) (fun h hh => by have := hhi h hh; omega)

/-- an explicit attribute list with distinct names meets "exactly these required attributes" -/
theorem attrsAre_one (n v : String) (T : String → Prop) (h : T v) : attrsAre [(n, v)] [(n, T)] [] := by
  refine ⟨by simp, ?_, ?_⟩
  · intro p hp
    simp only [List.mem_singleton] at hp
    subst hp
    exact ⟨v, by simp, h⟩
  · intro q hq
    simp only [List.mem_singleton] at hq
    subst hq
    exact Or.inl ⟨(n, T), by simp, rfl⟩

theorem attrsAre_two (n1 v1 n2 v2 : String) (T1 T2 : String → Prop) (hne : n1 ≠ n2) (h1 : T1 v1) (h2 : T2 v2) :
    attrsAre [(n1, v1), (n2, v2)] [(n1, T1), (n2, T2)] [] := by
  refine ⟨by simp [hne], ?_, ?_⟩
  · intro p hp
    simp only [List.mem_cons, List.not_mem_nil, or_false] at hp
    rcases hp with rfl | rfl
    · exact ⟨v1, by simp, h1⟩
    · exact ⟨v2, by simp, h2⟩
  · intro q hq
    simp only [List.mem_cons, List.not_mem_nil, or_false] at hq
    rcases hq with rfl | rfl
    · exact Or.inl ⟨(n1, T1), by simp, rfl⟩
    · exact Or.inl ⟨(n2, T2), by simp, rfl⟩

theorem algTree_conforms (a : AlgPolicy) (h : algOk a = true) : algorithmPolicy (algTree a) := by
  have ap := algOk_parts a h
  unfold algTree
  simp only [algorithmPolicy, rsa, true_and]
  refine ⟨attrsAre_one _ _ _ (nonNeg_nat _ 0 _ (Nat.zero_le _) (fun h hh => ?_)), Or.inl ?_⟩
  · cases hh; rcases ap.alg with e | e | e <;> omega
  · exact attrsAre_two _ _ _ _ _ _ (by decide) (nonNeg_int _ 0 none (by simpa using ap.bits0) (fun _ h => by cases h))
      (nonNeg_int _ 0 none (by simpa using ap.exp0) (fun _ h => by cases h))

/-- what the datatype interpretation must accept: the printed forms of the two codecs and canonical base64 -/
structure Accepts (dt : Datatypes) : Prop where
  duration : ∀ d, durationOk d = true → dt.duration (formatDuration d)
  dateTime : ∀ t, instantOk t = true → dt.dateTime (formatDatetime t)
  base64 : ∀ s : String, (Base64.decode s).isSome = true → dt.base64 s

theorem policyTree_conforms (dt : Datatypes) (acc : Accepts dt) (name : String) (p : SigPolicy)
    (h : policyOk p = true) : keyPolicyElem dt name (policyTree name p) := by
  have hp := policyOk_parts p h
  unfold policyTree
  simp only [List.cons_append, List.nil_append, keyPolicyElem, textElem, true_and]
  refine ⟨acc.duration _ hp.d1, acc.duration _ hp.d2, acc.duration _ hp.d3, acc.duration _ hp.d4,
    acc.duration _ hp.d5, acc.duration _ hp.d6, ?_, ?_⟩
  · simpa using hp.algsNe
  · intro x hx
    obtain ⟨a, ha, rfl⟩ := List.mem_map.mp hx
    exact algTree_conforms a (hp.algs a ha)

theorem keyTree_conforms (dt : Datatypes) (acc : Accepts dt) (k : Key) (h : keyOk k = true) :
    key dt (keyTree k) := by
  have hp := keyOk_parts k h
  unfold keyTree
  simp only [key, textElem, true_and]
  refine ⟨attrsAre_two _ _ _ _ _ _ (by decide) trivial
      (nonNeg_int _ 0 _ (by simpa using hp.tag0) (fun h hh => by cases hh; exact hp.tag1)),
    nonNeg_int _ 0 _ (by simpa using hp.ttl) (fun _ hh => by cases hh),
    nonNeg_int _ 0 _ (by simpa using hp.flags0) (fun h hh => by cases hh; exact hp.flags1),
    nonNeg_int _ 3 _ (by rw [hp.protocol]; decide) (fun h hh => by cases hh; rw [hp.protocol]; decide),
    nonNeg_nat _ 0 _ (Nat.zero_le _) (fun h hh => by cases hh; exact hp.alg),
    acc.base64 _ hp.b64⟩

theorem sigTree_conforms (dt : Datatypes) (acc : Accepts dt) (s : Signature) (h : sigOk s = true) :
    signature dt (sigTree s) := by
  have hp := sigOk_parts s h
  unfold sigTree
  simp only [signature, textElem, true_and]
  refine ⟨attrsAre_one _ _ _ trivial,
    nonNeg_int _ 0 _ (by simpa using hp.ttl) (fun _ hh => by cases hh), trivial,
    nonNeg_nat _ 0 _ (Nat.zero_le _) (fun h hh => by cases hh; exact hp.alg),
    nonNeg_int _ 0 _ (by simpa using hp.labels0) (fun h hh => by cases hh; exact hp.labels1),
    nonNeg_int _ 0 _ (by simpa using hp.ottl) (fun _ hh => by cases hh),
    acc.dateTime _ hp.exp, acc.dateTime _ hp.inc,
    nonNeg_int _ 0 _ (by simpa using hp.tag0) (fun h hh => by cases hh; exact hp.tag1),
    trivial, acc.base64 _ hp.b64⟩

theorem bundleTree_conforms (dt : Datatypes) (acc : Accepts dt) (b : Bundle) (h : bundleOk b = true) :
    responseBundle dt (bundleTree b) := by
  have hp := bundleOk_parts b h
  unfold bundleTree
  simp only [List.cons_append, List.nil_append, responseBundle, textElem, true_and]
  refine ⟨attrsAre_one _ _ _ trivial, acc.dateTime _ hp.inc, acc.dateTime _ hp.exp,
    (sortKeys b.keys).map keyTree, b.signatures.map sigTree, rfl, ?_, ?_, ?_, ?_⟩
  · simpa using sortKeys_ne_nil hp.keysNe
  · simpa using hp.sigsNe
  · intro x hx
    obtain ⟨k, hk, rfl⟩ := List.mem_map.mp hx
    exact keyTree_conforms dt acc k (hp.keys k (mem_sortKeys.mp hk))
  · intro x hx
    obtain ⟨s, hs, rfl⟩ := List.mem_map.mp hx
    exact sigTree_conforms dt acc s (hp.sigs s hs)

theorem treeOf_conforms (dt : Datatypes) (acc : Accepts dt) (r : Response) (h : WriterDomain r) :
    start dt (treeOf r) := by
  have hp := domain_parts r h
  unfold treeOf
  simp only [start, response, responsePolicy, true_and]
  refine ⟨?_, ?_, ⟨policyTree_conforms dt acc _ _ hp.ksk, policyTree_conforms dt acc _ _ hp.zsk⟩, ?_, ?_⟩
  · refine ⟨by simp, ?_, ?_⟩
    · intro p hp'
      simp only [List.mem_cons, List.not_mem_nil, or_false] at hp'
      rcases hp' with rfl | rfl | rfl
      · exact ⟨r.id, by simp, trivial⟩
      · exact ⟨str (pyIntStr r.serial), by simp, nonNeg_int _ 0 none (by simpa using hp.serial) (fun _ hh => by cases hh)⟩
      · exact ⟨r.domain, by simp, trivial⟩
    · intro q hq
      simp only [List.mem_cons, List.not_mem_nil, or_false] at hq
      rcases hq with rfl | rfl | rfl
      · exact Or.inl ⟨("id", xsdString), by simp, rfl⟩
      · exact Or.inl ⟨("domain", xsdString), by simp, rfl⟩
      · exact Or.inl ⟨("serial", nonNeg 0 none), by simp, rfl⟩
  · exact ⟨by simp, by simp, by simp⟩
  · simpa using hp.bundlesNe
  · intro x hx
    obtain ⟨b, hb, rfl⟩ := List.mem_map.mp hx
    exact bundleTree_conforms dt acc b (hp.bundles b hb)

end Kskm.Rnc
