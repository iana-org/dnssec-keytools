/-
  Lemmas for the civil calendar conversions.

  The two facts about the 400-year era that linear arithmetic alone does not settle (recovering the
  year of the era from the day of the era, and back) follow from the monotonicity of `yoeOf` and a
  table over the 400 years of an era: `yoeOf` is right on the first and the last day of every year.
  Months: `monthStart` and the month-of-day formula are a Galois pair (linear arithmetic); the twelve
  month lengths are one table.  Both conversions are computed once, on dates given by era, year of
  the era, March-based month and day (`marchDays`, `marchCivil`); every day number and every valid
  civil date has that form.
-/
import KskmProofs.Lemmas.C11Digits
namespace Kskm

/-- year of the era from the day of the era -/
def yoeOf (doe : Nat) : Nat := (doe - doe / 1460 + doe / 36524 - doe / 146096) / 365
/-- first day of the era of the (March-based) year `yoe` -/
def yearStart (yoe : Nat) : Nat := 365 * yoe + yoe / 4 - yoe / 100
/-- the March-based year `yoe` of an era contains a 29 February -/
def leapEra (yoe : Nat) : Bool :=
  Nat.beq ((yoe + 1) % 4) 0 && (!(Nat.beq ((yoe + 1) % 100) 0) || Nat.beq (yoe + 1) 400)
/-- last day of the era of the year `yoe` -/
def yearEnd (yoe : Nat) : Nat := yearStart yoe + 364 + (if leapEra yoe = true then 1 else 0)

theorem leapEra_iff (yoe : Nat) :
    leapEra yoe = true ↔ (yoe + 1) % 4 = 0 ∧ ((yoe + 1) % 100 ≠ 0 ∨ yoe + 1 = 400) := by
  have hb : ∀ a b : Nat, (Nat.beq a b = false) ↔ a ≠ b := fun a b => by
    cases h : Nat.beq a b
    · simp [Nat.ne_of_beq_eq_false h]
    · simp [Nat.eq_of_beq_eq_true h]
  simp only [leapEra, Bool.and_eq_true, Bool.or_eq_true, Nat.beq_eq, Bool.not_eq_true', hb]

theorem yoeOf_mono {d e : Nat} (hde : d ≤ e) (he : e < 146097) : yoeOf d ≤ yoeOf e := by
  refine Nat.div_le_div_right ?_
  by_cases h : e < 146096
  · -- before the last day of the era the third quotient is 0, and what is left is a sum of two monotone terms
    rw [Nat.div_eq_of_lt h, Nat.div_eq_of_lt (Nat.lt_of_le_of_lt hde h)]
    exact Nat.add_le_add (by omega) (Nat.div_le_div_right hde)
  · obtain rfl : e = 146096 := by omega
    omega

/-- `yoeOf` is right on the first and on the last day of each of the 400 years; the years are adjacent and
fill the era. With monotonicity this settles every day of the era. -/
theorem year_table : ∀ y, y < 400 →
    yoeOf (yearStart y) = y ∧ yoeOf (yearEnd y) = y ∧ yearEnd y < 146097 ∧
      yearEnd y + 1 = (if y = 399 then 146097 else yearStart (y + 1)) := by
  decide +kernel

theorem yoeOf_eq {y d : Nat} (hy : y < 400) (h1 : yearStart y ≤ d) (h2 : d ≤ yearEnd y) : yoeOf d = y := by
  obtain ⟨hs, he, hb, _⟩ := year_table y hy
  have a := yoeOf_mono h1 (by omega)
  have b := yoeOf_mono h2 hb
  omega

theorem year_cover (d : Nat) (h : d < 146097) : ∃ y, y < 400 ∧ yearStart y ≤ d ∧ d ≤ yearEnd y := by
  induction d with
  | zero => exact ⟨0, by decide⟩
  | succ d ih =>
    obtain ⟨y, hy, h1, h2⟩ := ih (by omega)
    by_cases hd : d + 1 ≤ yearEnd y
    · exact ⟨y, hy, by omega, hd⟩
    · have hn := (year_table y hy).2.2.2
      split at hn
      · omega
      · exact ⟨y + 1, by omega, by omega, by unfold yearEnd; omega⟩

/-- every day of the era lies in the year `yoeOf` names -/
theorem yoeOf_spec (doe : Nat) (h : doe < 146097) :
    yoeOf doe ≤ 399 ∧ yearStart (yoeOf doe) ≤ doe ∧
      doe - yearStart (yoeOf doe) ≤ 364 + (if leapEra (yoeOf doe) = true then 1 else 0) := by
  obtain ⟨y, hy, h1, h2⟩ := year_cover doe h
  rw [yoeOf_eq hy h1 h2]
  by_cases hl : leapEra y = true <;> simp only [yearEnd, hl, ↓reduceIte] at h2 ⊢ <;> omega

theorem yoeOf_yearStart_add (yoe doy : Nat) (hy : yoe ≤ 399) (hd : doy ≤ 365) (hl : doy = 365 → leapEra yoe = true) :
    yoeOf (yearStart yoe + doy) = yoe ∧ yearStart yoe + doy < 146097 := by
  have h2 : yearStart yoe + doy ≤ yearEnd yoe := by
    by_cases hle : leapEra yoe = true <;>
      simp only [yearEnd, hle, Bool.false_eq_true, imp_false, ↓reduceIte] at hl ⊢ <;> omega
  exact ⟨yoeOf_eq (by omega) (by omega) h2, by have := (year_table yoe (by omega)).2.2.1; omega⟩

/-- days of the March-based month `mp` (February, `mp = 11`, listed with 29) -/
def dimMarch (mp : Nat) : Nat :=
  if mp = 11 then 29 else if mp = 1 ∨ mp = 3 ∨ mp = 6 ∨ mp = 8 then 30 else 31

/-- first day of the March-based month `mp`, counted from 1 March = 0 -/
def monthStart (mp : Nat) : Nat := (153 * mp + 2) / 5

/-- the months are adjacent; the year ends after 366 days at most -/
theorem monthStart_succ : ∀ mp, mp ≤ 11 → monthStart mp + dimMarch mp = min (monthStart (mp + 1)) 366 := by
  decide

/-- `(5 * doy + 2) / 153` is the month whose days include `doy` -/
theorem month_of_doy (doy mp : Nat) :
    (5 * doy + 2) / 153 = mp ↔ monthStart mp ≤ doy ∧ doy < monthStart (mp + 1) := by
  unfold monthStart; omega

theorem monthStart_add_day {mp d : Nat} (hmp : mp ≤ 11) (hd : d ≤ dimMarch mp) :
    monthStart mp + d ≤ monthStart (mp + 1) ∧ monthStart mp + d ≤ 366 := by
  have := monthStart_succ mp hmp
  omega

/-- the month lengths of the model, read in March-based months -/
theorem daysInMonth_march : ∀ mp, mp ≤ 11 → ∀ Y : Int,
    daysInMonth Y (if mp < 10 then mp + 3 else mp - 9) = if mp = 11 ∧ isLeap Y = false then 28 else dimMarch mp := by
  intro mp hmp Y
  unfold daysInMonth
  generalize isLeap Y = b
  revert mp b
  decide

theorem isLeap_iff (y : Int) : isLeap y = true ↔ (y % 4 = 0 ∧ y % 100 ≠ 0) ∨ y % 400 = 0 := by
  simp [isLeap]

theorem isLeap_march (era : Int) (y : Nat) (hy : y ≤ 399) : isLeap (y + era * 400 + 1) = leapEra y := by
  rw [Bool.eq_iff_iff, isLeap_iff, leapEra_iff]; omega

/-- day `d` of the March-based month `mp` of the year `y` of an era -/
structure MarchDate (y mp d : Nat) : Prop where
  year : y ≤ 399
  month : mp ≤ 11
  pos : 1 ≤ d
  le : d ≤ dimMarch mp
  leap : mp = 11 → d = 29 → leapEra y = true

/-- its day number … -/
def marchDays (era : Int) (y mp d : Nat) : Int :=
  era * 146097 + ((yearStart y + monthStart mp + d : Nat) : Int) - 719469

/-- … and its civil date -/
def marchCivil (era : Int) (y mp d : Nat) : Civil :=
  { year := y + era * 400 + (if mp < 10 then 0 else 1), month := if mp < 10 then mp + 3 else mp - 9, day := d }

theorem yoe_bridge (n : Nat) :
    ((n : Int) - (n : Int) / 1460 + (n : Int) / 36524 - (n : Int) / 146096) / 365 = ((yoeOf n : Nat) : Int) := by
  unfold yoeOf; omega

theorem yearStart_bridge (y : Nat) :
    365 * (y : Int) + (y : Int) / 4 - (y : Int) / 100 = ((yearStart y : Nat) : Int) := by
  unfold yearStart; omega

theorem era_split (y : Nat) (era : Int) (hy : y ≤ 399) :
    ((y : Int) + era * 400) / 400 = era ∧ ((y : Int) + era * 400) % 400 = y := by omega

theorem doe_split (era : Int) (n : Nat) (h : n < 146097) :
    (era * 146097 + (n : Int)) / 146097 = era ∧ (era * 146097 + (n : Int)) % 146097 = n := by omega

theorem daysOfCivil_march (era : Int) {y mp d : Nat} (hy : y ≤ 399) (hmp : mp ≤ 11) :
    daysOfCivil (marchCivil era y mp d) = marchDays era y mp d := by
  obtain ⟨e1, e2⟩ := era_split y era hy
  unfold marchCivil marchDays yearStart monthStart
  by_cases hm : mp < 10
  · simp only [daysOfCivil, if_pos hm, if_neg (by omega : ¬ mp + 3 ≤ 2), Int.add_zero, e1, e2]; omega
  · simp only [daysOfCivil, if_neg hm, if_pos (by omega : mp - 9 ≤ 2), Int.add_sub_cancel, e1, e2]; omega

theorem civilOfDays_march (era : Int) {y mp d : Nat} (h : MarchDate y mp d) :
    civilOfDays (marchDays era y mp d) = marchCivil era y mp d := by
  obtain ⟨hy, hmp, hd1, hd, hleap⟩ := h
  have ⟨m1, m2⟩ := monthStart_add_day hmp hd
  -- day of the year, from 1 March
  obtain ⟨doy, hdoy⟩ : ∃ doy, doy + 1 = monthStart mp + d := ⟨monthStart mp + d - 1, by omega⟩
  have hl : doy = 365 → leapEra y = true := fun e =>
    hleap (by unfold monthStart at *; omega) (by unfold monthStart at *; omega)
  obtain ⟨u1, u2⟩ := yoeOf_yearStart_add y doy hy (by omega) hl
  have hmonth : (5 * doy + 2) / 153 = mp := (month_of_doy doy mp).mpr (by omega)
  have hz : marchDays era y mp d + 719468 = era * 146097 + ((yearStart y + doy : Nat) : Int) := by
    unfold marchDays; omega
  obtain ⟨e1, e2⟩ := doe_split era _ u2
  have e3 : ((yearStart y + doy : Nat) : Int) - ((yearStart y : Nat) : Int) = (doy : Int) := by omega
  have e4 : (5 * (doy : Int) + 2) / 153 = (mp : Int) := by omega
  have e5 : (doy : Int) - (153 * (mp : Int) + 2) / 5 + 1 = (d : Int) := by unfold monthStart at hdoy; omega
  simp only [civilOfDays, hz, e1, e2, yoe_bridge, u1, yearStart_bridge, e3, e4, e5, marchCivil, Int.toNat_natCast]
  by_cases hm : mp < 10
  · simp only [hm, (by omega : (mp : Int) < 10), ↓reduceIte, Civil.mk.injEq, and_true]
    omega
  · simp only [hm, ↓reduceIte, Civil.mk.injEq, and_true]
    omega

theorem daysInMonth_le (y : Int) (m : Nat) : daysInMonth y m ≤ 31 := by
  unfold daysInMonth; repeat' split
  all_goals omega

theorem marchCivil_valid (era : Int) {y mp d : Nat} (h : MarchDate y mp d) : (marchCivil era y mp d).valid = true := by
  obtain ⟨hy, hmp, hd1, hd, hleap⟩ := h
  unfold marchCivil
  simp only [Civil.valid, Bool.and_eq_true, decide_eq_true_eq, daysInMonth_march mp hmp]
  refine ⟨⟨⟨by split <;> omega, by split <;> omega⟩, hd1⟩, ?_⟩
  by_cases h11 : mp = 11
  · subst h11
    rw [if_neg (by decide : ¬ 11 < 10), isLeap_march era y hy]
    cases hl : leapEra y
    · have : d ≠ 29 := fun e => by simp [hleap rfl e] at hl
      rw [if_pos ⟨rfl, rfl⟩]; change d ≤ 29 at hd; omega
    · rw [if_neg (by simp)]; exact hd
  · rw [if_neg (fun h => h11 h.1)]; exact hd

theorem exists_march_of_days (z : Int) : ∃ era y mp d, MarchDate y mp d ∧ z = marchDays era y mp d := by
  obtain ⟨n, hn⟩ := Int.eq_ofNat_of_zero_le (Int.emod_nonneg (z + 719468) (by decide : (146097 : Int) ≠ 0))
  obtain ⟨a, b, c⟩ := yoeOf_spec n (by omega)
  generalize hy : yoeOf n = y at a b c
  obtain ⟨doy, rfl⟩ : ∃ doy, n = yearStart y + doy := ⟨n - yearStart y, by omega⟩
  rw [Nat.add_sub_cancel_left] at c
  have hm := (month_of_doy doy _).mp rfl
  generalize (5 * doy + 2) / 153 = mp at hm
  obtain ⟨d, hd⟩ : ∃ d, doy + 1 = monthStart mp + d := ⟨doy + 1 - monthStart mp, by omega⟩
  have hdoy : doy ≤ 365 := by split at c <;> omega
  have hmp : mp ≤ 11 := by unfold monthStart at hm; omega
  have hs := monthStart_succ mp hmp
  refine ⟨(z + 719468) / 146097, y, mp, d, ⟨a, hmp, by omega, by omega, fun e1 e2 => ?_⟩, by unfold marchDays; omega⟩
  cases hl : leapEra y
  · rw [hl] at c; subst e1 e2; unfold monthStart at hd; simp at c; omega
  · rfl

theorem exists_march_of_civil (c : Civil) (hv : c.valid = true) :
    ∃ era y mp d, MarchDate y mp d ∧ c = marchCivil era y mp d := by
  obtain ⟨year, month, day⟩ := c
  simp only [Civil.valid, Bool.and_eq_true, decide_eq_true_eq] at hv
  obtain ⟨⟨⟨hm1, hm12⟩, hd1⟩, hdim⟩ := hv
  -- March-based month and year
  obtain ⟨mp, hmp, rfl⟩ : ∃ mp, mp ≤ 11 ∧ month = if mp < 10 then mp + 3 else mp - 9 := by
    by_cases h : month ≤ 2
    · exact ⟨month + 9, by omega, by rw [if_neg (by omega)]; omega⟩
    · exact ⟨month - 3, by omega, by rw [if_pos (by omega)]; omega⟩
  generalize hk : (if mp < 10 then 0 else 1 : Int) = k
  have hk01 : k = 0 ∨ k = 1 := by rw [← hk]; split <;> simp
  obtain ⟨y, hy⟩ := Int.eq_ofNat_of_zero_le (Int.emod_nonneg (year - k) (by decide : (400 : Int) ≠ 0))
  have hyear : year = y + (year - k) / 400 * 400 + k := by omega
  rw [daysInMonth_march mp hmp] at hdim
  refine ⟨(year - k) / 400, y, mp, day, ⟨by omega, hmp, hd1, ?_, fun e1 e2 => ?_⟩, ?_⟩
  · split at hdim
    · rename_i h; simp only [dimMarch, h.1, ↓reduceIte]; omega
    · exact hdim
  · subst e1 e2
    have : k = 1 := by rw [← hk]; rfl
    subst this
    rw [← isLeap_march ((year - 1) / 400) y (by omega), ← hyear]
    cases hl : isLeap year
    · simp [hl] at hdim
    · rfl
  · simp only [marchCivil, hk]; rw [← hyear]

theorem daysOfCivil_civilOfDays (z : Int) : daysOfCivil (civilOfDays z) = z := by
  obtain ⟨era, y, mp, d, h, rfl⟩ := exists_march_of_days z
  rw [civilOfDays_march era h, daysOfCivil_march era h.year h.month]

theorem civilOfDays_valid (z : Int) : (civilOfDays z).valid = true := by
  obtain ⟨era, y, mp, d, h, rfl⟩ := exists_march_of_days z
  rw [civilOfDays_march era h]
  exact marchCivil_valid era h

theorem civilOfDays_daysOfCivil (c : Civil) (hv : c.valid = true) : civilOfDays (daysOfCivil c) = c := by
  obtain ⟨era, y, mp, d, h, rfl⟩ := exists_march_of_civil c hv
  rw [daysOfCivil_march era h.year h.month, civilOfDays_march era h]

end Kskm
