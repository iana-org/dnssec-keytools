/-
  ISO week dates, for the theorems of KskmProofs/C11.lean §IsoWeek.  The ISO year `y` is an interval of days,
  `week1 y ≤ z < week1 (y + 1)` (`week1`: Monday of week 1): `isoWeekDayNumber_in_year` puts every accepted
  (week, day) into it, `isoCalendar_spec` says what `isocalendar` answers on it, and the round trip is arithmetic.
  Underneath: `Kskm.TimeWeek` on day numbers relative to a 1 January (`jan1`, `leap` variables), the year starts
  `jan1Of` of `Kskm.Time.daysOfCivil`; at the end the reader on week-date text.
-/
import Kskm.TimeIsoCal
import KskmProofs.Lemmas.C11Time
import KskmProofs.Lemmas.C11Datetime
namespace Kskm.C11Week
open Kskm

theorem weekday_range (z : Int) : 0 ≤ weekdayOfDays z ∧ weekdayOfDays z ≤ 6 := by
  unfold weekdayOfDays; omega

/-- week 1 starts on the Monday of the week that contains 4 January (`jan1 + 3`) -/
theorem isoWeek1Monday_eq (jan1 : Int) : isoWeek1Monday jan1 = jan1 + 3 - weekdayOfDays (jan1 + 3) := by
  unfold isoWeek1Monday weekdayOfDays
  simp only []
  split <;> omega

/-- `iso_week1_monday` is a Monday, and the week that starts there contains 4 January -/
theorem week1Monday_spec (jan1 : Int) :
    weekdayOfDays (isoWeek1Monday jan1) = 0 ∧ isoWeek1Monday jan1 ≤ jan1 + 3 ∧ jan1 + 3 < isoWeek1Monday jan1 + 7 := by
  rw [isoWeek1Monday_eq]; unfold weekdayOfDays; omega

/-- equivalently: it is the first Monday whose week has at least four days in the year -/
theorem week1Monday_fourDays (jan1 : Int) :
    jan1 - 3 ≤ isoWeek1Monday jan1 ∧ isoWeek1Monday jan1 ≤ jan1 + 3 := by
  have := week1Monday_spec jan1
  omega

def yearLen (leap : Bool) : Int := if leap then 366 else 365

theorem yearLen_cases (b : Bool) : yearLen b = 365 ∨ yearLen b = 366 := by cases b <;> simp [yearLen]

theorem hasWeek53_iff (jan1 : Int) (leap : Bool) :
    hasWeek53 jan1 leap = true ↔ weekdayOfDays jan1 = 3 ∨ (weekdayOfDays jan1 = 2 ∧ yearLen leap = 366) := by
  cases leap <;> simp [hasWeek53, yearLen]

/-- consecutive ISO years are 52 or 53 weeks apart: 53 exactly under the rule of `hasWeek53` -/
theorem week1Monday_next (jan1 : Int) (leap : Bool) :
    isoWeek1Monday (jan1 + yearLen leap) = isoWeek1Monday jan1 + (if hasWeek53 jan1 leap then 371 else 364) := by
  rw [isoWeek1Monday_eq, isoWeek1Monday_eq]
  have h := hasWeek53_iff jan1 leap
  have hl := yearLen_cases leap
  unfold weekdayOfDays at *
  split
  · have := h.mp ‹_›; omega
  · have := mt h.mpr ‹_›; omega

theorem isoWeekDayNumber_some (jan1 : Int) (leap : Bool) (w d : Nat) (z : Int)
    (h : isoWeekDayNumber jan1 leap w d = some z) :
    1 ≤ w ∧ (w ≤ 52 ∨ (w = 53 ∧ hasWeek53 jan1 leap = true)) ∧ 1 ≤ d ∧ d ≤ 7 ∧
      z = isoWeek1Monday jan1 + ((w : Int) - 1) * 7 + ((d : Int) - 1) := by
  cases hh : hasWeek53 jan1 leap <;> simp [isoWeekDayNumber, hh] at h ⊢ <;> omega

/-- the date of (week, day) is the `day`-th day of its week -/
theorem isoWeekDayNumber_weekday (jan1 : Int) (leap : Bool) (w d : Nat) (z : Int)
    (h : isoWeekDayNumber jan1 leap w d = some z) : weekdayOfDays z = (d : Int) - 1 := by
  obtain ⟨_, _, h3, h4, rfl⟩ := isoWeekDayNumber_some jan1 leap w d z h
  have := (week1Monday_spec jan1).1
  unfold weekdayOfDays at this ⊢
  omega

/-- an accepted (week, day) lies in its ISO year: from the Monday of week 1 to before that of the next year -/
theorem isoWeekDayNumber_in_year (jan1 : Int) (leap : Bool) (w d : Nat) (z : Int)
    (h : isoWeekDayNumber jan1 leap w d = some z) :
    isoWeek1Monday jan1 ≤ z ∧ z < isoWeek1Monday (jan1 + yearLen leap) := by
  obtain ⟨h1, h2, h3, h4, rfl⟩ := isoWeekDayNumber_some jan1 leap w d z h
  have hn := week1Monday_next jan1 leap
  rcases h2 with h2 | ⟨h2, h53⟩
  · split at hn <;> omega
  · rw [if_pos h53] at hn; omega

theorem jan4_eq (y : Int) : daysOfCivil { year := y, month := 1, day := 4 } = jan1Of y + 3 := by
  unfold jan1Of daysOfCivil
  simp only []
  omega

theorem jan1Of_formula (y : Int) :
    jan1Of y = 365 * (y - 1) + (y - 1) / 4 - (y - 1) / 100 + (y - 1) / 400 - 719162 := by
  unfold jan1Of daysOfCivil
  simp only []
  omega

theorem jan1Of_march (era : Int) (y : Nat) (hy : y ≤ 399) : jan1Of (y + era * 400 + 1) = marchDays era y 10 1 := by
  have h := daysOfCivil_march era (mp := 10) (d := 1) hy (by decide)
  rwa [marchCivil, if_neg (by decide), if_neg (by decide)] at h

theorem jan1Of_succ (Y : Int) : jan1Of (Y + 1) = jan1Of Y + yearLen (isLeap Y) := by
  -- `Y` is the year after the March-based year `y` of an era; the table says when the next year starts
  obtain ⟨y, hy⟩ := Int.eq_ofNat_of_zero_le (Int.emod_nonneg (Y - 1) (by decide : (400 : Int) ≠ 0))
  obtain ⟨era, rfl⟩ : ∃ era, Y = y + era * 400 + 1 := ⟨(Y - 1) / 400, by omega⟩
  have hy' : y ≤ 399 := by omega
  have hn := (year_table y (by omega)).2.2.2
  rw [jan1Of_march era y hy', isLeap_march era y hy', yearLen]
  unfold yearEnd at hn
  by_cases h399 : y = 399
  · subst h399
    rw [show ((399 : Nat) : Int) + era * 400 + 1 + 1 = ((0 : Nat) : Int) + (era + 1) * 400 + 1 by omega,
      jan1Of_march (era + 1) 0 (by decide)]
    have h0 : yearStart 0 = 0 := rfl
    unfold marchDays
    cases hl : leapEra 399 <;> simp only [hl, Bool.false_eq_true, ↓reduceIte] at hn ⊢ <;> omega
  · rw [show (y : Int) + era * 400 + 1 + 1 = ((y + 1 : Nat) : Int) + era * 400 + 1 by omega,
      jan1Of_march era (y + 1) (by omega)]
    unfold marchDays
    cases hl : leapEra y <;> simp only [hl, h399, Bool.false_eq_true, ↓reduceIte] at hn ⊢ <;> omega

/-- a valid date lies in its year -/
theorem year_bounds (c : Civil) (hv : c.valid = true) :
    jan1Of c.year ≤ daysOfCivil c ∧ daysOfCivil c < jan1Of (c.year + 1) := by
  obtain ⟨era, y, mp, d, h, rfl⟩ := exists_march_of_civil c hv
  rw [daysOfCivil_march era h.year h.month]
  have ⟨m1, m2⟩ := monthStart_add_day h.month h.le
  have hd := h.pos
  have hj := jan1Of_march era y h.year
  unfold marchCivil
  unfold marchDays monthStart at *
  by_cases hm : mp < 10
  · have hs := jan1Of_succ (y + era * 400)
    have := yearLen_cases (isLeap (y + era * 400))
    simp only [if_pos hm, Int.add_zero]; omega
  · have hs := jan1Of_succ (y + era * 400 + 1)
    have := yearLen_cases (isLeap (y + era * 400 + 1))
    simp only [if_neg hm]; omega

theorem jan1Of_mono (a b : Int) (h : a ≤ b) : jan1Of a ≤ jan1Of b := by
  rw [jan1Of_formula, jan1Of_formula]
  omega

/-- … and in no other: the year of a day number is determined by the year starts -/
theorem year_unique (a b z : Int) (h1 : jan1Of a ≤ z) (h2 : z < jan1Of (a + 1)) (h3 : jan1Of b ≤ z)
    (h4 : z < jan1Of (b + 1)) : a = b := by
  by_cases hab : a < b
  · have := jan1Of_mono (a + 1) b (by omega); omega
  · by_cases hba : b < a
    · have := jan1Of_mono (b + 1) a (by omega); omega
    · omega

/-- Monday of week 1 of the ISO year `y` -/
def week1 (y : Int) : Int := isoWeek1Monday (jan1Of y)

theorem week1_near (y : Int) : jan1Of y - 3 ≤ week1 y ∧ week1 y ≤ jan1Of y + 3 := week1Monday_fourDays _

theorem week1_step (y : Int) : week1 (y + 1) = week1 y + 364 ∨ week1 (y + 1) = week1 y + 371 := by
  unfold week1; rw [jan1Of_succ, week1Monday_next]; split <;> simp

theorem year_iff (z y : Int) : (civilOfDays z).year = y ↔ jan1Of y ≤ z ∧ z < jan1Of (y + 1) := by
  have hb := year_bounds (civilOfDays z) (civilOfDays_valid z)
  rw [daysOfCivil_civilOfDays] at hb
  exact ⟨fun h => h ▸ hb, fun h => year_unique _ _ z hb.1 hb.2 h.1 h.2⟩

/-- What `date.isocalendar()` answers, for every day: the ISO year is the one whose weeks (from the Monday of week 1
    up to the Monday of week 1 of the next year) contain the day; week and weekday count from that Monday. -/
theorem isoCalendar_spec (y z : Int) (h1 : week1 y ≤ z) (h2 : z < week1 (y + 1)) :
    isoCalendar z = (y, (z - week1 y) / 7 + 1, (z - week1 y) % 7 + 1) := by
  -- `isocalendar` starts from the civil year of the day, which is `y - 1`, `y` or `y + 1`.  Of the year lengths only
  -- "365 or 366" is used, of the Mondays only "within 3 days of 1 January, 364 or 371 apart": which years are long
  -- does not matter here
  have n0 := week1_near y
  have n1 := week1_near (y + 1)
  have s0 := jan1Of_succ y
  have l0 := yearLen_cases (isLeap y)
  by_cases c1 : z < jan1Of y
  · have sp := jan1Of_succ (y - 1)
    have lp := yearLen_cases (isLeap (y - 1))
    have wp := week1_step (y - 1)
    rw [Int.sub_add_cancel] at sp wp
    have hy : (civilOfDays z).year = y - 1 := (year_iff z _).mpr ⟨by omega, by rw [Int.sub_add_cancel]; exact c1⟩
    unfold isoCalendar
    simp only [hy, Int.sub_add_cancel]
    unfold week1 at *
    have q1 : ¬ (z - isoWeek1Monday (jan1Of (y - 1))) / 7 < 0 := by omega
    have q2 : 52 ≤ (z - isoWeek1Monday (jan1Of (y - 1))) / 7 := by omega
    simp only [isoCalendarRel, if_neg q1, ge_iff_le, decide_eq_true q2, decide_eq_true h1, Bool.and_self, ↓reduceIte,
      Prod.mk.injEq]
    omega
  · by_cases c2 : z < jan1Of (y + 1)
    · have hy : (civilOfDays z).year = y := (year_iff z _).mpr ⟨by omega, c2⟩
      unfold isoCalendar
      simp only [hy]
      unfold week1 at *
      have q1 : ¬ (z - isoWeek1Monday (jan1Of y)) / 7 < 0 := by omega
      simp only [isoCalendarRel, if_neg q1, ge_iff_le, decide_eq_false (Int.not_le.mpr h2), Bool.and_false,
        Bool.false_eq_true, ↓reduceIte, Int.add_zero]
    · have sn := jan1Of_succ (y + 1)
      have ln := yearLen_cases (isLeap (y + 1))
      have hy : (civilOfDays z).year = y + 1 := (year_iff z _).mpr ⟨by omega, by omega⟩
      unfold isoCalendar
      simp only [hy, Int.add_sub_cancel]
      unfold week1 at *
      have q : (z - isoWeek1Monday (jan1Of (y + 1))) / 7 < 0 := by omega
      simp only [isoCalendarRel, if_pos q, Prod.mk.injEq, and_true]
      omega

theorem utf8OfChars_ascii (cs : List Char) (h : ∀ c ∈ cs, c.toNat < 128) : utf8OfChars cs = cs := by
  induction cs with
  | nil => rfl
  | cons a t ih =>
    have ha : a.toNat < 128 := h a (by simp)
    have : utf8Octets a = [a] := by unfold utf8Octets; simp [ha]
    unfold utf8OfChars at ih ⊢
    simp only [List.flatMap_cons, this, List.singleton_append]
    rw [ih (fun c hc => h c (by simp [hc]))]

/-- what `isoToCivil` answers: the civil date of a day number produced by `isoWeekDayNumber` -/
theorem isoToCivil_eq_some (y : Int) (w d : Nat) (c : Civil) (h : isoToCivil y w d = some c) :
    ∃ z, isoWeekDayNumber (jan1Of y) (isLeap y) w d = some z ∧ c = civilOfDays z := by
  obtain ⟨z, hz, hc⟩ := Option.map_eq_some_iff.mp h
  exact ⟨z, hz, hc.symm⟩

theorem isoToCivil_valid (y : Int) (w d : Nat) (c : Civil) (h : isoToCivil y w d = some c) : c.valid = true := by
  obtain ⟨z, -, rfl⟩ := isoToCivil_eq_some y w d c h
  exact civilOfDays_valid z

/-- the reader on the extended week-date layout `YYYY-Www-d`.  `fromIsoChars` reads the year (`pY`) and the
    '-', sees 'W' and hands the whole text to `fromIsoGeneral`, which finds no time separator within the ten
    characters (`hsep`) and reads year, week (`pw`) and day (`pd`) again in `parseIsoDateG`. -/
theorem fromIso_week (Y w d : Nat) (hY : Y ≤ 9999) (hw : w < 100) (hd : d < 10) :
    fromIsoChars (Nat.digitChar (Y / 1000 % 10) :: Nat.digitChar (Y / 100 % 10) :: Nat.digitChar (Y / 10 % 10) ::
        Nat.digitChar (Y % 10) :: '-' :: 'W' :: (pad2 w ++ ['-', Nat.digitChar (d % 10)]))
      = (match isoToCivil (Y : Nat) w d with
         | none => err .value
         | some c =>
           if !(decide (1 ≤ c.year) && decide (c.year ≤ 9999)) then err .value
           else pure (daysOfCivil c * usPerDay)) := by
  have pY := parseDigitsN_fourDigits Y hY
  have pw := parseDigitsN_pad2_zero w hw
  have pd : ∀ r, parseDigitsN 1 (Nat.digitChar (d % 10) :: r) 0 = some (d, r) := fun r => by
    rw [parseDigitsN_digitChar, parseDigitsN, Nat.zero_mul, Nat.zero_add, Nat.mod_eq_of_lt hd]
  simp only [pad2, List.cons_append, List.nil_append] at pw ⊢
  unfold fromIsoChars
  simp only [List.length_cons, List.length_nil, List.getD_cons_succ, List.getD_cons_zero, ↓reduceIte,
    any_nonascii_false, List.mem_cons, List.not_mem_nil, or_false, forall_eq_or_imp, forall_eq, (digitChar_mod _).2.2.1,
    Char.reduceToNat, Nat.reduceLT, and_self, Bool.false_eq_true, pY, peek, List.headD_cons]
  rw [if_neg (by decide)]
  unfold fromIsoGeneral
  simp only [utf8OfChars_ascii, List.mem_cons, List.not_mem_nil, or_false, forall_eq_or_imp, forall_eq, (digitChar_mod _).2.2.1,
    Char.reduceToNat, Nat.reduceLT, and_self]
  have hsep : ∀ y3 y2 y1 y0 w1 w0 d0 : Char, findIsoSeparator [y3, y2, y1, y0, '-', 'W', w1, w0, '-', d0] = some 10 := by
    intros; simp [findIsoSeparator]
  simp only [hsep, List.length_cons, List.length_nil, parseIsoDateG, pY, pw, peek, List.headD_cons, List.drop_succ_cons, List.drop_zero]
  simp only [↓reduceIte, Nat.reduceAdd, Nat.reduceSub, Nat.reduceLT, ne_eq, not_true_eq_false, decide_false,
    Bool.and_false, Bool.false_eq_true, pd, gt_iff_lt, Nat.lt_irrefl]
  cases hc : isoToCivil (Y : Int) w d with
  | none => rfl
  | some c => simp [isoToCivil_valid _ _ _ _ hc]
end Kskm.C11Week
