/-
  The text helpers of the SKR writer.  `joinNl` / `splitNl` are Python's `"\n".join` / `split("\n")` (Lemmas/PyJoin);
  `_indent` is read on a text given by its lines (`indent_joinNl`), up to the layout lemma `indent_blocks`: a
  concatenation of templates, re-indented and put back behind the four blanks of the enclosing template line, is
  the templates' body lines, each indented once more.
-/
import Kskm.SkrXml
import KskmProofs.Lemmas.PyJoin
namespace Kskm

theorem joinNl_eq : ∀ ws, joinNl ws = Py.join '\n' ws
  | [] | [_] => rfl
  | w :: w2 :: r => congrArg (w ++ '\n' :: ·) (joinNl_eq (w2 :: r))

theorem splitNl_eq (l : List Char) : splitNl l = Py.split '\n' l := by
  induction l with
  | nil => rfl
  | cons c r ih => simp only [splitNl, Py.split, ih]; cases Py.split '\n' r <;> rfl

theorem splitNl_joinNl (ls : List (List Char)) (hne : ls ≠ []) (h : ∀ l ∈ ls, '\n' ∉ l) :
    splitNl (joinNl ls) = ls := by
  rw [splitNl_eq, joinNl_eq, Py.split_join _ ls hne h]

theorem joinNl_append (a b : List (List Char)) (ha : a ≠ []) (hb : b ≠ []) :
    joinNl (a ++ b) = joinNl a ++ '\n' :: joinNl b := by
  induction a with
  | nil => exact absurd rfl ha
  | cons l t ih =>
    cases t with
    | nil =>
      cases b with
      | nil => exact absurd rfl hb
      | cons b1 bt => simp [joinNl]
    | cons l' t' =>
      have := ih (by simp)
      simp only [List.cons_append] at this ⊢
      simp only [joinNl, this, List.append_assoc, List.cons_append]

/-- a "line" that is itself a join of lines can be spliced in -/
theorem joinNl_splice (a xs b : List (List Char)) (hx : xs ≠ []) :
    joinNl (a ++ [joinNl xs] ++ b) = joinNl (a ++ xs ++ b) := by
  cases ha : a with
  | nil =>
    cases hb : b with
    | nil => simp [joinNl]
    | cons b1 bt =>
      simp only [List.nil_append, List.singleton_append]
      rw [joinNl_append xs (b1 :: bt) hx (by simp)]
      simp [joinNl]
  | cons a1 at' =>
    cases hb : b with
    | nil =>
      simp only [List.append_nil]
      rw [joinNl_append (a1 :: at') [joinNl xs] (by simp) (by simp),
        joinNl_append (a1 :: at') xs (by simp) hx]
      simp [joinNl]
    | cons b1 bt =>
      rw [List.append_assoc, List.append_assoc, joinNl_append (a1 :: at') _ (by simp) (by simp),
        joinNl_append (a1 :: at') _ (by simp) (by simp [hx])]
      simp only [List.singleton_append]
      rw [joinNl_append xs (b1 :: bt) hx (by simp)]
      simp [joinNl]

/-- two joined groups in a row, as in the templates that hold two lists of child elements -/
theorem joinNl_splice2 (a xs ys b : List (List Char)) (hx : xs ≠ []) (hy : ys ≠ []) :
    joinNl (a ++ [joinNl xs, joinNl ys] ++ b) = joinNl (a ++ xs ++ ys ++ b) := by
  have s1 := joinNl_splice a xs (joinNl ys :: b) hx
  have s2 := joinNl_splice (a ++ xs) ys b hy
  simp only [List.append_assoc, List.cons_append, List.nil_append] at s1 s2 ⊢
  rw [s1, s2]

def nonEmptyLines (ls : List (List Char)) : List (List Char) := ls.filter (fun l => !l.isEmpty)

/-- `_indent` of a text given by its lines: blank lines go, the rest is indented, the very first
    indentation is stripped again -/
theorem indent_joinNl (ls : List (List Char)) (h : ∀ l ∈ ls, '\n' ∉ l) :
    indent (joinNl ls) = lstrip (joinNl ((nonEmptyLines ls).map ind)) := by
  cases ls with
  | nil => simp [indent, joinNl, splitNl, nonEmptyLines]
  | cons l t =>
    unfold indent
    rw [splitNl_joinNl _ (by simp) h]
    rfl

theorem sp4_space : ∀ c ∈ sp4, pyIsSpace c = true := by decide

/-- the `lstrip()` removes exactly the four blanks put before the first line when that line starts
    with a non-blank character -/
theorem sp4_lstrip_ind (c : Char) (r : List Char) (t : List (List Char)) (hc : pyIsSpace c = false) :
    sp4 ++ lstrip (joinNl (((c :: r) :: t).map ind)) = joinNl (((c :: r) :: t).map ind) := by
  have hs : pyIsSpace ' ' = true := by decide
  -- the join starts with its first line, `sp4 ++ c :: r`, whether or not more lines follow
  cases t <;> simp [joinNl, ind, lstrip, sp4, List.dropWhile, hs, hc]

theorem mem_sortKeys {k : Key} {l : List Key} : k ∈ sortKeys l ↔ k ∈ l :=
  (List.mergeSort_perm l _).mem_iff

theorem sortKeys_ne_nil {l : List Key} (h : l ≠ []) : sortKeys l ≠ [] := by
  obtain ⟨k, hk⟩ := List.exists_mem_of_ne_nil l h
  exact List.ne_nil_of_mem (mem_sortKeys.mpr hk)

/-- a template: an empty first line, the lines, an empty last line -/
def block (ls : List (List Char)) : List Char := joinNl ([] :: ls ++ [[]])

/-- a line of a template body: single-line and not empty -/
def LineOk (l : List Char) : Prop := '\n' ∉ l ∧ l ≠ []

theorem blocks_flatten (lss : List (List (List Char))) :
    (lss.map block).flatten = joinNl (lss.flatMap (fun ls => [] :: ls) ++ [[]]) := by
  induction lss with
  | nil => simp [joinNl]
  | cons ls t ih =>
    have e1 : joinNl (([] :: ls) ++ [[]]) = joinNl ([] :: ls) ++ ['\n'] := by
      rw [joinNl_append _ _ (by simp) (by simp)]; simp [joinNl]
    have e2 : joinNl (([] :: ls) ++ (List.flatMap (fun ls => [] :: ls) t ++ [[]]))
        = joinNl ([] :: ls) ++ '\n' :: joinNl (List.flatMap (fun ls => [] :: ls) t ++ [[]]) :=
      joinNl_append _ _ (by simp) (by simp)
    simp only [List.cons_append] at e1 e2
    simp only [List.map_cons, List.flatten_cons, ih, List.flatMap_cons, block, List.cons_append, List.append_assoc,
      e1, e2, List.nil_append]

theorem nonEmptyLines_of_ok (ls : List (List Char)) (h : ∀ l ∈ ls, LineOk l) : nonEmptyLines ls = ls := by
  unfold nonEmptyLines
  rw [List.filter_eq_self]
  intro l hl
  have := (h l hl).2
  cases l <;> simp_all

theorem nonEmptyLines_blocks (lss : List (List (List Char))) (hok : ∀ ls ∈ lss, ∀ l ∈ ls, LineOk l) :
    nonEmptyLines (lss.flatMap (fun ls => [] :: ls) ++ [[]]) = lss.flatten := by
  induction lss with
  | nil => simp [nonEmptyLines]
  | cons ls t ih =>
    have h1 := nonEmptyLines_of_ok ls (hok ls (by simp))
    have := ih (fun ls' h' => hok ls' (by simp [h']))
    simp only [nonEmptyLines, List.flatMap_cons, List.cons_append, List.append_assoc, List.filter_cons,
      List.isEmpty_nil, Bool.not_true, Bool.false_eq_true, ↓reduceIte, List.filter_append, List.flatten_cons] at this ⊢
    rw [this]
    unfold nonEmptyLines at h1
    rw [h1]

/-- The heart of the layout argument: `_indent` applied to a concatenation of templates whose body
    lines are single-line and non-empty, the first of them starting with a non-blank character,
    yields — with the four blanks of the enclosing template line put back — the body lines, each
    indented by four more blanks. -/
theorem indent_blocks (lss : List (List (List Char))) (hok : ∀ ls ∈ lss, ∀ l ∈ ls, LineOk l)
    (c : Char) (r : List Char) (t : List (List Char)) (hhead : lss.flatten = (c :: r) :: t)
    (hc : pyIsSpace c = false) :
    sp4 ++ indent ((lss.map block).flatten) = joinNl (lss.flatten.map ind) := by
  rw [blocks_flatten, indent_joinNl, nonEmptyLines_blocks lss hok, hhead, sp4_lstrip_ind c r t hc]
  intro l hl
  simp only [List.mem_append, List.mem_flatMap, List.mem_cons, List.not_mem_nil, or_false] at hl
  rcases hl with ⟨ls, hls, rfl | hl⟩ | rfl
  · simp
  · exact (hok ls hls l hl).1
  · simp

end Kskm
