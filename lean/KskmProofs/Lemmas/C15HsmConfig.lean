/-
  Lemmas for the hsmconfig part of C15 (Kskm/HsmConfig.lean): the "$"-count measure of the interpolation loop,
  the exit condition of the loop, the line loop as a fold (prefix decomposition, line budget), the result dict;
  the keys `find_key_by_id` builds from object handles; the labels of the modules `init_pkcs11_modules` returns.
-/
import Kskm.HsmConfig
import Kskm.Ceremony
import KskmProofs.Lemmas.TokM
import KskmProofs.Lemmas.Hsm
namespace Kskm.HsmConfig
open Kskm.Xml (Classes Out strip)

theorem dollars_nil : dollars [] = 0 := rfl

theorem dollars_cons (c : Char) (s : Str) : dollars (c :: s) = dollars s + (if c = '$' then 1 else 0) := by
  unfold dollars
  rw [List.count_cons]
  by_cases h : c = '$' <;> simp [h]

theorem dollars_append (a b : Str) : dollars (a ++ b) = dollars a + dollars b := by
  unfold dollars; exact List.count_append ..

theorem dollars_zero_of_not_contains {v : Str} (h : ¬ (v.contains '$' = true)) : dollars v = 0 := by
  unfold dollars
  apply List.count_eq_zero.mpr
  intro hm
  exact h (by simpa using hm)

/-- replacing by a "$"-free value never adds a "$" -/
theorem dollars_replaceAux_le (pat val : Str) (hv : dollars val = 0) :
    ∀ (s : Str) (skip : Nat), dollars (replaceAux pat val skip s) ≤ dollars s := by
  intro s
  induction s with
  | nil => intro skip; cases skip <;> simp [replaceAux]
  | cons c s ih =>
    intro skip
    cases skip with
    | succ k =>
      simp only [replaceAux]
      have := ih k
      rw [dollars_cons]; omega
    | zero =>
      simp only [replaceAux]
      split
      · have := ih (pat.length - 1)
        rw [dollars_append, hv, dollars_cons]; omega
      · have := ih 0
        rw [dollars_cons, dollars_cons]; omega

theorem takeWhile_isPrefixOf (p : Char → Bool) (s : Str) : (s.takeWhile p).isPrefixOf s = true := by
  induction s with
  | nil => simp
  | cons c s ih =>
    rw [List.takeWhile_cons]
    split
    · simp [List.isPrefixOf, ih]
    · simp [List.isPrefixOf]

/-- the loop's measure: one round with a "$"-free value strictly lowers the number of "$" -/
theorem dollars_replaceAll_lt (isWord : Char → Bool) (val : Str) (hv : dollars val = 0) :
    ∀ (s key : Str), searchVar isWord s = some key →
      dollars (replaceAll ('$' :: key) val s) < dollars s := by
  intro s
  induction s with
  | nil => intro key h; simp [searchVar] at h
  | cons c s ih =>
    intro key h
    unfold replaceAll
    simp only [replaceAux]
    split
    · -- a match at the head: the head is "$"
      rename_i hp
      have hc : c = '$' := by
        simp only [List.isPrefixOf, Bool.and_eq_true, beq_iff_eq] at hp
        exact hp.1.symm
      have := dollars_replaceAux_le ('$' :: key) val hv s (('$' :: key).length - 1)
      rw [dollars_append, hv, dollars_cons, if_pos hc]; omega
    · rename_i hp
      have hs : searchVar isWord s = some key := by
        simp only [searchVar] at h
        split at h
        · rename_i hc
          split at h
          · exact h
          · rename_i k ks hk
            exfalso
            apply hp
            have hpre := takeWhile_isPrefixOf isWord s
            rw [hk] at hpre
            cases h
            simp [List.isPrefixOf, hc, hpre]
        · exact h
      have := ih key hs
      unfold replaceAll at this
      rw [dollars_cons, dollars_cons]; omega

theorem round_again_lt (isWord : Char → Bool) (lookup : Str → Option Str) (rhs rhs' : Str)
    (h : interpRound isWord lookup rhs = .again rhs') : dollars rhs' < dollars rhs := by
  unfold interpRound at h
  cases hs : searchVar isWord rhs with
  | none => rw [hs] at h; cases h
  | some key =>
    rw [hs] at h; simp only at h
    cases hl : lookup key with
    | none => rw [hl] at h; cases h
    | some val =>
      rw [hl] at h
      cases val with
      | nil => cases h
      | cons v vs =>
        simp only at h
        split at h
        · cases h
        · rename_i hc
          cases h
          exact dollars_replaceAll_lt isWord (v :: vs) (dollars_zero_of_not_contains hc) rhs key hs

theorem round_done_ok {isWord : Char → Bool} {lookup : Str → Option Str} {rhs r : Str}
    (h : interpRound isWord lookup rhs = .done (.ok r)) : r = rhs ∧ searchVar isWord rhs = none := by
  unfold interpRound at h
  cases hs : searchVar isWord rhs with
  | none => rw [hs] at h; cases h; exact ⟨rfl, rfl⟩
  | some key =>
    rw [hs] at h; simp only at h
    cases hl : lookup key with
    | none => rw [hl] at h; cases h
    | some val =>
      rw [hl] at h
      cases val with
      | nil => cases h
      | cons v vs => simp only at h; split at h <;> cases h

theorem round_undefined {isWord : Char → Bool} {lookup : Str → Option Str} {rhs key : Str}
    (hs : searchVar isWord rhs = some key) (hl : lookup key = none ∨ lookup key = some []) :
    interpRound isWord lookup rhs = .done (.err .runtime) := by
  unfold interpRound
  rw [hs]
  rcases hl with hl | hl <;> simp [hl]

/-- a round that leaves the loop leaves it with `ok` or an exception -/
theorem round_done_ne_outOfFuel {isWord : Char → Bool} {lookup : Str → Option Str} {rhs : Str} {r : Out Str}
    (h : interpRound isWord lookup rhs = .done r) : r ≠ .outOfFuel := by
  unfold interpRound at h
  split at h
  · cases h; nofun
  · split at h
    · cases h; nofun
    · cases h; nofun
    · split at h
      · cases h; nofun
      · cases h

theorem interpolate_of_done {isWord : Char → Bool} {lookup : Str → Option Str} {rhs : Str} {r : Out Str}
    (h : interpRound isWord lookup rhs = .done r) (fuel : Nat) : interpolate isWord lookup fuel rhs = r := by
  cases fuel <;> rw [interpolate, h]

theorem interpolate_terminates (isWord : Char → Bool) (lookup : Str → Option Str) :
    ∀ (fuel : Nat) (rhs : Str), dollars rhs ≤ fuel → interpolate isWord lookup fuel rhs ≠ .outOfFuel := by
  intro fuel
  induction fuel with
  | zero =>
    intro rhs h
    cases hr : interpRound isWord lookup rhs with
    | done r => rw [interpolate_of_done hr]; exact round_done_ne_outOfFuel hr
    | again rhs' => have := round_again_lt _ _ _ _ hr; omega
  | succ n ih =>
    intro rhs h
    cases hr : interpRound isWord lookup rhs with
    | done r => rw [interpolate_of_done hr]; exact round_done_ne_outOfFuel hr
    | again rhs' =>
      have := round_again_lt _ _ _ _ hr
      rw [interpolate, hr]
      exact ih _ (by omega)

/-- the loop is left only through `if not match: break` -/
theorem interpolate_ok_exit {isWord : Char → Bool} {lookup : Str → Option Str} :
    ∀ (fuel : Nat) {rhs r : Str}, interpolate isWord lookup fuel rhs = .ok r → searchVar isWord r = none := by
  have hdone : ∀ {fuel rhs r x}, interpRound isWord lookup rhs = .done x →
      interpolate isWord lookup fuel rhs = .ok r → searchVar isWord r = none := by
    intro fuel rhs r x hr h
    rw [interpolate_of_done hr] at h
    obtain ⟨h1, h2⟩ := round_done_ok (h ▸ hr)
    rw [h1]; exact h2
  intro fuel
  induction fuel with
  | zero =>
    intro rhs r h
    cases hr : interpRound isWord lookup rhs with
    | done x => exact hdone hr h
    | again rhs' => rw [interpolate, hr] at h; cases h
  | succ n ih =>
    intro rhs r h
    cases hr : interpRound isWord lookup rhs with
    | done x => exact hdone hr h
    | again rhs' => rw [interpolate, hr] at h; exact ih h

theorem interpolate_undefined (isWord : Char → Bool) (lookup : Str → Option Str) (fuel : Nat) (rhs key : Str)
    (hs : searchVar isWord rhs = some key) (hl : lookup key = none ∨ lookup key = some []) :
    interpolate isWord lookup fuel rhs = .err .runtime :=
  interpolate_of_done (round_undefined hs hl) fuel

/-- what "no variable reference left" means, without the scanner: no "$" is followed by a word character -/
theorem searchVar_none (isWord : Char → Bool) :
    ∀ (s : Str), searchVar isWord s = none →
      ∀ (pre : Str) (c : Char) (post : Str), s = pre ++ '$' :: c :: post → isWord c = false := by
  intro s
  induction s with
  | nil => intro _ pre c post h; cases pre <;> simp at h
  | cons x s ih =>
    intro hn pre c post h
    have hs : searchVar isWord s = none ∧ (x = '$' → s.takeWhile isWord = []) := by
      simp only [searchVar] at hn
      split at hn
      · split at hn
        · rename_i hk; exact ⟨hn, fun _ => hk⟩
        · cases hn
      · rename_i hx; exact ⟨hn, fun h => absurd h hx⟩
    cases pre with
    | nil =>
      simp only [List.nil_append, List.cons.injEq] at h
      obtain ⟨hx, hs'⟩ := h
      have := hs.2 hx
      rw [hs', List.takeWhile_cons] at this
      by_cases hw : isWord c = true
      · simp [hw] at this
      · simpa using hw
    | cons y pre' =>
      simp only [List.cons_append, List.cons.injEq] at h
      exact ih hs.1 pre' c post h.2

theorem Dict.mem_set {d : Dict} {k v : Str} {p : Str × Str} (h : p ∈ Dict.set d k v) : p ∈ d ∨ p.2 = v := by
  induction d with
  | nil => simp [Dict.set] at h; right; rw [h]
  | cons q rest ih =>
    simp only [Dict.set] at h
    split at h
    · rcases List.mem_cons.mp h with h | h
      · right; rw [h]
      · left; exact List.mem_cons_of_mem _ h
    · rcases List.mem_cons.mp h with h | h
      · left; rw [h]; exact List.mem_cons_self ..
      · rcases ih h with h | h
        · left; exact List.mem_cons_of_mem _ h
        · right; exact h

theorem splitEq_append {l r : Str} (h : '=' ∉ l) : splitEq (l ++ '=' :: r) = some (l, r) := by
  induction l with
  | nil => simp [splitEq]
  | cons c l ih =>
    have hc : c ≠ '=' := fun e => h (by simp [e])
    simp [splitEq, hc, ih fun hm => h (List.mem_cons_of_mem _ hm)]

theorem step_ok_inv {cls : Classes} {defaults : Defaults} {st st' : St} {line : Str}
    (h : step cls defaults st line = .ok st') :
    st'.maxLines = st.maxLines - 1 ∧ st.maxLines - 1 ≠ 0 ∧
      (∀ p ∈ st'.res, p ∈ st.res ∨ searchVar cls.isWord p.2 = none) := by
  unfold step at h
  simp only at h
  split at h
  · cases h
  · rename_i hne
    split at h
    · cases h; exact ⟨rfl, hne, fun p hp => Or.inl hp⟩
    · split at h
      · cases h
      · rename_i lhs rhs _
        split at h
        · rename_i r hi
          cases h
          refine ⟨rfl, hne, ?_⟩
          intro p hp
          rcases Dict.mem_set hp with hp | hp
          · exact Or.inl hp
          · right; rw [hp]; exact interpolate_ok_exit _ hi
        · cases h
        · cases h

theorem step_ne_outOfFuel (cls : Classes) (defaults : Defaults) (st : St) (line : Str) :
    step cls defaults st line ≠ .outOfFuel := by
  unfold step
  simp only
  split
  · simp
  · split
    · simp
    · split
      · simp
      · rename_i lhs rhs _
        split
        · simp
        · simp
        · rename_i hi
          exact absurd hi (interpolate_terminates _ _ _ _ (Nat.le_refl _))

theorem loop_ne_outOfFuel (cls : Classes) (defaults : Defaults) :
    ∀ (lines : List Str) (st : St), loop cls defaults st lines ≠ .outOfFuel := by
  intro lines
  induction lines with
  | nil => intro st; simp [loop]
  | cons l ls ih =>
    intro st
    simp only [loop]
    split
    · exact ih _
    · simp
    · rename_i h; exact absurd h (step_ne_outOfFuel _ _ _ _)

theorem loop_ok_inv (cls : Classes) (defaults : Defaults) :
    ∀ (lines : List Str) (st st' : St), loop cls defaults st lines = .ok st' →
      (st.maxLines ≤ 0 ∨ (lines.length : Int) < st.maxLines) ∧
      (∀ p ∈ st'.res, p ∈ st.res ∨ searchVar cls.isWord p.2 = none) := by
  intro lines
  induction lines with
  | nil => intro st st' h; simp only [loop] at h; cases h; exact ⟨by simp; omega, fun p hp => Or.inl hp⟩
  | cons l ls ih =>
    intro st st' h
    simp only [loop] at h
    split at h
    · rename_i st1 hs
      obtain ⟨h1, h2, h3⟩ := step_ok_inv hs
      obtain ⟨h4, h5⟩ := ih _ _ h
      refine ⟨?_, ?_⟩
      · simp only [List.length_cons, Int.natCast_add, Int.natCast_one]; omega
      · intro p hp
        rcases h5 p hp with hp | hp
        · exact h3 p hp
        · exact Or.inr hp
    · cases h
    · cases h

theorem loop_append (cls : Classes) (defaults : Defaults) :
    ∀ (pre : List Str) (st st' : St) (post : List Str), loop cls defaults st pre = .ok st' →
      loop cls defaults st (pre ++ post) = loop cls defaults st' post := by
  intro pre
  induction pre with
  | nil => intro st st' post h; simp only [loop] at h; cases h; rfl
  | cons l ls ih =>
    intro st st' post h
    simp only [loop, List.cons_append] at h ⊢
    cases hs : step cls defaults st l with
    | ok st1 => rw [hs] at h; simp only at h ⊢; exact ih _ _ _ h
    | err k => rw [hs] at h; cases h
    | outOfFuel => rw [hs] at h; cases h

/-! ### dict semantics, and the line budget does not matter while it is not hit -/

theorem Dict.get_set_same (d : Dict) (k v : Str) : (Dict.set d k v).get k = some v := by
  induction d with
  | nil => simp [Dict.set, Dict.get]
  | cons p rest ih =>
    simp only [Dict.set]
    split
    · rename_i h; simp [Dict.get, List.find?, h]
    · rename_i h
      have : (p.1 == k) = false := by simpa using h
      simp only [Dict.get, List.find?, this] at ih ⊢
      exact ih

theorem Dict.get_set_other (d : Dict) (k k' v : Str) (hk : k' ≠ k) : (Dict.set d k v).get k' = d.get k' := by
  induction d with
  | nil =>
    have : (k == k') = false := by simpa using fun h => hk h.symm
    simp [Dict.set, Dict.get, List.find?, this]
  | cons p rest ih =>
    simp only [Dict.set]
    split
    · rename_i h
      have h1 : p.1 = k := by simpa using h
      have : (p.1 == k') = false := by rw [h1]; simpa using fun h => hk h.symm
      simp [Dict.get, List.find?, this]
    · cases hp : p.1 == k'
      · simp only [Dict.get, List.find?, hp] at ih ⊢; exact ih
      · simp [Dict.get, List.find?, hp]

theorem Dict.keys_set (d : Dict) (k v : Str) :
    (Dict.set d k v).map (·.1) = if k ∈ d.map (·.1) then d.map (·.1) else d.map (·.1) ++ [k] := by
  induction d with
  | nil => simp [Dict.set]
  | cons p rest ih =>
    simp only [Dict.set]
    split
    · rename_i h
      have h1 : p.1 = k := by simpa using h
      simp [h1]
    · rename_i h
      have h1 : ¬ p.1 = k := by simpa using h
      have h2 : ¬ k = p.1 := fun e => h1 e.symm
      simp only [List.map_cons, ih, List.mem_cons, h2, false_or]
      split <;> simp

/-- the part of `step` after the line budget: what the line does to `res` -/
def stepBody (cls : Classes) (defaults : Defaults) (res : Dict) (line : Str) : Out Dict :=
  let line := strip (· == '\n') (strip cls.isStrip line)
  if line.isEmpty || line.head? == some '#' then .ok res else
  match splitEq line with
  | none => .err .value
  | some (lhs, rhs) =>
    match interpolate cls.isWord (lookupVar res defaults) (dollars rhs) rhs with
    | .ok rhs' => .ok (res.set lhs rhs')
    | .err k => .err k
    | .outOfFuel => .outOfFuel

def withBudget (n : Int) : Out Dict → Out St
  | .ok r => .ok { maxLines := n, res := r }
  | .err k => .err k
  | .outOfFuel => .outOfFuel

theorem step_eq_body (cls : Classes) (defaults : Defaults) {st : St} (line : Str) (h : st.maxLines - 1 ≠ 0) :
    step cls defaults st line = withBudget (st.maxLines - 1) (stepBody cls defaults st.res line) := by
  unfold step stepBody
  simp only [if_neg h]
  split
  · rfl
  · cases hs : splitEq (strip (fun x => x == '\n') (strip cls.isStrip line)) with
    | none => rfl
    | some p =>
      obtain ⟨lhs, rhs⟩ := p
      simp only
      cases interpolate cls.isWord (lookupVar st.res defaults) (dollars rhs) rhs <;> rfl

def resOf : Out St → Out Dict
  | .ok st => .ok st.res
  | .err k => .err k
  | .outOfFuel => .outOfFuel

theorem loop_budget_irrelevant (cls : Classes) (defaults : Defaults) :
    ∀ (lines : List Str) (a b : Int) (res : Dict), (a ≤ 0 ∨ (lines.length : Int) < a) → (b ≤ 0 ∨ (lines.length : Int) < b) →
      resOf (loop cls defaults { maxLines := a, res } lines) = resOf (loop cls defaults { maxLines := b, res } lines) := by
  intro lines
  induction lines with
  | nil => intro a b res _ _; rfl
  | cons l ls ih =>
    intro a b res ha hb
    simp only [loop]
    simp only [List.length_cons, Int.natCast_add, Int.natCast_one] at ha hb
    rw [step_eq_body _ _ _ (by simp only; omega), step_eq_body _ _ _ (by simp only; omega)]
    cases stepBody cls defaults res l with
    | ok r => simp only [withBudget]; exact ih _ _ _ (by omega) (by omega)
    | err k => rfl
    | outOfFuel => rfl

theorem parse_eq_resOf (cls : Classes) (defaults : Defaults) (n : Int) (lines : List Str) :
    parseHsmconfig cls defaults n lines = resOf (loop cls defaults { maxLines := n, res := [] } lines) := by
  unfold parseHsmconfig resOf
  split <;> simp_all

/-! ### `find_key_by_id`: the keys built from object handles -/

/-- what a key built from object `h` looks like -/
def KeyOfHandle (path : String) (slot h : Nat) (k : P11Key) : Prop :=
  k.module = path ∧ k.slot = slot ∧ k.hashUsingHsm = none ∧
  ((k.keyClass = ckoPublic ∧ k.pubHandle = some h ∧ k.privHandle = none) ∨
   (k.keyClass = ckoPrivate ∧ k.privHandle = some h ∧ k.pubHandle = none))

theorem keyOfObject_yields (path : String) (slot h : Nat) :
    Yields (fun o => ∀ k, o = some k → KeyOfHandle path slot h k) (keyOfObject path slot h) := by
  unfold keyOfObject
  refine .bind_any fun a => ?_
  split
  · split
    · split
      · rename_i c hc
        refine .bind_any fun _ => .bind_any fun kt => .bind_any fun ty => .bind_any fun pk => ?_
        split
        · refine .pure fun k hk => ?_
          cases hk
          refine ⟨rfl, rfl, rfl, ?_⟩
          rcases hc with rfl | rfl
          · exact .inr ⟨rfl, by simp, by simp [ckoPrivate, ckoPublic]⟩
          · exact .inl ⟨rfl, by simp, by simp [ckoPrivate, ckoPublic]⟩
        · exact .err _
        · exact .fail _
      · exact .pure fun _ h => nomatch h
    · exact .pure fun _ h => nomatch h
    · exact .fail _
  · exact .fail _

theorem keysOfObjects_yields (path : String) (slot : Nat) :
    ∀ hs, Yields (fun ks => ks.length ≤ hs.length ∧ ∀ k ∈ ks, ∃ h ∈ hs, KeyOfHandle path slot h k)
      (keysOfObjects path slot hs)
  | [] => .pure ⟨Nat.le_refl _, fun _ h => absurd h List.not_mem_nil⟩
  | h0 :: rest => by
    rw [keysOfObjects]
    refine .bind (keyOfObject_yields path slot h0) fun k0 hk0 =>
      .bind (keysOfObjects_yields path slot rest) fun more ⟨hlen, hall⟩ => .pure ?_
    have hrest : ∀ k ∈ more, ∃ h ∈ h0 :: rest, KeyOfHandle path slot h k := fun k hk =>
      let ⟨x, hx, hp⟩ := hall k hk; ⟨x, List.mem_cons_of_mem _ hx, hp⟩
    cases k0 with
    | none => exact ⟨by simp; omega, hrest⟩
    | some k1 =>
      refine ⟨by simp; omega, fun k hk => ?_⟩
      rcases List.mem_cons.mp hk with rfl | hk
      · exact ⟨h0, List.mem_cons_self, hk0 _ rfl⟩
      · exact hrest k hk

end Kskm.HsmConfig

/-! ### `init_pkcs11_modules(config, name)` (model: Kskm/Ceremony.lean `initPkcs11Modules`) -/
namespace Kskm

/- `openSessions` hands on `acc` with `sessions` or `slots` changed (`openSessions_cons_run`). -/
theorem openSessions_yields_label (m : P11Module) :
    ∀ (l : List Nat) (acc : P11Module), Yields (·.label = acc.label) (openSessions m l acc)
  | [], _ => .pure rfl
  | sl :: rest, acc => fun tok s r s' h => by
    rw [openSessions_cons_run] at h
    exact (openSessions_yields_label m rest _ tok _ r s' h).trans (by split <;> rfl)

theorem init_tail_yields_label (m0 : P11Module) (path : String) (c : Prop) [Decidable c] :
    Yields (·.label = m0.label) (if c then pure m0 else do
      let m ← m0.getSessions
      match m.slots with
      | [] => TokM.err .index
      | s0 :: _ =>
        let _ ← askOk (.getTokenInfo path s0)
        pure m) := by
  split
  · exact .pure rfl
  · refine .bind (Q := fun m1 : P11Module => m1.label = m0.label) ?_ fun m1 h1 => ?_
    · unfold P11Module.getSessions
      split
      · exact openSessions_yields_label _ _ _
      · exact .pure rfl
    · split
      · exact .err _
      · exact .bind_any fun _ => .pure h1

theorem init_yields_label (label path : String) (pin soPin : Option String) (so rw : Bool) (typed : String) :
    Yields (·.label = label) (P11Module.init label path pin soPin so rw typed) := by
  unfold P11Module.init
  refine .bind_any fun _ => .bind_any fun _ => .bind_any fun sl => ?_
  cases sl with
  | slots l => exact .bind_any fun _ => init_tail_yields_label _ path _
  | _ => exact .fail _

theorem initPkcs11Modules_yields_named (all : List HsmConfig) (name typed : String) (hne : name ≠ "") :
    ∀ l, Yields (fun mods => (∀ m ∈ mods, m.label = name) ∧
        mods.length = (l.filter (fun h => h.label == name)).length ∧ ∃ h ∈ all, h.label = name)
      (initPkcs11Modules all (some name) typed l) := by
  have hcond : (((some name).isSome && (some name != some "")) = true) := by simp [hne]
  intro l
  induction l with
  | nil =>
    simp only [initPkcs11Modules, hcond, Bool.true_and]
    split
    · exact .err _
    · rename_i hall
      rw [Bool.not_eq_true, List.all_eq_false] at hall
      obtain ⟨x, hx, hxl⟩ := hall
      exact .pure ⟨fun _ h => absurd h List.not_mem_nil, rfl, x, hx, by simpa using hxl⟩
  | cons h0 rest ih =>
    simp only [initPkcs11Modules, hcond, Bool.true_and]
    split
    · rename_i hskip
      have : (h0.label == name) = false := by simpa using hskip
      exact ih.mono fun _ ⟨a, b, c⟩ => ⟨a, by simp [List.filter, this, b], c⟩
    · rename_i hskip
      have hl0 : h0.label = name := by simpa using hskip
      refine .bind (init_yields_label _ _ _ _ _ _ _) fun m hm => .bind ih fun more ⟨a, b, c⟩ =>
        .pure ⟨?_, by simp [List.filter, hl0, b], c⟩
      intro x hx
      rcases List.mem_cons.mp hx with rfl | hx
      · exact hm.trans hl0
      · exact a x hx

theorem initPkcs11Modules_unknown (all : List HsmConfig) (name typed : String) (hne : name ≠ "") (t : Token)
    (hall : ∀ h ∈ all, h.label ≠ name) :
    ∀ (l : List HsmConfig) (s : TokState), (∀ h ∈ l, h.label ≠ name) →
      initPkcs11Modules all (some name) typed l t s = (.error (.error .runtime), s) := by
  have hcond : (((some name).isSome && (some name != some "")) = true) := by
    simp [hne]
  intro l
  induction l with
  | nil =>
    intro s _
    simp only [initPkcs11Modules, hcond, Bool.true_and]
    have : (all.all fun h => some h.label != some name) = true := by
      simp only [List.all_eq_true]
      intro x hx
      simpa using hall x hx
    simp [this]
  | cons h0 rest ih =>
    intro s hl
    simp only [initPkcs11Modules, hcond, Bool.true_and]
    have : (some h0.label != some name) = true := by simpa using hl h0 (List.mem_cons_self ..)
    simp only [this, if_true]
    exact ih s (fun h hh => hl h (List.mem_cons_of_mem _ hh))
end Kskm
