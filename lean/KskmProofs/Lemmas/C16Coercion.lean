/-
  Lemmas for the coercion theorems of KskmProofs/C16.lean: the characters a duration text and an integer text
  may consist of, a configuration whose top level is not a mapping.
-/
import Kskm.Config
import KskmProofs.Lemmas.C16Validate
namespace Kskm.C16
open Kskm Kskm.Config

/-! ### the characters of an accepted duration text -/

/-- stripping one leading sign drops nothing but a sign -/
theorem mem_signedBody (l : List Char) (c : Char) (hc : c ∈ l) : c ∈ signedBody l ∨ c = '+' ∨ c = '-' := by
  unfold signedBody
  split
  · exact (List.mem_cons.mp hc).elim (fun h => Or.inr (Or.inl h)) Or.inl
  · exact (List.mem_cons.mp hc).elim (fun h => Or.inr (Or.inr h)) Or.inl
  · exact Or.inl hc

/-! ### a configuration that is not a mapping -/

/-- `dict(list)` raises on the first element that is not a pair — whatever stands before or after it -/
theorem dictOfPairs_scalar_rejected (xs ys : List CVal) (x : CVal) (e : Fail) (hx : dictPairOf x = .error e) :
    ∀ r, dictOfPairs (xs ++ x :: ys) ≠ .ok r := by
  induction xs with
  | nil =>
    intro r h
    obtain ⟨kv, hk, _⟩ := Res.bind_ok (x := dictPairOf x) h
    rw [hx] at hk
    cases hk
  | cons y ys' ih =>
    intro r h
    obtain ⟨kv, _, h⟩ := Res.bind_ok (x := dictPairOf y) h
    obtain ⟨rest, hrest, _⟩ := Res.bind_ok h
    exact ih rest hrest

/-! ### the characters of text accepted as an integer -/

theorem mem_stripDecimalZeros (l : List Char) (c : Char) (hc : c ∈ l) :
    c ∈ stripDecimalZeros l ∨ c = '.' ∨ c = '0' := by
  unfold stripDecimalZeros
  simp only
  split
  · rename_i rest hd
    split
    · exact Or.inl hc
    · have hsplit : l.reverse = l.reverse.takeWhile (· == '0') ++ l.reverse.dropWhile (· == '0') :=
        (List.takeWhile_append_dropWhile).symm
      rw [hd] at hsplit
      have hc' : c ∈ l.reverse := List.mem_reverse.mpr hc
      rw [hsplit] at hc'
      rcases List.mem_append.mp hc' with h | h
      · right; right
        simpa using mem_takeWhile_imp h
      · rcases List.mem_cons.mp h with h | h
        · right; left; exact h
        · left; exact List.mem_reverse.mpr h
  · exact Or.inl hc

end Kskm.C16
