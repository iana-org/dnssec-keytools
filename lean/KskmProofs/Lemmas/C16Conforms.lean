/-
  Helper lemmas for C16: soundness of the validator against the JSON-schema reading of the table —
  whatever `validate` returns is an INSTANCE of the schema type (bounds, patterns, closedness).
  `Inst` is the specification side: it is written from JSON-schema semantics
  (minimum / maximum / exclusiveMinimum, pattern, additionalProperties, items, $ref), not from the
  validator's control flow; the primitive tests `inBounds`, `matchPattern`, `keyIsStr` are the model's.
  pydantic does not validate defaults: soundness holds of a table whose defaults are themselves instances
  (`DefaultsOk`), which `defaultsB` decides for a concrete table.
-/
import Kskm.Config
import KskmProofs.Lemmas.C16Validate
namespace Kskm.C16
open Kskm Kskm.Config

/-- a loaded scalar satisfies one alternative of its schema -/
def ScalarOk (env : Env) : Scalar → CVal → Prop
  | .null, r => r = .null
  | .bool, r => ∃ b, r = .bool b
  | .int ge le gt, r => ∃ i, r = .int i ∧ inBounds ge le gt i = true
  | .str pat, r => ∃ s, r = .str s ∧ ∀ p, pat = some p → matchPattern p s = .ok true
  | .duration, r => ∃ u, r = .td u
  | .datetime, r => ∃ u o, r = .ts u o
  | .filePath, r => ∃ s, r = .str s ∧ env.fileExists s = true
  | .path, r => ∃ s, r = .str s
  | .algByName, r => ∃ name n, r = .int (Int.ofNat n) ∧ List.lookup name env.algNames = some n
  | .enumMember, _ => False

/-- `Inst env ty r`: the loaded value `r` is an instance of the schema type `ty` (JSON-schema reading:
    `anyOf` of scalars, `items`, `additionalProperties` of a mapping, `$ref` to an object all of whose
    properties are present, in the order of the table).  A set is read as the list of its items, `uniqueItems`
    is not demanded: the validator answers no set, and the one default of a set type is empty. -/
inductive Inst (env : Env) : STy → CVal → Prop
  | scalar {alts : List Scalar} {a : Scalar} {r : CVal} : a ∈ alts → ScalarOk env a r → Inst env (.scalar alts) r
  | anyMap {kvs : List (CVal × CVal)} : (∀ kv ∈ kvs, keyIsStr kv.1 = true) → Inst env .anyMap (.map kvs)
  | list {item : STy} {xs : List CVal} : (∀ x ∈ xs, Inst env item x) → Inst env (.list item) (.list xs)
  | set {item : STy} {xs : List CVal} : (∀ x ∈ xs, Inst env item x) → Inst env (.set item) (.list xs)
  | mapOf {ik : Bool} {val : STy} {out : List (CVal × CVal)} :
      (∀ kv ∈ out, if ik then ∃ i, kv.1 = .int i else keyIsStr kv.1 = true) → (∀ kv ∈ out, Inst env val kv.2) →
      Inst env (.mapOf ik val) (.map out)
  | model {name : String} {s : ObjSchema} {out : List (CVal × CVal)} :
      findSchema env.tbl name = some s → Rows (fun f v => Inst env f.ty v) s.fields out → Inst env (.model name) (.map out)

/-- the defaults of the table are instances of the types they are defaults of (pydantic does not validate
    them; `defaultsB` checks it of a concrete table) -/
def DefaultsOk (env : Env) : Prop :=
  ∀ s ∈ env.tbl, ∀ f ∈ s.fields, ∀ d, f.default = some d → Inst env f.ty d

/-- whatever value the validation step `q` accepts satisfies `P` -/
abbrev Yields (P : CVal → Prop) (q : Res (Option CVal)) : Prop := Returns (fun o => ∀ r, o = some r → P r) q

section
variable {P : CVal → Prop}

theorem Yields.ok {q : Res (Option CVal)} {r : CVal} (h : Yields P q) (hq : q = .ok (some r)) : P r :=
  Returns.ok h hq _ rfl

theorem yields_none : Yields P (pure none) := returns_pure.2 nofun

theorem yields_some {a : CVal} : Yields P (pure (some a)) ↔ P a := by simp [returns_pure]

theorem yields_pure_ite {c : Prop} [Decidable c] {x y : Option CVal} :
    Yields P (pure (if c then x else y)) ↔ (c → Yields P (pure x)) ∧ (¬c → Yields P (pure y)) := by
  split <;> simp [*]

theorem yields_map {α} {q : Res (Option α)} {f : α → CVal} :
    Yields P (Option.map f <$> q) ↔ ∀ u, q = .ok (some u) → P (f u) := by
  rcases q with _ | _ | u <;> simp [Returns, Functor.map, Except.map, eq_comm]

theorem yields_pure_map {α} {o : Option α} {f : α → CVal} :
    Yields P (pure (Option.map f o)) ↔ ∀ u, o = some u → P (f u) := by
  cases o <;> simp [returns_pure, eq_comm]
end

attribute [local simp] yields_none yields_some returns_error returns_ite yields_pure_ite yields_map yields_pure_map
  unsupported err valScalar ScalarOk in
/-- What one scalar alternative accepts is of its kind.  For each kind and each value the validator is
    `pure none`, `pure (some v)` with `v` of the right shape, a conditional between such, an error, or
    `Option.map` of the right constructor over an optional result: exactly what the rules above decide,
    so `simp` with them leaves only the shape of `v` to see. -/
theorem valScalar_sound (env : Env) (strict : Bool) (sc : Scalar) (v : CVal) :
    Yields (ScalarOk env sc) (valScalar env strict sc v) := by
  cases sc with
  | int ge le gt =>
    simp only [valScalar]
    refine returns_bind.2 fun cand _ => ?_
    cases cand <;> simp
  | str pat =>
    cases v <;> simp only [valScalar, yields_none]
    case str s =>
    cases pat with
    | none => exact yields_some.2 ⟨s, rfl, nofun⟩
    | some p => exact returns_bind.2 fun m hm => by cases m <;> simp [hm]
  | duration =>
    cases v with
    | float t _ => cases t <;> simp
    | _ => simp
  | datetime =>
    cases v with
    | float t _ => cases t <;> simp
    | str s => simp only [valScalar]; cases parseCleanInt s.toList <;> simp
    | _ => simp
  | filePath => cases v <;> simp +contextual
  | algByName =>
    cases v <;> simp
    case str s =>
      cases hn : List.lookup s env.algNames with
      | none => simp
      | some n => simpa using ⟨s, n, rfl, hn⟩
  | _ => cases v <;> simp

theorem firstSome_yields {P : CVal → Prop} {l : List (Res (Option CVal))} (h : ∀ x ∈ l, Yields P x) :
    Yields P (firstSome l) := by
  induction l with
  | nil => exact yields_none
  | cons y ys ih =>
    unfold firstSome
    refine returns_bind.2 fun o ho => ?_
    cases o with
    | none => exact ih fun x hx => h x (List.mem_cons_of_mem _ hx)
    | some v => exact yields_some.2 ((h y List.mem_cons_self).ok ho)

theorem valUnion_sound (env : Env) (strict : Bool) (alts : List Scalar) (v : CVal) :
    Yields (fun r => ∃ a ∈ alts, ScalarOk env a r) (valUnion env strict alts v) := by
  refine firstSome_yields fun x hx _ hxe r hr => ?_
  subst hr
  rcases List.mem_append.mp hx with hx | hx
  · obtain ⟨a, ha, rfl⟩ := List.mem_map.mp hx
    exact ⟨a, ha, (valScalar_sound env true a v).ok hxe⟩
  · split at hx
    · cases hx
    · obtain ⟨a, ha, rfl⟩ := List.mem_map.mp hx
      exact ⟨a, ha, (valScalar_sound env false a v).ok hxe⟩

theorem valKey_sound (ik : Bool) (k : CVal) :
    Yields (fun k' => if ik then ∃ i, k' = .int i else keyIsStr k' = true) (valKey ik k) := by
  cases ik <;> simp +contextual [valKey, yields_map, yields_pure_ite, yields_some, yields_none]

/-- the after-validator keeps a value inside its schema type: it only turns a `datetime` without
    time zone into a `datetime` with one -/
theorem Inst.after {env : Env} {ty : STy} {y : CVal} (f : Field) (h : Inst env ty y) :
    Inst env ty (applyNaiveIsUtc f y) := by
  unfold applyNaiveIsUtc
  split
  · split
    · cases h with
      | scalar ha hok =>
        rename_i a
        cases a <;> simp [ScalarOk] at hok
        exact .scalar ha ⟨_, some 0, rfl⟩
    · exact h
  · exact h

/-- **Soundness of the validator**: what it returns is an instance of the schema type. -/
theorem validate_sound {env : Env} (hd : DefaultsOk env) :
    ∀ {fuel strict ty v r}, validate env fuel strict ty v = .ok (some r) → Inst env ty r := by
  intro fuel
  induction fuel with
  | zero => intro strict ty v r h; cases h
  | succ n ih =>
    intro strict ty v r h
    cases ty with
    | scalar alts =>
      obtain ⟨a, ha, hok⟩ := (valUnion_sound env strict alts v).ok h
      exact .scalar ha hok
    | anyMap =>
      cases v <;> simp only [validate, pure, Except.pure, Except.ok.injEq, reduceCtorEq] at h
      split at h <;> cases h
      rename_i hall
      exact .anyMap fun kv hkv => List.all_eq_true.mp hall kv hkv
    | set item =>
      simp only [validate] at h
      split at h <;> simp [pure, Except.pure, unsupported] at h
    | list item =>
      obtain ⟨xs, out, _, rfl, hmap⟩ := validate_list_inv h
      refine .list fun a ha => ?_
      obtain ⟨x, _, hx⟩ := (map_eq_map_mem hmap).2 a ha
      exact ih hx
    | mapOf ik val =>
      obtain ⟨kvs, out, _, rfl, hmap⟩ := validate_mapOf_inv h
      have hall : ∀ a ∈ out, (if ik then ∃ i, a.1 = .int i else keyIsStr a.1 = true) ∧ Inst env val a.2 := fun a ha => by
        obtain ⟨kv, _, hkv⟩ := (map_eq_map_mem hmap).2 a ha
        exact ⟨(valKey_sound ik kv.1).ok (valEntry_ok hkv).1, ih (valEntry_ok hkv).2⟩
      exact .mapOf (fun a ha => (hall a ha).1) fun a ha => (hall a ha).2
    | model name =>
      obtain ⟨s, kvs, out, hs, _, rfl, _, hrows⟩ := validate_model_inv h
      refine .model hs (hrows.imp_mem fun f hf v hl => ?_)
      rcases hl with ⟨_, hdf⟩ | ⟨_, y, _, hy, rfl⟩
      · exact hd s (findSchema_mem hs) f hf v hdf
      · exact (ih hy).after f

/-! ### the accessors of a value tree succeed on one constructor only -/

theorem getMap?_some (v : CVal) (l : List (CVal × CVal)) (h : v.getMap? = some l) : v = .map l := by
  cases v <;> simp [CVal.getMap?] at h; subst h; rfl

theorem getInt?_some (v : CVal) (i : Int) (h : v.getInt? = some i) : v = .int i := by
  cases v <;> simp [CVal.getInt?] at h; subst h; rfl

theorem getStr?_some (v : CVal) (s : String) (h : v.getStr? = some s) : v = .str s := by
  cases v <;> simp [CVal.getStr?] at h; subst h; rfl

/-- a list read element by element with `get`, where `get` succeeds only on the image of `mk` -/
theorem mapM_get_eq {α : Type} {get : CVal → Option α} {mk : α → CVal} (hget : ∀ v a, get v = some a → v = mk a)
    (l : List CVal) (as : List α) (h : l.mapM get = some as) : l = as.map mk := by
  induction l generalizing as with
  | nil => simp_all
  | cons x r ih =>
    simp only [List.mapM_cons, Option.bind_eq_bind, Option.bind_eq_some_iff] at h
    obtain ⟨a, ha, bs, hb, h⟩ := h
    cases h
    rw [List.map_cons, ← hget x a ha, ← ih bs hb]

theorem getIntList?_some (v : CVal) (is : List Int) (h : v.getIntList? = some is) : v = .list (is.map CVal.int) := by
  cases v <;> simp [CVal.getIntList?] at h
  rw [mapM_get_eq getInt?_some _ is h]

theorem getStrList?_some (v : CVal) (ss : List String) (h : v.getStrList? = some ss) : v = .list (ss.map CVal.str) := by
  cases v <;> simp [CVal.getStrList?] at h
  rw [mapM_get_eq getStr?_some _ ss h]

/-- reading an option by name meets the first row of that name, which is the one `schemaFieldTy` finds -/
theorem Inst.get {env : Env} {name fname : String} {r v : CVal} {ty : STy} (h : Inst env (.model name) r)
    (hty : schemaFieldTy env.tbl name fname = some ty) (hg : r.get? fname = some v) : Inst env ty v := by
  cases h with
  | model hs hrows =>
    obtain ⟨f, hf, hi⟩ := hrows.lookup hg
    have : some f.ty = some ty := by simpa [schemaFieldTy, hs, ObjSchema.field?, hf] using hty
    cases this
    exact hi

theorem Inst.entry {env : Env} {ik : Bool} {val : STy} {out : List (CVal × CVal)} {kv : CVal × CVal}
    (h : Inst env (.mapOf ik val) (.map out)) (hm : kv ∈ out) : Inst env val kv.2 := by
  cases h with
  | mapOf _ hall => exact hall kv hm

theorem Inst.alts {env : Env} {alts : List Scalar} {v : CVal} (h : Inst env (.scalar alts) v) :
    ∃ a ∈ alts, ScalarOk env a v := by
  cases h with
  | scalar ha hok => exact ⟨_, ha, hok⟩

theorem Inst.single {env : Env} {a : Scalar} {v : CVal} (h : Inst env (.scalar [a]) v) : ScalarOk env a v := by
  obtain ⟨_, ha, hok⟩ := h.alts
  cases List.mem_singleton.mp ha
  exact hok

theorem Inst.items {env : Env} {a : Scalar} {v : CVal} {Q : CVal → Prop} (h : Inst env (.list (.scalar [a])) v)
    (hQ : ∀ x, ScalarOk env a x → Q x) : ∃ xs, v = .list xs ∧ ∀ x ∈ xs, Q x := by
  cases h with
  | list hall => exact ⟨_, rfl, fun x hx => hQ x (hall x hx).single⟩

/-- an optional scalar (`T | None`) -/
theorem Inst.nullable {env : Env} {a : Scalar} {v : CVal} (h : Inst env (.scalar [a, .null]) v) :
    v = .null ∨ ScalarOk env a v := by
  obtain ⟨_, ha, hok⟩ := h.alts
  simp only [List.mem_cons, List.not_mem_nil, or_false] at ha
  rcases ha with rfl | rfl
  · exact Or.inr hok
  · exact Or.inl hok

/-- what the bounds of an integer option imply holds of its loaded value -/
theorem ScalarOk.int {env : Env} {ge le gt : Option Int} {v : CVal} {P : Int → Prop}
    (h : ScalarOk env (.int ge le gt) v) (hP : ∀ i, inBounds ge le gt i = true → P i) : ∃ i, v = .int i ∧ P i :=
  let ⟨i, hi, hb⟩ := h
  ⟨i, hi, hP i hb⟩

/-! ### a checker for `Inst`, as far as the defaults of a table need one

  `instB` follows `Inst` constructor by constructor, with the nesting depth as fuel.  It is sound, not complete:
  the alternatives that consult the environment (`filePath`, `algByName`) are answered `false`; no default is
  of such a type other than by being `null`. -/

def scalarOkB : Scalar → CVal → Bool
  | .null, .null => true
  | .bool, .bool _ => true
  | .int ge le gt, .int i => inBounds ge le gt i
  | .str pat, .str s => pat.all fun p => matchPattern p s == .ok true
  | .duration, .td _ => true
  | .datetime, .ts _ _ => true
  | .path, .str _ => true
  | _, _ => false

def rowsB (R : Field → CVal → Bool) : List Field → List (CVal × CVal) → Bool
  | [], [] => true
  | f :: fs, (.str k, v) :: out => k == f.name && R f v && rowsB R fs out
  | _, _ => false

def instB (tbl : List ObjSchema) : Nat → STy → CVal → Bool
  | 0, _, _ => false
  | n + 1, ty, r =>
    match ty, r with
    | .scalar alts, r => alts.any (scalarOkB · r)
    | .anyMap, .map kvs => kvs.all fun kv => keyIsStr kv.1
    | .list item, .list xs => xs.all (instB tbl n item)
    | .set item, .list xs => xs.all (instB tbl n item)
    | .mapOf ik val, .map out =>
      out.all fun kv => (if ik then kv.1.getInt?.isSome else keyIsStr kv.1) && instB tbl n val kv.2
    | .model name, .map out =>
      match findSchema tbl name with
      | some s => rowsB (fun f v => instB tbl n f.ty v) s.fields out
      | none => false
    | _, _ => false

def defaultsB (tbl : List ObjSchema) (n : Nat) : Bool :=
  tbl.all fun s => s.fields.all fun f => f.default.all (instB tbl n f.ty)

theorem scalarOkB_sound (env : Env) {a : Scalar} {r : CVal} (h : scalarOkB a r = true) : ScalarOk env a r := by
  unfold scalarOkB at h
  split at h <;> simp_all [ScalarOk, Option.all_eq_true]

theorem rowsB_sound {env : Env} {R : Field → CVal → Bool} (hR : ∀ f v, R f v = true → Inst env f.ty v) :
    ∀ fs out, rowsB R fs out = true → Rows (fun f v => Inst env f.ty v) fs out
  | [], [], _ => .nil
  | f :: fs, (.str k, v) :: out, h => by
    simp only [rowsB, Bool.and_eq_true, beq_iff_eq] at h
    obtain ⟨⟨rfl, h1⟩, h2⟩ := h
    exact .cons (hR f v h1) (rowsB_sound hR fs out h2)

theorem instB_sound (env : Env) : ∀ n ty r, instB env.tbl n ty r = true → Inst env ty r := by
  intro n
  induction n with
  | zero => intro ty r h; cases h
  | succ n ih =>
    intro ty r h
    unfold instB at h
    split at h
    · obtain ⟨a, ha, hok⟩ := List.any_eq_true.mp h
      exact .scalar ha (scalarOkB_sound env hok)
    · exact .anyMap fun kv hkv => List.all_eq_true.mp h kv hkv
    · exact .list fun x hx => ih _ _ (List.all_eq_true.mp h x hx)
    · exact .set fun x hx => ih _ _ (List.all_eq_true.mp h x hx)
    · rename_i ik _ _
      have hall := fun kv hkv => Bool.and_eq_true_iff.mp (List.all_eq_true.mp h kv hkv)
      refine .mapOf (fun kv hkv => ?_) fun kv hkv => ih _ _ (hall kv hkv).2
      have hkey := (hall kv hkv).1
      cases ik
      · exact hkey
      · obtain ⟨i, hi⟩ := Option.isSome_iff_exists.mp hkey
        exact ⟨i, getInt?_some _ i hi⟩
    · split at h
      · rename_i s hs
        exact .model hs (rowsB_sound (fun f v => ih _ _) _ _ h)
      · cases h
    · cases h

theorem defaultsOk_of_defaultsB (env : Env) (n : Nat) (h : defaultsB env.tbl n = true) : DefaultsOk env := by
  intro s hs f hf d hd
  have := List.all_eq_true.mp (List.all_eq_true.mp h s hs) f hf
  rw [hd] at this
  exact instB_sound env n _ _ (by simpa using this)

end Kskm.C16
