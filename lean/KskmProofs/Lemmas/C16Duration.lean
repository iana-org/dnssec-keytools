/-
  Helper lemmas for C16 `duration_value`: both duration parsers give the exact value of a text made of
  week / day (date section) and hour / minute / second (time section) components.
  The repository parser side rests on KskmProofs/Lemmas/C11Duration.lean.
-/
import Kskm.Config
import KskmProofs.Lemmas.C11Duration
namespace Kskm.C16
open Kskm Kskm.Config

/-! ### the repository parser (`duration_to_timedelta`, Kskm/Duration.lean) -/

/-- date-section components: weeks and days only (an `M` there is a month and is refused) -/
def DateComps (cs : List (Nat × Char)) : Prop := ∀ p ∈ cs, (p.2 = 'W' ∨ p.2 = 'D') ∧ p.1 < 10 ^ 4300

/-- the text of a duration with date components `dc` and time components `tc` -/
def durationText (dc tc : List (Nat × Char)) : List Char :=
  'P' :: (renderComps dc ++ (if tc.isEmpty then [] else 'T' :: renderComps tc))

/-- **the repository parser is exact on every W/D … T … H/M/S text** (any number of components, in
    any order within their section, any magnitude a `timedelta` can hold) -/
theorem repo_duration_chars (dc tc : List (Nat × Char)) (hd : DateComps dc) (htc : GoodComps tc)
    (hmax : (sumComps dc + sumComps tc) / usPerDay ≤ 999999999) :
    parseDurationChars (durationText dc tc) = .ok (sumComps dc + sumComps tc) :=
  parseDurationChars_comps dc tc
    (fun p hp => ⟨by rcases (hd p hp).1 with h | h <;> rw [h] <;> decide, (hd p hp).2⟩)
    (fun p hp e => by rcases (hd p hp).1 with h | h <;> rw [h] at e <;> exact absurd e (by decide)) htc hmax

/-! ### pydantic's parser (`pydDuration`, Kskm/Config.lean) -/

/-- components as digit strings: the value of a digit string is `digitsVal` (decimal, leading zeros allowed) -/
def renderDL : List (List Char × Char) → List Char
  | [] => []
  | (ds, u) :: r => ds ++ u :: renderDL r

def dateUnitDays (u : Char) : Nat := if u = 'W' then 7 else 1
def timeUnitSecs (u : Char) : Nat := if u = 'H' then 3600 else if u = 'M' then 60 else 1

def sumDateDL : List (List Char × Char) → Nat
  | [] => 0
  | (ds, u) :: r => digitsVal ds * dateUnitDays u + sumDateDL r

def sumTimeDL : List (List Char × Char) → Nat
  | [] => 0
  | (ds, u) :: r => digitsVal ds * timeUnitSecs u + sumTimeDL r

def DigitsOk (ds : List Char) : Prop := ds ≠ [] ∧ ∀ c ∈ ds, isAsciiDigit c = true
def DateDL (cs : List (List Char × Char)) : Prop := ∀ p ∈ cs, DigitsOk p.1 ∧ (p.2 = 'W' ∨ p.2 = 'D')
def TimeDL (cs : List (List Char × Char)) : Prop := ∀ p ∈ cs, DigitsOk p.1 ∧ (p.2 = 'H' ∨ p.2 = 'M' ∨ p.2 = 'S')

/-- a run of digits, whatever `cur` holds: `getD 0` is how `pydStep` itself starts a number -/
theorem pyd_run (ds : List Char) (hne : ds ≠ []) (hd : ∀ c ∈ ds, isAsciiDigit c = true) (st : PydState) :
    ds.foldl pydStep (some st)
      = some { st with cur := some (ds.foldl (fun acc c => acc * 10 + digitVal c) (st.cur.getD 0)) } := by
  induction ds generalizing st with
  | nil => exact absurd rfl hne
  | cons c r ih =>
    have hstep : pydStep (some st) c = some { st with cur := some (st.cur.getD 0 * 10 + digitVal c) } := by
      simp [pydStep, hd c (by simp), bind, Option.bind, pure]
    rw [List.foldl_cons, hstep]
    cases r with
    | nil => rfl
    | cons c' r' => rw [ih (by simp) (fun x hx => hd x (by simp [hx]))]; rfl

theorem pyd_digits (ds : List Char) (hd : DigitsOk ds) (st : PydState) (hc : st.cur = none) :
    ds.foldl pydStep (some st) = some { st with cur := some (digitsVal ds) } := by
  rw [pyd_run ds hd.1 hd.2, hc]; rfl

theorem pyd_date_comps (cs : List (List Char × Char)) (rest : List Char) (hd : DateDL cs) (st : PydState)
    (hc : st.cur = none) (ht : st.inTime = false) :
    (renderDL cs ++ rest).foldl pydStep (some st) =
      rest.foldl pydStep (some { st with days := st.days + sumDateDL cs, comps := st.comps + cs.length }) := by
  induction cs generalizing st with
  | nil => simp [renderDL, sumDateDL]
  | cons a r ih =>
    obtain ⟨ds, u⟩ := a
    obtain ⟨hds, hu⟩ := hd (ds, u) (by simp)
    simp only [renderDL, List.append_assoc, List.cons_append, List.foldl_append, List.foldl_cons]
    rw [pyd_digits ds hds st hc]
    have hstep : pydStep (some { st with cur := some (digitsVal ds) }) u =
        some { st with days := st.days + digitsVal ds * dateUnitDays u, comps := st.comps + 1 } := by
      have hu' : u = 'W' ∨ u = 'D' := hu
      rcases hu' with rfl | rfl <;>
        simp [pydStep, isAsciiDigit, ht, hc, dateUnitDays, bind, Option.bind, pure]
    rw [hstep, ← List.foldl_append]
    have := ih (fun p hp => hd p (by simp [hp]))
      { st with days := st.days + digitsVal ds * dateUnitDays u, comps := st.comps + 1 } hc ht
    rw [this]
    simp only [sumDateDL, List.length_cons, Nat.add_assoc, Nat.add_comm 1 r.length]

theorem pyd_time_comps (cs : List (List Char × Char)) (hd : TimeDL cs) (st : PydState)
    (hc : st.cur = none) (ht : st.inTime = true) (hb : st.secs + sumTimeDL cs < 4294967296) :
    (renderDL cs).foldl pydStep (some st) =
      some { st with secs := st.secs + sumTimeDL cs, comps := st.comps + cs.length } := by
  induction cs generalizing st with
  | nil => simp [renderDL, sumTimeDL]
  | cons a r ih =>
    obtain ⟨ds, u⟩ := a
    obtain ⟨hds, hu⟩ := hd (ds, u) (by simp)
    simp only [sumTimeDL] at hb
    simp only [renderDL, List.foldl_append, List.foldl_cons]
    rw [pyd_digits ds hds st hc]
    have hlt : ¬ (st.secs + digitsVal ds * timeUnitSecs u ≥ 4294967296) := by omega
    have hstep : pydStep (some { st with cur := some (digitsVal ds) }) u =
        some { st with secs := st.secs + digitsVal ds * timeUnitSecs u, comps := st.comps + 1 } := by
      have hu' : u = 'H' ∨ u = 'M' ∨ u = 'S' := hu
      rcases hu' with rfl | rfl | rfl <;>
        simp [pydStep, isAsciiDigit, ht, hc, timeUnitSecs, bind, Option.bind, pure] at hlt ⊢ <;> omega
    rw [hstep]
    have := ih (fun p hp => hd p (by simp [hp]))
      { st with secs := st.secs + digitsVal ds * timeUnitSecs u, comps := st.comps + 1 } hc ht
      (by simp only; omega)
    rw [this]
    simp only [sumTimeDL, List.length_cons, Nat.add_assoc, Nat.add_comm 1 r.length]

def pydText (dc tc : List (List Char × Char)) : List Char :=
  'P' :: (renderDL dc ++ (if tc.isEmpty then [] else 'T' :: renderDL tc))

theorem maxTd_bound : (maxTdDays + 1) * 86400 = (86400000000000 : Int) := by decide

/-- what `pydMagnitude` makes of a finished scan, with or without a time section -/
theorem pydMagnitude_of_scan (r : List Char) (st : PydState) (hs : r.foldl pydStep (some {}) = some st)
    (hc : st.cur = none) (hn : st.comps ≠ 0) (hmax : st.days * 86400 + st.secs < 1000000000 * 86400) :
    pydMagnitude ('P' :: r) = some (((st.days * 86400 + st.secs : Nat) : Int) * 1000000) := by
  have : ¬ (((st.days : Nat) : Int) * 86400 + ((st.secs : Nat) : Int) ≥ (maxTdDays + 1) * 86400) := by
    rw [maxTd_bound]; omega
  simp only [pydMagnitude, hs, hc, Option.isSome_none, Bool.false_or, beq_iff_eq, hn, if_false, if_neg this, usPerSec]
  congr 1

end Kskm.C16
