/-
  Helper definitions and lemmas for the flag-independence theorems of C16: the individual checks of
  `validate_request`, `check_skr_and_ksr` and `check_last_skr_and_new_skr` under one name each (the three
  composites ARE the loops over their lists of checks: `…_eq_checks`), the fourteen whole-check flags of
  `RequestPolicy`, and the fact that each check function reads its own flag only.
-/
import Kskm.Chain
import KskmProofs.Lemmas.Res
namespace Kskm.C16
open Kskm

/-- everything the three composite validations look at besides the policy -/
structure Ctx where
  verify : Verifier
  now : Int
  req : Request
  last : Response
  new : Response
  tok : Option TokenLookup

/-- the UNGUARDED part of `check_zsk_policy_algorithm`: deprecated / unsupported algorithms and the
    ECDSA / EdDSA enabling switches — not switchable by `signature_algorithms_match_zsk_policy` -/
def zskAlgBasic (req : Request) (pol : RequestPolicy) : Res Unit :=
  forEach req.zskPolicy.algorithms (checkAlgBasic pol)

/-- the part guarded by `signature_algorithms_match_zsk_policy` -/
def zskAlgApproved (req : Request) (pol : RequestPolicy) : Res Unit :=
  if !pol.signatureAlgorithmsMatchZskPolicy then pure () else do
  if pol.approvedAlgorithms.any (·.isNone) then err .key
  forEach req.zskPolicy.algorithms fun a =>
    if pol.approvedAlgorithms.contains (some a.algorithm) then pure () else violation .policyAlg
  forEach req.zskPolicy.algorithms (checkAlgRsaParams pol)

theorem checkZskPolicyAlgorithm_split (req : Request) (pol : RequestPolicy) :
    checkZskPolicyAlgorithm req pol = (do zskAlgBasic req pol; zskAlgApproved req pol) := rfl

inductive Check where
  -- validate_request
  | domain | uniqueIds | keysMatchZsk | proofOfPossession | bundleCount | cycle | keysInBundles
  | zskAlgBasic | zskAlgApproved | overlaps | validity | horizon | intervals
  -- check_skr_and_ksr
  | uniqueRequest | uniqueBundleIds | chainKeys | chainOverlap | lastSkrKeyPresent
  -- check_last_skr_and_new_skr
  | publishSafety | retireSafety
  deriving DecidableEq, Repr

def runCheck (c : Ctx) (pol : RequestPolicy) : Check → Res Unit
  | .domain => checkDomain c.req pol
  | .uniqueIds => checkUniqueIds c.req
  | .keysMatchZsk => checkKeysMatchZskPolicy c.req pol
  | .proofOfPossession => checkProofOfPossession c.verify c.req pol
  | .bundleCount => checkBundleCount c.req pol
  | .cycle => checkCycleDurations c.req pol
  | .keysInBundles => checkKeysInBundles c.req pol
  | .zskAlgBasic => zskAlgBasic c.req pol
  | .zskAlgApproved => zskAlgApproved c.req pol
  | .overlaps => checkBundleOverlaps c.req pol
  | .validity => checkSignatureValidity c.req pol
  | .horizon => checkSignatureHorizon c.now c.req pol
  | .intervals => checkBundleIntervals c.req pol
  | .uniqueRequest => checkUniqueRequest c.req c.last
  | .uniqueBundleIds => checkUniqueBundleIds c.req c.last
  | .chainKeys => checkChainKeys c.req c.last pol
  | .chainOverlap => checkChainOverlap c.req c.last pol
  | .lastSkrKeyPresent => checkLastSkrKeyPresent c.last pol c.tok
  | .publishSafety => checkPublishSafety c.last c.new pol
  | .retireSafety => checkRetireSafety c.last c.new pol

def requestChecks : List Check :=
  [.domain, .uniqueIds, .keysMatchZsk, .proofOfPossession, .bundleCount, .cycle, .keysInBundles,
   .zskAlgBasic, .zskAlgApproved, .overlaps, .validity, .horizon, .intervals]
def chainChecks : List Check :=
  [.uniqueRequest, .uniqueBundleIds, .chainKeys, .chainOverlap, .lastSkrKeyPresent]
def safetyChecks : List Check := [.publishSafety, .retireSafety]

/-- `validate_request` IS the loop over its thirteen named checks: same verdict, same failure -/
theorem validateRequest_eq_checks (c : Ctx) (pol : RequestPolicy) :
    validateRequest c.verify c.now c.req pol = forEach requestChecks (runCheck c pol) := by
  simp only [validateRequest, verifyBundles, verifyPolicy, checkZskPolicyAlgorithm_split, requestChecks, forEach,
    runCheck, bind_assoc, Res.bind_unit_pure]

theorem checkSkrAndKsr_eq_checks (c : Ctx) (pol : RequestPolicy) :
    checkSkrAndKsr c.req c.last pol c.tok = forEach chainChecks (runCheck c pol) := by
  simp only [checkSkrAndKsr, chainChecks, forEach, runCheck, Res.bind_unit_pure]

theorem checkLastSkrAndNewSkr_eq_checks (c : Ctx) (pol : RequestPolicy) :
    checkLastSkrAndNewSkr c.last c.new pol = forEach safetyChecks (runCheck c pol) := by
  simp only [checkLastSkrAndNewSkr, safetyChecks, forEach, runCheck, Res.bind_unit_pure]

/-- the boolean options of `RequestPolicy` that switch a whole check -/
inductive Flag where
  | validateSignatures | keysMatchZskPolicy | checkCycleLength | checkBundleOverlap
  | signatureAlgorithmsMatchZskPolicy | signatureValidityMatchZskPolicy
  | checkKeysMatchKskOperatorPolicy | signatureCheckExpireHorizon | checkBundleIntervals
  | checkChainKeys | checkChainKeysInHsm | checkChainOverlap | checkKeysPublishSafety
  | checkKeysRetireSafety
  deriving DecidableEq, Repr

/-- the check each flag guards (config/ksrsigner.yaml) -/
def Flag.guards : Flag → Check
  | .validateSignatures => .proofOfPossession
  | .keysMatchZskPolicy => .keysMatchZsk
  | .checkCycleLength => .cycle
  | .checkBundleOverlap => .overlaps
  | .signatureAlgorithmsMatchZskPolicy => .zskAlgApproved
  | .signatureValidityMatchZskPolicy => .validity
  | .checkKeysMatchKskOperatorPolicy => .keysInBundles
  | .signatureCheckExpireHorizon => .horizon
  | .checkBundleIntervals => .intervals
  | .checkChainKeys => .chainKeys
  | .checkChainKeysInHsm => .lastSkrKeyPresent
  | .checkChainOverlap => .chainOverlap
  | .checkKeysPublishSafety => .publishSafety
  | .checkKeysRetireSafety => .retireSafety

def Flag.get (pol : RequestPolicy) : Flag → Bool
  | .validateSignatures => pol.validateSignatures
  | .keysMatchZskPolicy => pol.keysMatchZskPolicy
  | .checkCycleLength => pol.checkCycleLength
  | .checkBundleOverlap => pol.checkBundleOverlap
  | .signatureAlgorithmsMatchZskPolicy => pol.signatureAlgorithmsMatchZskPolicy
  | .signatureValidityMatchZskPolicy => pol.signatureValidityMatchZskPolicy
  | .checkKeysMatchKskOperatorPolicy => pol.checkKeysMatchKskOperatorPolicy
  | .signatureCheckExpireHorizon => pol.signatureCheckExpireHorizon
  | .checkBundleIntervals => pol.checkBundleIntervals
  | .checkChainKeys => pol.checkChainKeys
  | .checkChainKeysInHsm => pol.checkChainKeysInHsm
  | .checkChainOverlap => pol.checkChainOverlap
  | .checkKeysPublishSafety => pol.checkKeysPublishSafety
  | .checkKeysRetireSafety => pol.checkKeysRetireSafety

/-- the policy with exactly this option set to `false` -/
def Flag.setOff (pol : RequestPolicy) : Flag → RequestPolicy
  | .validateSignatures => { pol with validateSignatures := false }
  | .keysMatchZskPolicy => { pol with keysMatchZskPolicy := false }
  | .checkCycleLength => { pol with checkCycleLength := false }
  | .checkBundleOverlap => { pol with checkBundleOverlap := false }
  | .signatureAlgorithmsMatchZskPolicy => { pol with signatureAlgorithmsMatchZskPolicy := false }
  | .signatureValidityMatchZskPolicy => { pol with signatureValidityMatchZskPolicy := false }
  | .checkKeysMatchKskOperatorPolicy => { pol with checkKeysMatchKskOperatorPolicy := false }
  | .signatureCheckExpireHorizon => { pol with signatureCheckExpireHorizon := false }
  | .checkBundleIntervals => { pol with checkBundleIntervals := false }
  | .checkChainKeys => { pol with checkChainKeys := false }
  | .checkChainKeysInHsm => { pol with checkChainKeysInHsm := false }
  | .checkChainOverlap => { pol with checkChainOverlap := false }
  | .checkKeysPublishSafety => { pol with checkKeysPublishSafety := false }
  | .checkKeysRetireSafety => { pol with checkKeysRetireSafety := false }

theorem keysWalk_congr (req : Request) (p1 p2 : RequestPolicy)
    (h : ∀ key, checkNewKey req p1 key = checkNewKey req p2 key) :
    ∀ l seen, keysWalk req p1 l seen = keysWalk req p2 l seen := by
  intro l
  induction l with
  | nil => intro seen; rfl
  | cons k r ih =>
    intro seen
    unfold keysWalk
    split
    · split
      · exact ih seen
      · rfl
    · rw [h k]
      cases checkNewKey req p2 k with
      | error e => rfl
      | ok u => simp only [bind, Except.bind]; exact ih _

theorem keysMatch_setOff (req : Request) (pol : RequestPolicy) (f : Flag)
    (h : f ≠ .keysMatchZskPolicy) :
    checkKeysMatchZskPolicy req (f.setOff pol) = checkKeysMatchZskPolicy req pol := by
  unfold checkKeysMatchZskPolicy
  rw [keysWalk_congr req (f.setOff pol) pol fun _ => by cases f <;> rfl]
  cases f <;> first | rfl | exact absurd rfl h

/-- a check whose flag is off accepts -/
theorem runCheck_off (c : Ctx) (pol : RequestPolicy) (f : Flag) (h : f.get pol = false) :
    runCheck c pol f.guards = .ok () := by
  cases f
  -- check_last_skr_key_present: also `ok` when no modules are passed
  case checkChainKeysInHsm => cases ht : c.tok <;> simp only [runCheck, Flag.guards, checkLastSkrKeyPresent, ht] <;>
    first | rfl | exact guarded_off h _
  all_goals exact guarded_off h _

theorem runCheck_setOff_own (c : Ctx) (pol : RequestPolicy) (f : Flag) :
    runCheck c (f.setOff pol) f.guards = .ok () :=
  runCheck_off c _ f (by cases f <;> rfl)

/-- … and leaves every other check exactly as it was -/
theorem runCheck_setOff_other (c : Ctx) (pol : RequestPolicy) (f : Flag) (k : Check)
    (h : k ≠ f.guards) : runCheck c (f.setOff pol) k = runCheck c pol k := by
  cases k
  case keysMatchZsk =>
    exact keysMatch_setOff c.req pol f (by intro hf; subst hf; exact h rfl)
  all_goals (cases f <;> first | rfl | exact absurd rfl h)

/-- Two policies under which every check but `g` gives the same result: all checks of a list accept
    under the first iff the others accept under the second and `g`, where listed, under the first. -/
theorem checks_except (c : Ctx) (p1 p2 : RequestPolicy) (g : Check)
    (hoth : ∀ k, k ≠ g → runCheck c p1 k = runCheck c p2 k) (l : List Check) :
    (∀ k ∈ l, runCheck c p1 k = .ok ()) ↔
      (∀ k ∈ l, k ≠ g → runCheck c p2 k = .ok ()) ∧ (g ∈ l → runCheck c p1 g = .ok ()) := by
  constructor
  · exact fun h => ⟨fun k hk hne => hoth k hne ▸ h k hk, h g⟩
  · rintro ⟨h1, h2⟩ k hk
    by_cases hne : k = g
    · exact hne ▸ h2 (hne ▸ hk)
    · exact (hoth k hne).symm ▸ h1 k hk hne

/-- with one flag off, the checks of a list accept iff those the flag does not guard accept under
    the original policy -/
theorem checks_setOff (c : Ctx) (pol : RequestPolicy) (f : Flag) (l : List Check) :
    (∀ k ∈ l, runCheck c (f.setOff pol) k = .ok ()) ↔ ∀ k ∈ l, k ≠ f.guards → runCheck c pol k = .ok () :=
  (checks_except c _ pol f.guards (runCheck_setOff_other c pol f) l).trans
    (and_iff_left fun _ => runCheck_setOff_own c pol f)

end Kskm.C16
