/-
  Lemmas for C16 about the REGENERATED schema table (`KskmGen.configSchema`): from "the loader
  returned `loaded`" to "this option of `loaded` is an instance of its schema type" (its defaults are
  instances too: `defaults_inst`), and, for the KSK validity, to the value that was configured; what the
  three string patterns of the schema admit.
-/
import Kskm.Config
import KskmGen.Tables
import KskmProofs.Lemmas.C16Validate
import KskmProofs.Lemmas.C16Conforms
namespace Kskm.C16
open Kskm Kskm.Config

/-- the environment of the real loader: regenerated schema and algorithm tables; only the file
    system stays a parameter -/
def realEnv (fileExists : String → Bool) : Env :=
  { tbl := KskmGen.configSchema, algNames := KskmGen.algorithmDNSSEC, fileExists := fileExists,
    kskTtlFallback := KskmGen.dnsTtlFallback.map CVal.int }

/-- `realEnv` with the TTL fallback as a parameter: both settings of the switch `KskmGen.dnsTtlFallback` -/
def envWith (fe : String → Bool) (fb : Option CVal) : Env :=
  { tbl := KskmGen.configSchema, algNames := KskmGen.algorithmDNSSEC, fileExists := fe, kskTtlFallback := fb }

theorem fromDict_validated (env : Env) (c loaded : CVal) (h : fromDict env c = .ok loaded) :
    ∃ kvs, transformConfig env.kskTtlFallback c = .ok kvs ∧
      validate env validateFuel false (.model "KSKMConfig") (.map kvs) = .ok (some loaded) ∧
      positivityChecks loaded = .ok () := by
  unfold fromDict at h
  obtain ⟨kvs, ht, h⟩ := Res.bind_ok h
  obtain ⟨o, hv, h⟩ := Res.bind_ok h
  cases o with
  | none => cases h
  | some l =>
    obtain ⟨_, hp, h⟩ := Res.bind_ok h
    cases h
    exact ⟨kvs, ht, hv, hp⟩

/-- every default of the regenerated table — of an option, and of a whole section — is an instance of the
    type it is the default of: one evaluation over the table.  Depth 3 is that of the deepest default, the
    `ksk_policy` section: an object, whose `signature_policy` is an object of durations. -/
theorem defaults_inst (fe : String → Bool) : DefaultsOk (realEnv fe) :=
  defaultsOk_of_defaultsB _ 3 (by show defaultsB KskmGen.configSchema 3 = true; decide +kernel)

/-- **a loaded configuration is an instance of the schema**, defaulted sections and options included -/
theorem loaded_inst {fe : String → Bool} {c loaded : CVal} (h : fromDict (realEnv fe) c = .ok loaded) :
    Inst (realEnv fe) (.model "KSKMConfig") loaded :=
  let ⟨_, _, hv, _⟩ := fromDict_validated _ c loaded h
  validate_sound (defaults_inst fe) hv

theorem policy_sections :
    schemaFieldTy KskmGen.configSchema "KSKMConfig" "request_policy" = some (.model "RequestPolicy") ∧
    schemaFieldTy KskmGen.configSchema "KSKMConfig" "ksk_policy" = some (.model "KSKPolicy") ∧
    schemaFieldTy KskmGen.configSchema "KSKMConfig" "response_policy" = some (.model "ResponsePolicy") := by
  decide +kernel

/-- `section.option` of a loaded configuration is an instance of the type the table gives the option -/
theorem section_option {fe : String → Bool} {c loaded sv v : CVal} {sect model fname : String} {ty : STy}
    (h : fromDict (realEnv fe) c = .ok loaded)
    (hsty : schemaFieldTy KskmGen.configSchema "KSKMConfig" sect = some (.model model))
    (hfty : schemaFieldTy KskmGen.configSchema model fname = some ty)
    (hg1 : loaded.get? sect = some sv) (hg2 : sv.get? fname = some v) : Inst (realEnv fe) ty v :=
  ((loaded_inst h).get hsty hg1).get hfty hg2

/-- `keys.<name>.<option>` of a loaded configuration is an instance of the type the table gives the option -/
theorem key_option {fe : String → Bool} {c loaded kname key v : CVal} {keys : List (CVal × CVal)} {fname : String}
    {ty : STy} (h : fromDict (realEnv fe) c = .ok loaded)
    (hfty : schemaFieldTy KskmGen.configSchema "KSKKey" fname = some ty)
    (hg : loaded.get? "ksk_keys" = some (.map keys)) (hk : (kname, key) ∈ keys) (hg2 : key.get? fname = some v) :
    Inst (realEnv fe) ty v :=
  (((loaded_inst h).get (by decide +kernel :
    schemaFieldTy KskmGen.configSchema "KSKMConfig" "ksk_keys" = some (.mapOf false (.model "KSKKey"))) hg).entry hk).get hfty hg2

/-- the row of the table for `model.option`, as far as the validator looks at it: the model's mode; the option's
    type, before- and after-validator, and its default seen through `d` (value trees have no decidable equality) -/
def rowOf {β : Type} (tbl : List ObjSchema) (model fname : String) (d : CVal → β) :
    Option (Bool × STy × Bool × Bool × Option β) := do
  let s ← findSchema tbl model
  let f ← s.field? fname
  pure (s.strict, f.ty, f.strToList, f.naiveIsUtc, f.default.map d)

theorem rowOf_some {β : Type} {tbl : List ObjSchema} {model fname : String} {d : CVal → β} {s : ObjSchema} {f : Field}
    {st sl nu : Bool} {ty : STy} {df : Option β} (h : rowOf tbl model fname d = some (st, ty, sl, nu, df))
    (hs : findSchema tbl model = some s) (hf : s.field? fname = some f) :
    s.strict = st ∧ f.ty = ty ∧ f.strToList = sl ∧ f.naiveIsUtc = nu ∧ f.default.map d = df := by
  simpa [rowOf, hs, hf] using h

/-- the `ksk_keys` option of the top-level model as regenerated: a map of key definitions, no field
    validators, empty by default -/
theorem kskKeys_row : rowOf KskmGen.configSchema "KSKMConfig" "ksk_keys" (·.getMap?.map List.isEmpty) =
    some (false, .mapOf false (.model "KSKKey"), false, false, some (some true)) := by decide +kernel

/-- Where the value of an option of a loaded key definition comes from, traced back to the configured
    tree (after `_transform_config`): the key definition of the same name, and for each option either
    its default (the option is absent) or the validated form of what was configured. -/
theorem key_option_traced (fe : String → Bool) (c loaded ks kname key : CVal) (keys : List (CVal × CVal))
    (h : fromDict (realEnv fe) c = .ok loaded)
    (hg : loaded.get? "ksk_keys" = some ks) (hks : ks = .map keys) (hk : (kname, key) ∈ keys) :
    ∃ kvs ksIn keyIn, transformConfig (realEnv fe).kskTtlFallback c = .ok kvs ∧
      CVal.lookupStr kvs "ksk_keys" = some (.map ksIn) ∧ (kname, .map keyIn) ∈ ksIn ∧
      ∀ fname v, key.get? fname = some v →
        ∃ s f, findSchema KskmGen.configSchema "KSKKey" = some s ∧ s.field? fname = some f ∧ f.name = fname ∧
          FieldLoaded (validate (realEnv fe) 5) s keyIn f v := by
  obtain ⟨kvs, ht, hv, _⟩ := fromDict_validated _ c loaded h
  obtain ⟨s, f, _, hs, hf, hn, hkv, hor⟩ := validate_model_get hv hg
  cases hkv
  obtain ⟨_, hty, hsl, hnu, hd0⟩ := rowOf_some kskKeys_row hs hf
  unfold FieldLoaded at hor
  rw [hn] at hor
  rcases hor with ⟨_, hd⟩ | ⟨x, y, hl, hy, hky⟩
  · -- the whole `keys` section defaulted: it is empty
    rw [hd, hks] at hd0
    simp only [Option.map_some, CVal.getMap?, Option.some.injEq, List.isEmpty_iff] at hd0
    subst hd0
    cases hk
  · simp only [applyStrToList, applyNaiveIsUtc, hsl, hnu, Bool.false_eq_true, if_false] at hy hky
    rw [hty, ← hky, hks] at hy
    obtain ⟨ksIn, _, rfl, hkv, hval⟩ := validate_mapOf_mem hy hk
    obtain ⟨_, keyIn, _, _, rfl, _⟩ := validate_model_inv hval
    refine ⟨kvs, ksIn, keyIn, ht, hl, hkv, fun fname v hgv => ?_⟩
    obtain ⟨s2, f2, _, hs2, hf2, hn2, hkv2, hor2⟩ := validate_model_get hval hgv
    cases hkv2
    exact ⟨s2, f2, hs2, hf2, hn2, hor2⟩

/-- the characters `^[\w_]+$`, `^[\w\.]+$`, `^[0-9a-fA-F]+$` admit (ASCII; a non-ASCII character
    makes the model decline, so an accepted string here is pure ASCII) -/
def IsKeyName (s : String) : Prop := s.toList ≠ [] ∧ ∀ ch ∈ s.toList, isAsciiWord ch = true
def IsDomainName (s : String) : Prop := s.toList ≠ [] ∧ ∀ ch ∈ s.toList, (isAsciiWord ch || ch == '.') = true
def IsHexDigest (s : String) : Prop := s.toList ≠ [] ∧ ∀ ch ∈ s.toList, isHexDigit ch = true

/-- what `^[C]+$` means: non-empty and every character in the class -/
theorem matchClassPlus_true (cls : Char → Bool) (uo : Bool) (s : List Char)
    (h : matchClassPlus cls uo s = .ok true) : s ≠ [] ∧ ∀ c ∈ s, isAscii c = true ∧ cls c = true := by
  unfold matchClassPlus at h
  split at h
  · simp [pure, Except.pure] at h
  · rename_i hne
    split at h
    · simp [pure, Except.pure] at h
    · rename_i hcls
      split at h
      · split at h <;> simp [pure, Except.pure, unsupported] at h
      · rename_i hasc
        refine ⟨by intro he; subst he; simp at hne, ?_⟩
        intro c hc
        have h1 : isAscii c = true := by
          cases ha : isAscii c with
          | true => rfl
          | false => exact absurd (List.any_eq_true.mpr ⟨c, hc, by simp [ha]⟩) hasc
        have h2 : cls c = true := by
          cases hcl : cls c with
          | true => rfl
          | false => exact absurd (List.any_eq_true.mpr ⟨c, hc, by simp [h1, hcl]⟩) hcls
        exact ⟨h1, h2⟩

theorem matchPattern_keyName (s : String) (h : matchPattern patKeyName s = .ok true) : IsKeyName s :=
  (matchClassPlus_true isAsciiWord true s.toList (by simpa [matchPattern, patKeyName, patDomain, patHex] using h)).imp
    id fun h2 ch hch => (h2 ch hch).2

theorem matchPattern_domain (s : String) (h : matchPattern patDomain s = .ok true) : IsDomainName s :=
  (matchClassPlus_true (fun c => isAsciiWord c || c == '.') true s.toList
    (by simpa [matchPattern, patKeyName, patDomain, patHex] using h)).imp id fun h2 ch hch => (h2 ch hch).2

theorem matchPattern_hex (s : String) (h : matchPattern patHex s = .ok true) : IsHexDigest s :=
  (matchClassPlus_true isHexDigit false s.toList (by simpa [matchPattern, patKeyName, patDomain, patHex] using h)).imp
    id fun h2 ch hch => (h2 ch hch).2

/-- The documented reading of a configured validity ("ISO8601 timestamp"; a timestamp without a zone
    designator is UTC, as for KSR / SKR timestamps), written from the property text.  `x` is what the
    file holds (YAML gives a timestamp, a bare date, or — quoted — a string), `v` what is loaded:
    * a timestamp WITH a zone designator (`Z`, `+00:00`, `+02:00` …): that instant, zone kept — unchanged;
    * a timestamp WITHOUT one: the same wall-clock time in UTC (`us` reads a naive value as UTC);
    * a bare date: midnight UTC of that day;
    * an ISO 8601 text (as far as the model parses it): the same, with or without designator;
    * an empty `valid_until`: stays empty.
    Other spellings (numbers = Unix time, …) are not spoken about here. -/
def LoadedAs (x v : CVal) : Prop :=
  match x with
  | .ts us (some off) => v = .ts us (some off)
  | .ts us none => v = .ts us (some 0)
  | .date d => v = .ts (d * usPerDay) (some 0)
  | .str s => ∀ us off, parseCleanInt s.toList = none → pydDatetime s = .ok (some (us, off)) →
      v = .ts us (some (off.getD 0))
  | .null => v = .null
  | _ => True

/-- one validity option, traced (`valid_from`: `alts = []`, required; `valid_until`: `alts = [.null]`, empty by
    default): the loaded value is aware (or the empty `valid_until`) and is the documented reading of the
    configured one (or the option is absent and the loaded `valid_until` empty) -/
theorem validity_option (fe : String → Bool) {fname : String} (alts : List Scalar)
    {keyIn : List (CVal × CVal)} {v : CVal}
    (hrow : rowOf KskmGen.configSchema "KSKKey" fname CVal.isNull =
      some (false, .scalar (.datetime :: alts), false, true, if alts = [] then none else some true))
    (halts : alts = [] ∨ alts = [.null])
    (hl : ∃ s f, findSchema KskmGen.configSchema "KSKKey" = some s ∧ s.field? fname = some f ∧ f.name = fname ∧
      FieldLoaded (validate (realEnv fe) 5) s keyIn f v) :
    ((alts = [.null] ∧ v = .null) ∨ ∃ us off, v = .ts us (some off)) ∧
    ((alts = [.null] ∧ CVal.lookupStr keyIn fname = none ∧ v = .null) ∨
      ∃ x, CVal.lookupStr keyIn fname = some x ∧ LoadedAs x v) := by
  obtain ⟨s, f, hs, hf, hn, hl⟩ := hl
  obtain ⟨hstrict, hfty, hsl, hnu, hdef⟩ := rowOf_some hrow hs hf
  unfold FieldLoaded at hl
  rw [hn] at hl
  rcases hl with ⟨hnone, hd⟩ | ⟨x, y, hlx, hy, hv⟩
  · -- absent: only `valid_until` has a default, and it is empty
    rw [hd] at hdef
    rcases halts with rfl | rfl
    · cases hdef
    · have hvn : v = .null := by cases v <;> simp [CVal.isNull] at hdef ⊢
      exact ⟨Or.inl ⟨rfl, hvn⟩, Or.inl ⟨rfl, hnone, hvn⟩⟩
  simp only [applyStrToList, hsl, Bool.false_eq_true, if_false, hfty, hstrict] at hy
  simp only [applyNaiveIsUtc, hnu, if_true] at hv
  refine ⟨?_, Or.inr ⟨x, hlx, ?_⟩⟩
  · -- never naive: the validated value is of the field's type, and the validator made it aware
    obtain ⟨a, ha, hok⟩ := (validate_sound (defaults_inst fe) hy).alts
    have hcase : (∃ u o, y = .ts u o) ∨ (alts = [.null] ∧ y = .null) := by
      rcases List.mem_cons.mp ha with rfl | ha
      · exact Or.inl hok
      · rcases halts with rfl | rfl
        · cases ha
        · cases List.mem_singleton.mp ha
          exact Or.inr ⟨rfl, hok⟩
    rcases hcase with ⟨u, o, rfl⟩ | ⟨ha, rfl⟩
    · right
      cases o with
      | none => exact ⟨u, 0, hv⟩
      | some o => exact ⟨u, o, hv⟩
    · left; exact ⟨ha, hv⟩
  · -- and it is the configured one
    cases x with
    | ts us off =>
      rw [validate_datetime_ts] at hy
      injection hy with hy; injection hy with hy; subst hy
      cases off <;> exact hv
    | date d =>
      rw [validate_datetime_date _ 4 d halts] at hy
      injection hy with hy; injection hy with hy; subst hy
      exact hv
    | null =>
      rcases halts with rfl | rfl
      · simp [validate, valUnion, firstSome, valScalar, pure, Except.pure, bind, Except.bind] at hy
      · rw [validate_datetime_null] at hy
        injection hy with hy; injection hy with hy; subst hy
        exact hv
    | str t =>
      intro us off hci hpd
      have hyv : y = .ts us off := by
        rcases halts with rfl | rfl <;>
          simp [validate, valUnion, firstSome, valScalar, pure, Except.pure, bind, Except.bind, hci, hpd] at hy <;>
          exact hy.symm
      subst hyv
      cases off <;> exact hv
    | _ => trivial

end Kskm.C16
