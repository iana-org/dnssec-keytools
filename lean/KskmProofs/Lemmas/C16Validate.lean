/-
  Helper lemmas for C16: the specification predicate `HasUnknownOption`; what a successful validation consists
  of, per schema type (a model's result is one entry per declared option, in table order: `Rows`, each
  `FieldLoaded` from the input) — read forwards it refuses unknown options, read backwards it traces a loaded
  option to the configured one; and what `_transform_config` leaves untouched (through `Returns P q`: every
  value the step `q` can return satisfies `P`).
-/
import Kskm.Config
import KskmProofs.Lemmas.Res
namespace Kskm.C16
open Kskm Kskm.Config

/-- Somewhere the schema expects an options object, the tree has a key that object does not
    declare.  Written from the property text ("unknown sections or options, anywhere but the
    free-form HSM environment map"): there is deliberately no rule that descends into `anyMap`. -/
inductive HasUnknownOption (tbl : List ObjSchema) : STy → CVal → Prop
  /-- the object itself has an undeclared (or non-string) key -/
  | here {name : String} {s : ObjSchema} {kvs : List (CVal × CVal)} {k x : CVal} :
      findSchema tbl name = some s → (k, x) ∈ kvs → (∀ f ∈ s.fields, k ≠ .str f.name) →
      HasUnknownOption tbl (.model name) (.map kvs)
  /-- … or the value of one of its declared options has one -/
  | field {name : String} {s : ObjSchema} {kvs : List (CVal × CVal)} {f : Field} {x : CVal} :
      findSchema tbl name = some s → f ∈ s.fields → CVal.lookupStr kvs f.name = some x →
      HasUnknownOption tbl f.ty (applyStrToList f x) →
      HasUnknownOption tbl (.model name) (.map kvs)
  | item {item : STy} {xs : List CVal} {x : CVal} :
      x ∈ xs → HasUnknownOption tbl item x → HasUnknownOption tbl (.list item) (.list xs)
  | entry {ik : Bool} {val : STy} {kvs : List (CVal × CVal)} {kv : CVal × CVal} :
      kv ∈ kvs → HasUnknownOption tbl val kv.2 → HasUnknownOption tbl (.mapOf ik val) (.map kvs)

def Returns {α : Type} (P : α → Prop) (q : Res α) : Prop := ∀ a, q = .ok a → P a

section
variable {α β : Type} {P : α → Prop}

theorem Returns.ok {q : Res α} {a : α} (h : Returns P q) (hq : q = .ok a) : P a := h a hq

theorem returns_pure {a : α} : Returns P (pure a) ↔ P a := by
  simp [Returns, pure, Except.pure]

theorem returns_error {e : Fail} : Returns P (.error e) := fun _ h => nomatch h

theorem returns_ite {c : Prop} [Decidable c] {a b : Res α} :
    Returns P (if c then a else b) ↔ (c → Returns P a) ∧ (¬c → Returns P b) := by
  split <;> simp [*]

theorem returns_bind {q : Res β} {g : β → Res α} : Returns P (q >>= g) ↔ ∀ b, q = .ok b → Returns P (g b) := by
  simp only [Returns, Res.bind_ok_iff, forall_exists_index, and_imp]
  exact ⟨fun h b hb a => h a b hb, fun h a b hb => h b hb a⟩
end

theorem sequenceV_ok_iff {α : Type} (l : List (Res (Option α))) (r : List α) :
    sequenceV l = .ok (some r) ↔ l = r.map fun a => .ok (some a) := by
  induction l generalizing r with
  | nil => cases r <;> simp [sequenceV, pure, Except.pure]
  | cons y ys ih =>
    constructor
    · intro h
      obtain ⟨a, rfl, h1⟩ := Res.bind_ok h
      obtain ⟨o, hs, h2⟩ := Res.bind_ok h1
      clear h h1
      cases a <;> cases o <;> cases h2
      rw [(ih _).mp hs]; rfl
    · intro h
      cases r with
      | nil => cases h
      | cons b r' =>
        obtain ⟨rfl, rfl⟩ := List.cons.inj h
        unfold sequenceV
        rw [(ih r').mpr rfl]
        rfl

theorem map_eq_map_mem {α β γ : Type} {f : α → γ} {g : β → γ} {l : List α} {out : List β}
    (h : l.map f = out.map g) :
    (∀ x ∈ l, ∃ a ∈ out, g a = f x) ∧ (∀ a ∈ out, ∃ x ∈ l, f x = g a) :=
  ⟨fun _ hx => List.mem_map.mp (h ▸ List.mem_map_of_mem hx),
   fun _ ha => List.mem_map.mp (h ▸ List.mem_map_of_mem ha)⟩

theorem findSchema_mem {tbl : List ObjSchema} {name : String} {s : ObjSchema}
    (h : findSchema tbl name = some s) : s ∈ tbl := by
  unfold findSchema at h
  exact List.mem_of_find?_eq_some h

theorem isExtraKey_of_undeclared (s : ObjSchema) (k : CVal)
    (h : ∀ f ∈ s.fields, k ≠ .str f.name) : isExtraKey s k = true := by
  cases k with
  | str name =>
    simp only [isExtraKey, ObjSchema.fieldNames, Bool.not_eq_true', List.contains_eq_mem,
      decide_eq_false_iff_not, List.mem_map, not_exists, not_and]
    intro f hf heq
    exact h f hf (by rw [heq])
  | _ => rfl

theorem valEntry_ok {ik : Bool} {rec : CVal → Res (Option CVal)} {kv a : CVal × CVal}
    (h : valEntry ik rec kv = .ok (some a)) :
    valKey ik kv.1 = .ok (some a.1) ∧ rec kv.2 = .ok (some a.2) := by
  obtain ⟨ko, hk, h⟩ := Res.bind_ok h
  obtain ⟨xo, hr, h⟩ := Res.bind_ok h
  cases ko <;> cases xo <;> cases h
  exact ⟨hk, hr⟩

/-- one entry per declared option, in the order of the table, each related to its option by `R` -/
inductive Rows (R : Field → CVal → Prop) : List Field → List (CVal × CVal) → Prop
  | nil : Rows R [] []
  | cons {f : Field} {v : CVal} {fs : List Field} {out : List (CVal × CVal)} :
      R f v → Rows R fs out → Rows R (f :: fs) ((.str f.name, v) :: out)

/-- reading an option by name finds the FIRST entry of that name, which belongs to the first option of that
    name: no assumption that names are distinct is needed -/
theorem Rows.lookup {R : Field → CVal → Prop} {fname : String} {v : CVal} :
    ∀ {fs : List Field} {out : List (CVal × CVal)}, Rows R fs out → CVal.lookupStr out fname = some v →
      ∃ f, fs.find? (fun g => g.name == fname) = some f ∧ R f v
  | _, _, .cons (f := f) hi hr, hg => by
    simp only [CVal.lookupStr] at hg
    split at hg
    · rename_i heq
      cases hg
      exact ⟨f, by simp [List.find?, heq], hi⟩
    · rename_i hne
      obtain ⟨g, hg', hi'⟩ := hr.lookup hg
      exact ⟨g, by simp [List.find?, beq_eq_false_iff_ne.mpr hne, hg'], hi'⟩

theorem Rows.of_mem {R : Field → CVal → Prop} {f : Field} :
    ∀ {fs : List Field} {out : List (CVal × CVal)}, Rows R fs out → f ∈ fs → ∃ v, R f v
  | _, _, .cons hi hr, hf => by
    rcases List.mem_cons.mp hf with rfl | hf
    · exact ⟨_, hi⟩
    · exact hr.of_mem hf

theorem Rows.imp_mem {R S : Field → CVal → Prop} :
    ∀ {fs : List Field} {out : List (CVal × CVal)}, (∀ f ∈ fs, ∀ v, R f v → S f v) → Rows R fs out → Rows S fs out
  | _, _, _, .nil => .nil
  | _, _, h, .cons hi hr => .cons (h _ List.mem_cons_self _ hi) (hr.imp_mem fun f hf => h f (List.mem_cons_of_mem _ hf))

/-- the results of a successful `sequenceV` over the options, as rows -/
theorem rows_of_map {R : Field → CVal → Prop} {g : Field → Res (Option (CVal × CVal))}
    (hg : ∀ f a, g f = .ok (some a) → a.1 = .str f.name ∧ R f a.2) :
    ∀ (fs : List Field) (out : List (CVal × CVal)), fs.map g = out.map (fun a => .ok (some a)) → Rows R fs out
  | [], [], _ => .nil
  | f :: fs, (k, v) :: out, h => by
    obtain ⟨hfa, hrest⟩ := List.cons.inj h
    obtain ⟨rfl, hr⟩ := hg f _ hfa
    exact .cons hr (rows_of_map hg fs out hrest)

/-- where the loaded value `v` of option `f` comes from: the option is absent and `v` is its default (NOT
    validated), or it is present and `v` is its value after the before-validator, the field type in the
    model's mode and the after-validator -/
def FieldLoaded (rec : Bool → STy → CVal → Res (Option CVal)) (s : ObjSchema) (kvs : List (CVal × CVal))
    (f : Field) (v : CVal) : Prop :=
  (CVal.lookupStr kvs f.name = none ∧ f.default = some v) ∨
  ∃ x y, CVal.lookupStr kvs f.name = some x ∧ rec s.strict f.ty (applyStrToList f x) = .ok (some y) ∧
    v = applyNaiveIsUtc f y

theorem valField_ok (rec : Bool → STy → CVal → Res (Option CVal)) (s : ObjSchema) (kvs : List (CVal × CVal))
    (f : Field) (a : CVal × CVal) (h : valField rec s kvs f = .ok (some a)) :
    a.1 = .str f.name ∧ FieldLoaded rec s kvs f a.2 := by
  unfold valField valFieldValue at h
  unfold FieldLoaded
  cases hl : CVal.lookupStr kvs f.name with
  | none =>
    simp only [hl, pure, Except.pure, Except.ok.injEq] at h
    split at h
    · simp at h
    · cases hd : f.default with
      | none => simp [hd] at h
      | some d => simp [hd] at h; subst h; exact ⟨rfl, Or.inl ⟨rfl, rfl⟩⟩
  | some x =>
    simp only [hl] at h
    obtain ⟨o, h1, h⟩ := Res.bind_ok h
    obtain ⟨y, hr, h1⟩ := Res.bind_ok h1
    cases y <;> cases h1 <;> cases h
    exact ⟨rfl, Or.inr ⟨x, _, rfl, hr, rfl⟩⟩

theorem validate_ok_fuel {env : Env} {fuel : Nat} {strict : Bool} {ty : STy} {v r : CVal}
    (h : validate env fuel strict ty v = .ok (some r)) : ∃ n, fuel = n + 1 := by
  cases fuel with
  | zero => cases h
  | succ n => exact ⟨n, rfl⟩

theorem validate_model_inv {env : Env} {n : Nat} {strict : Bool} {name : String} {v0 loaded : CVal}
    (h : validate env (n + 1) strict (.model name) v0 = .ok (some loaded)) :
    ∃ s kvs out, findSchema env.tbl name = some s ∧ v0 = .map kvs ∧ loaded = .map out ∧
      hasExtras s kvs = false ∧ Rows (FieldLoaded (validate env n) s kvs) s.fields out := by
  unfold validate at h
  simp only at h
  split at h
  · cases h
  · rename_i s hs
    cases v0 with
    | map kvs =>
      obtain ⟨o, hq, ho⟩ := Res.bind_ok h
      cases hx : hasExtras s kvs <;> cases o <;> simp [hx, pure, Except.pure] at ho
      exact ⟨s, kvs, _, hs, rfl, ho.symm, hx, rows_of_map (valField_ok _ s kvs) _ _ ((sequenceV_ok_iff _ _).mp hq)⟩
    | _ => cases h

theorem validate_list_inv {env : Env} {n : Nat} {strict : Bool} {item : STy} {v0 r : CVal}
    (h : validate env (n + 1) strict (.list item) v0 = .ok (some r)) :
    ∃ xs out, v0 = .list xs ∧ r = .list out ∧
      xs.map (validate env n strict item) = out.map fun a => .ok (some a) := by
  unfold validate at h
  cases v0 with
  | list xs =>
    obtain ⟨o, hq, ho⟩ := Res.bind_ok h
    cases o <;> simp [pure, Except.pure] at ho
    exact ⟨xs, _, rfl, ho.symm, (sequenceV_ok_iff _ _).mp hq⟩
  | _ => cases h

theorem validate_mapOf_inv {env : Env} {n : Nat} {strict ik : Bool} {val : STy} {v0 r : CVal}
    (h : validate env (n + 1) strict (.mapOf ik val) v0 = .ok (some r)) :
    ∃ kvs out, v0 = .map kvs ∧ r = .map out ∧
      kvs.map (valEntry ik (validate env n strict val)) = out.map fun a => .ok (some a) := by
  unfold validate at h
  cases v0 with
  | map kvs =>
    obtain ⟨o, hq, ho⟩ := Res.bind_ok h
    cases o with
    | none => cases ho
    | some out =>
      simp only at ho
      split at ho
      · cases ho
      · cases ho
        exact ⟨kvs, out, rfl, rfl, (sequenceV_ok_iff _ _).mp hq⟩
  | _ => cases h

theorem validate_model_get {env : Env} {n : Nat} {strict : Bool} {name fname : String} {v0 loaded v : CVal}
    (h : validate env (n + 1) strict (.model name) v0 = .ok (some loaded)) (hg : loaded.get? fname = some v) :
    ∃ s f kvs, findSchema env.tbl name = some s ∧ s.field? fname = some f ∧ f.name = fname ∧ v0 = .map kvs ∧
      FieldLoaded (validate env n) s kvs f v := by
  obtain ⟨s, kvs, out, hs, rfl, rfl, _, hrows⟩ := validate_model_inv h
  obtain ⟨f, hf, hl⟩ := hrows.lookup hg
  exact ⟨s, f, kvs, hs, hf, by simpa using List.find?_some hf, rfl, hl⟩

theorem valKey_str {k k' : CVal} (h : valKey false k = .ok (some k')) : k' = k := by
  simp only [valKey, Bool.false_eq_true, if_false, pure, Except.pure, Except.ok.injEq] at h
  split at h <;> cases h
  rfl

theorem validate_mapOf_mem {env : Env} {n : Nat} {strict : Bool} {val : STy} {v0 k y : CVal} {out : List (CVal × CVal)}
    (h : validate env (n + 1) strict (.mapOf false val) v0 = .ok (some (.map out))) (hm : (k, y) ∈ out) :
    ∃ kvs x, v0 = .map kvs ∧ (k, x) ∈ kvs ∧ validate env n strict val x = .ok (some y) := by
  obtain ⟨kvs, _, rfl, hout, hmap⟩ := validate_mapOf_inv h
  cases hout
  obtain ⟨kv, hkv, hx⟩ := (map_eq_map_mem hmap).2 _ hm
  obtain ⟨hk, hv⟩ := valEntry_ok hx
  cases valKey_str hk
  exact ⟨kvs, kv.2, rfl, hkv, hv⟩

/-- a `datetime` field given a `datetime`: accepted as it is, in either mode, whatever other
    alternatives the field has -/
theorem validate_datetime_ts (env : Env) (n : Nat) (strict : Bool) (alts : List Scalar) (us : Int) (off : Option Int) :
    validate env (n + 1) strict (.scalar (.datetime :: alts)) (.ts us off) = .ok (some (.ts us off)) := by
  simp [validate, valUnion, firstSome, valScalar, pure, Except.pure, bind, Except.bind]

/-- … given a bare date (lax mode): midnight of that day, without time zone -/
theorem validate_datetime_date (env : Env) (n : Nat) (d : Int) {alts : List Scalar} (halts : alts = [] ∨ alts = [.null]) :
    validate env (n + 1) false (.scalar (.datetime :: alts)) (.date d) = .ok (some (.ts (d * usPerDay) none)) := by
  rcases halts with rfl | rfl <;> simp [validate, valUnion, firstSome, valScalar, pure, Except.pure, bind, Except.bind]

theorem validate_datetime_null (env : Env) (n : Nat) (strict : Bool) :
    validate env (n + 1) strict (.scalar [.datetime, .null]) .null = .ok (some .null) := by
  cases strict <;> simp [validate, valUnion, firstSome, valScalar, pure, Except.pure, bind, Except.bind]

/-- **No configuration comes out of a tree with an unknown option** — for every fuel, mode and
    schema table all of whose objects are closed. -/
theorem unknown_not_validated (env : Env) {ty : STy} {v : CVal}
    (hclosed : ∀ s ∈ env.tbl, s.additionalProperties = false)
    (hu : HasUnknownOption env.tbl ty v) :
    ∀ fuel strict r, validate env fuel strict ty v ≠ .ok (some r) := by
  induction hu with
  | @here name s kvs k x hs hk hund =>
    intro fuel strict r h
    obtain ⟨n, rfl⟩ := validate_ok_fuel h
    obtain ⟨s', _, _, hs', hv, _, hex, _⟩ := validate_model_inv h
    cases hv; cases hs.symm.trans hs'
    have hap := hclosed s (findSchema_mem hs)
    have : hasExtras s kvs = true := by
      unfold hasExtras
      rw [List.any_eq_true]
      exact ⟨(k, x), hk, by simp [hap, isExtraKey_of_undeclared s k hund]⟩
    rw [this] at hex; cases hex
  | @field name s kvs f x hs hf hl _ ih =>
    intro fuel strict r h
    obtain ⟨n, rfl⟩ := validate_ok_fuel h
    obtain ⟨s', _, _, hs', hv, _, _, hrows⟩ := validate_model_inv h
    cases hv; cases hs.symm.trans hs'
    obtain ⟨_, ⟨hn, _⟩ | ⟨_, y, hl', hy, _⟩⟩ := hrows.of_mem hf
    · cases hl.symm.trans hn
    · cases hl.symm.trans hl'
      exact ih n s.strict y hy
  | @item item xs x hx _ ih =>
    intro fuel strict r h
    obtain ⟨n, rfl⟩ := validate_ok_fuel h
    obtain ⟨_, _, hv, _, hmap⟩ := validate_list_inv h
    cases hv
    obtain ⟨a, _, ha⟩ := (map_eq_map_mem hmap).1 x hx
    exact ih n strict a ha.symm
  | @entry ik val kvs kv hkv _ ih =>
    intro fuel strict r h
    obtain ⟨n, rfl⟩ := validate_ok_fuel h
    obtain ⟨_, _, hv, _, hmap⟩ := validate_mapOf_inv h
    cases hv
    obtain ⟨a, _, ha⟩ := (map_eq_map_mem hmap).1 kv hkv
    exact ih n strict a.2 (valEntry_ok ha.symm).2

/-- from the (decidable) list of declared option names of a model to "this key is undeclared" -/
theorem undeclared_of_fieldNames (tbl : List ObjSchema) (name : String) (names : List String) (k : String)
    (h : (findSchema tbl name).map (·.fieldNames) = some names) (hk : k ∉ names) :
    ∃ s, findSchema tbl name = some s ∧ ∀ f ∈ s.fields, CVal.str k ≠ .str f.name := by
  cases hs : findSchema tbl name with
  | none => simp [hs] at h
  | some s =>
    refine ⟨s, rfl, ?_⟩
    intro f hf heq
    simp only [hs, Option.map_some, Option.some.injEq] at h
    injection heq with heq
    apply hk
    rw [← h, heq]
    exact List.mem_map.mpr ⟨f, hf, rfl⟩

theorem mem_setKey_ne {l : List (CVal × CVal)} {k n : String} {x : CVal} (v : CVal)
    (h : (CVal.str k, x) ∈ l) (hne : k ≠ n) : (CVal.str k, x) ∈ setKey l n v := by
  induction l with
  | nil => cases h
  | cons p r ih =>
    obtain ⟨pk, px⟩ := p
    unfold setKey
    rcases List.mem_cons.mp h with heq | hr
    · injection heq with h1 h2
      subst h1 h2
      simp [hne]
    · cases pk with
      | str s =>
        simp only
        split
        · exact List.mem_cons_of_mem _ hr
        · exact List.mem_cons_of_mem _ (ih hr)
      | _ => exact List.mem_cons_of_mem _ (ih hr)

theorem mem_delKey_ne {l : List (CVal × CVal)} {k n : String} {x : CVal}
    (h : (CVal.str k, x) ∈ l) (hne : k ≠ n) : (CVal.str k, x) ∈ delKey l n := by
  unfold delKey
  rw [List.mem_filter]
  refine ⟨h, ?_⟩
  simp [isStrKey, hne]

theorem transformKskPolicy_keeps {kvs : List (CVal × CVal)} {k : String} {x : CVal}
    (hk : (CVal.str k, x) ∈ kvs) (hne : k ≠ "ksk_policy") :
    Returns (fun out => (CVal.str k, x) ∈ out) (transformKskPolicy kvs) := by
  have hs := fun v => mem_setKey_ne v hk hne
  unfold transformKskPolicy
  cases CVal.lookupStr kvs "ksk_policy" with
  | none => exact returns_pure.2 hk
  | some kp =>
    cases kp <;>
      simp only [returns_pure, returns_error, returns_ite, returns_bind, err, hk, hs, implies_true, and_self]

theorem transformDnsTtl_keeps {fb : Option CVal} {kvs : List (CVal × CVal)} {k : String} {x : CVal}
    (hk : (CVal.str k, x) ∈ kvs) (hne : k ≠ "request_policy") :
    Returns (fun out => (CVal.str k, x) ∈ out) (transformDnsTtl fb kvs) := by
  have hs := fun v => mem_setKey_ne v hk hne
  unfold transformDnsTtl
  cases CVal.lookupStr kvs "ksk_policy" <;> cases CVal.lookupStr kvs "request_policy" <;>
    simp only [returns_pure, hk]
  rename_i kp rp
  cases rp <;> simp only [returns_pure, returns_error, returns_ite, err, hk, implies_true, and_self]
  rename_i rpk
  cases CVal.lookupStr rpk "dns_ttl" <;> simp only [returns_pure, returns_bind, returns_ite, hk, implies_true, true_and]
  intro _ _ _
  cases kp <;> simp only [returns_error]
  rename_i kpk
  cases (CVal.lookupStr kpk "ttl").or fb <;> simp only [returns_error, returns_pure, hs]

theorem mapDurations_ok (l out : List (CVal × CVal)) (h : mapDurations l = .ok out) :
    ∀ kv ∈ l, ∃ d, durationToTimedelta kv.2 = .ok d := by
  induction l generalizing out with
  | nil => intro kv hkv; cases hkv
  | cons p r ih =>
    obtain ⟨k, v⟩ := p
    unfold mapDurations at h
    obtain ⟨d, hd, h⟩ := Res.bind_ok h
    obtain ⟨r', hr, _⟩ := Res.bind_ok h
    intro kv hkv
    rcases List.mem_cons.mp hkv with rfl | hkv'
    · exact ⟨d, hd⟩
    · exact ih r' hr kv hkv'

/-- `_transform_config` keeps every key it does not name -/
theorem transform_keeps_other_keys (fb : Option CVal) (kvs kvs' : List (CVal × CVal)) (k : String) (x : CVal)
    (ht : transformConfig fb (.map kvs) = .ok kvs') (hk : (CVal.str k, x) ∈ kvs)
    (hne : k ≠ "ksk_policy" ∧ k ≠ "keys" ∧ k ≠ "request_policy" ∧ k ≠ "ksk_keys") :
    (CVal.str k, x) ∈ kvs' := by
  obtain ⟨h1, h2, h3, h4⟩ := hne
  obtain ⟨k1, hp, ht⟩ := Res.bind_ok (x := transformKskPolicy kvs) ht
  have m1 := (transformKskPolicy_keeps hk h1).ok hp
  refine (transformDnsTtl_keeps ?_ h3).ok ht
  unfold transformKeys
  split
  · exact m1
  · exact mem_setKey_ne _ (mem_delKey_ne m1 h2) h4

end Kskm.C16
