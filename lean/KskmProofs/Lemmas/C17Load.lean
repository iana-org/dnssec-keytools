/- Helper lemmas for C17: `load_ksr` and `load_skr` are one file access (`loadCore`) followed by a step that sees
   only the buffer read (`postOf`: parse, validate, keep a violation or demote it); what C17 says about the access
   is proved once, about `loadCore`. -/
import Kskm.FileEffects
import KskmProofs.Lemmas.Res
namespace Kskm.C17

variable {α β : Type}

/-- What both loaders do with the file: open, the size gate on `fstat`, then ONE read of at most
    `maxSize` octets and the log line with the digest of that buffer; `post` is what the loader then
    makes of the buffer. -/
def loadCore (what : String) (maxSize : Nat) (hash : Bytes → Bytes) (post : Bytes → Res β)
    (path : String) (content : Nat → Bytes) (t0 : Nat) : Res β × List FileEffect :=
  let size := (content (t0 + 1)).length
  if size > maxSize then
    (err .runtime, [.openRead path t0, .fstat path (t0 + 1) size, .close path])
  else
    let buf := (content (t0 + 2)).take maxSize
    (post buf, [.openRead path t0, .fstat path (t0 + 1) size, .read path (t0 + 2) buf, .close path,
                .logDigest what path (hash buf)])

/-- what both loaders make of the buffer: parse, validate; a policy violation of the validator is kept
    (`load_ksr(raise_original=True)`) or becomes `RuntimeError` -/
def postOf (parse : Bytes → Res β) (validate : β → Res Unit) (keep : Bool) (buf : Bytes) : Res β :=
  match parse buf with
  | .error e => .error e
  | .ok x =>
    match validate x with
    | .ok () => .ok x
    | .error (.violation r) => if keep then violation r else err .runtime
    | .error e => .error e

theorem postOf_ok {parse : Bytes → Res β} {validate : β → Res Unit} {keep : Bool} {buf : Bytes} {x : β}
    (h : postOf parse validate keep buf = .ok x) : parse buf = .ok x ∧ validate x = .ok () := by
  unfold postOf at h
  cases hp : parse buf with
  | error e => simp [hp] at h
  | ok y =>
    simp only [hp] at h
    cases hv : validate y with
    | ok u => cases u; simp only [hv, Except.ok.injEq] at h; subst h; exact ⟨rfl, hv⟩
    | error f => cases f <;> cases keep <;> simp [hv, violation, err] at h

theorem postOf_no_violation {parse : Bytes → Res β} {validate : β → Res Unit} {buf : Bytes}
    (hparse : ∀ r, parse buf ≠ .error (.violation r)) (r : Rule) :
    postOf parse validate false buf ≠ .error (.violation r) := by
  unfold postOf
  cases hp : parse buf with
  | error e => exact fun h => hparse r (hp.trans h)
  | ok y =>
    dsimp only
    cases validate y with
    | ok u => simp
    | error f => cases f <;> simp [err]

theorem requestFromXmlFile_ok {hash : Bytes → Bytes} {parse : Bytes → Res α} {path : String} {buf : Bytes}
    {request : LoadedRequest α} (h : requestFromXmlFile hash parse path buf = .ok request) :
    parse buf = .ok request.body ∧ request.xmlHash = some (hash buf) ∧ request.xmlFilename = path := by
  unfold requestFromXmlFile at h
  obtain ⟨body, hp, h⟩ := Res.bind_ok h
  cases h
  exact ⟨hp, rfl, rfl⟩

theorem loadKsr_eq (maxSize : Nat) (hash : Bytes → Bytes) (parse : Bytes → Res α)
    (validate : α → Res Unit) (ro : Bool) (path : String) (content : Nat → Bytes) (t0 : Nat) :
    loadKsr maxSize hash parse validate ro path content t0 =
      loadCore "Loaded KSR from file" maxSize hash
        (postOf (requestFromXmlFile hash parse path) (fun r => validate r.body) ro) path content t0 := by
  unfold loadKsr loadCore postOf
  by_cases hs : (content (t0 + 1)).length > maxSize
  · simp only [hs, if_true]
  · simp only [hs, if_false]
    cases requestFromXmlFile hash parse path ((content (t0 + 2)).take maxSize) with
    | error e => rfl
    | ok request =>
      dsimp only
      cases validate request.body with
      | ok u => rfl
      | error f => cases f <;> rfl

theorem loadSkr_eq (maxSize : Nat) (hash : Bytes → Bytes) (parse : Bytes → Res α)
    (validate : α → Res Unit) (path : String) (content : Nat → Bytes) (t0 : Nat) :
    loadSkr maxSize hash parse validate path content t0 =
      loadCore "Loaded SKR from file" maxSize hash (postOf parse validate false) path content t0 := by
  unfold loadSkr loadCore postOf
  by_cases hs : (content (t0 + 1)).length > maxSize
  · simp only [hs, if_true]
  · simp only [hs, if_false]
    cases parse ((content (t0 + 2)).take maxSize) with
    | error e => rfl
    | ok response =>
      dsimp only
      cases validate response with
      | ok u => rfl
      | error f => cases f <;> rfl

theorem loadSkr_no_violation (maxSize : Nat) (hash : Bytes → Bytes) (parse : Bytes → Res α)
    (validate : α → Res Unit) (path : String) (content : Nat → Bytes) (t0 : Nat)
    (hparse : ∀ b r, parse b ≠ .error (.violation r)) (r : Rule) :
    (loadSkr maxSize hash parse validate path content t0).1 ≠ .error (.violation r) := by
  rw [loadSkr_eq]
  unfold loadCore
  dsimp only
  split
  · simp [err]
  · exact postOf_no_violation (hparse _) r
end Kskm.C17
