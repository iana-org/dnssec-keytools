/-
  The published PGP word list (Juola & Zimmermann, "PGPfone" word list; the even column holds the
  two-syllable words, the odd column the three-syllable words), kept in the proof tree as the REFERENCE
  the regenerated table `KskmGen.WORDS` is compared with (`C17.words_standard`).

  This copy is a transcription of the published table
  (https://philzimmermann.com/docs/PGP_word_list.pdf; rows 00 `aardvark adroitness` … FF `Zulu Yucatan`); that it
  agrees with /repo is `C17.words_standard`.  It is NOT regenerated: harness/corr_C17.py also parses this file and uses it as the independent
  table of its own even/odd rendering.  The structural facts of the published list are proved about
  this copy below:

    * 256 rows;
    * even column strictly increasing in case-insensitive lexicographic order;
    * odd column strictly increasing in case-insensitive lexicographic order EXCEPT at rows 09/0A,
      where the published list has `applicant` before `Apollo` (the one published inversion);
      with those two rows exchanged the column is strictly increasing;
    * every word is 4…11 ASCII letters (so no word contains the separator used on the display line);
    * neither column repeats a word and no word occurs in both columns.

  This file does not import the generated tables; `C17.words_standard` carries every
  fact over to the regenerated table.
-/
namespace Kskm.C17Reference

def pgpWordListReference : List (String × String) := [
  ("aardvark", "adroitness"),
  ("absurd", "adviser"),
  ("accrue", "aftermath"),
  ("acme", "aggregate"),
  ("adrift", "alkali"),
  ("adult", "almighty"),
  ("afflict", "amulet"),
  ("ahead", "amusement"),
  ("aimless", "antenna"),
  ("Algol", "applicant"),
  ("allow", "Apollo"),
  ("alone", "armistice"),
  ("ammo", "article"),
  ("ancient", "asteroid"),
  ("apple", "Atlantic"),
  ("artist", "atmosphere"),
  ("assume", "autopsy"),
  ("Athens", "Babylon"),
  ("atlas", "backwater"),
  ("Aztec", "barbecue"),
  ("baboon", "belowground"),
  ("backfield", "bifocals"),
  ("backward", "bodyguard"),
  ("banjo", "bookseller"),
  ("beaming", "borderline"),
  ("bedlamp", "bottomless"),
  ("beehive", "Bradbury"),
  ("beeswax", "bravado"),
  ("befriend", "Brazilian"),
  ("Belfast", "breakaway"),
  ("berserk", "Burlington"),
  ("billiard", "businessman"),
  ("bison", "butterfat"),
  ("blackjack", "Camelot"),
  ("blockade", "candidate"),
  ("blowtorch", "cannonball"),
  ("bluebird", "Capricorn"),
  ("bombast", "caravan"),
  ("bookshelf", "caretaker"),
  ("brackish", "celebrate"),
  ("breadline", "cellulose"),
  ("breakup", "certify"),
  ("brickyard", "chambermaid"),
  ("briefcase", "Cherokee"),
  ("Burbank", "Chicago"),
  ("button", "clergyman"),
  ("buzzard", "coherence"),
  ("cement", "combustion"),
  ("chairlift", "commando"),
  ("chatter", "company"),
  ("checkup", "component"),
  ("chisel", "concurrent"),
  ("choking", "confidence"),
  ("chopper", "conformist"),
  ("Christmas", "congregate"),
  ("clamshell", "consensus"),
  ("classic", "consulting"),
  ("classroom", "corporate"),
  ("cleanup", "corrosion"),
  ("clockwork", "councilman"),
  ("cobra", "crossover"),
  ("commence", "crucifix"),
  ("concert", "cumbersome"),
  ("cowbell", "customer"),
  ("crackdown", "Dakota"),
  ("cranky", "decadence"),
  ("crowfoot", "December"),
  ("crucial", "decimal"),
  ("crumpled", "designing"),
  ("crusade", "detector"),
  ("cubic", "detergent"),
  ("dashboard", "determine"),
  ("deadbolt", "dictator"),
  ("deckhand", "dinosaur"),
  ("dogsled", "direction"),
  ("dragnet", "disable"),
  ("drainage", "disbelief"),
  ("dreadful", "disruptive"),
  ("drifter", "distortion"),
  ("dropper", "document"),
  ("drumbeat", "embezzle"),
  ("drunken", "enchanting"),
  ("Dupont", "enrollment"),
  ("dwelling", "enterprise"),
  ("eating", "equation"),
  ("edict", "equipment"),
  ("egghead", "escapade"),
  ("eightball", "Eskimo"),
  ("endorse", "everyday"),
  ("endow", "examine"),
  ("enlist", "existence"),
  ("erase", "exodus"),
  ("escape", "fascinate"),
  ("exceed", "filament"),
  ("eyeglass", "finicky"),
  ("eyetooth", "forever"),
  ("facial", "fortitude"),
  ("fallout", "frequency"),
  ("flagpole", "gadgetry"),
  ("flatfoot", "Galveston"),
  ("flytrap", "getaway"),
  ("fracture", "glossary"),
  ("framework", "gossamer"),
  ("freedom", "graduate"),
  ("frighten", "gravity"),
  ("gazelle", "guitarist"),
  ("Geiger", "hamburger"),
  ("glitter", "Hamilton"),
  ("glucose", "handiwork"),
  ("goggles", "hazardous"),
  ("goldfish", "headwaters"),
  ("gremlin", "hemisphere"),
  ("guidance", "hesitate"),
  ("hamlet", "hideaway"),
  ("highchair", "holiness"),
  ("hockey", "hurricane"),
  ("indoors", "hydraulic"),
  ("indulge", "impartial"),
  ("inverse", "impetus"),
  ("involve", "inception"),
  ("island", "indigo"),
  ("jawbone", "inertia"),
  ("keyboard", "infancy"),
  ("kickoff", "inferno"),
  ("kiwi", "informant"),
  ("klaxon", "insincere"),
  ("locale", "insurgent"),
  ("lockup", "integrate"),
  ("merit", "intention"),
  ("minnow", "inventive"),
  ("miser", "Istanbul"),
  ("Mohawk", "Jamaica"),
  ("mural", "Jupiter"),
  ("music", "leprosy"),
  ("necklace", "letterhead"),
  ("Neptune", "liberty"),
  ("newborn", "maritime"),
  ("nightbird", "matchmaker"),
  ("Oakland", "maverick"),
  ("obtuse", "Medusa"),
  ("offload", "megaton"),
  ("optic", "microscope"),
  ("orca", "microwave"),
  ("payday", "midsummer"),
  ("peachy", "millionaire"),
  ("pheasant", "miracle"),
  ("physique", "misnomer"),
  ("playhouse", "molasses"),
  ("Pluto", "molecule"),
  ("preclude", "Montana"),
  ("prefer", "monument"),
  ("preshrunk", "mosquito"),
  ("printer", "narrative"),
  ("prowler", "nebula"),
  ("pupil", "newsletter"),
  ("puppy", "Norwegian"),
  ("python", "October"),
  ("quadrant", "Ohio"),
  ("quiver", "onlooker"),
  ("quota", "opulent"),
  ("ragtime", "Orlando"),
  ("ratchet", "outfielder"),
  ("rebirth", "Pacific"),
  ("reform", "pandemic"),
  ("regain", "Pandora"),
  ("reindeer", "paperweight"),
  ("rematch", "paragon"),
  ("repay", "paragraph"),
  ("retouch", "paramount"),
  ("revenge", "passenger"),
  ("reward", "pedigree"),
  ("rhythm", "Pegasus"),
  ("ribcage", "penetrate"),
  ("ringbolt", "perceptive"),
  ("robust", "performance"),
  ("rocker", "pharmacy"),
  ("ruffled", "phonetic"),
  ("sailboat", "photograph"),
  ("sawdust", "pioneer"),
  ("scallion", "pocketful"),
  ("scenic", "politeness"),
  ("scorecard", "positive"),
  ("Scotland", "potato"),
  ("seabird", "processor"),
  ("select", "provincial"),
  ("sentence", "proximate"),
  ("shadow", "puberty"),
  ("shamrock", "publisher"),
  ("showgirl", "pyramid"),
  ("skullcap", "quantity"),
  ("skydive", "racketeer"),
  ("slingshot", "rebellion"),
  ("slowdown", "recipe"),
  ("snapline", "recover"),
  ("snapshot", "repellent"),
  ("snowcap", "replica"),
  ("snowslide", "reproduce"),
  ("solo", "resistor"),
  ("southward", "responsive"),
  ("soybean", "retraction"),
  ("spaniel", "retrieval"),
  ("spearhead", "retrospect"),
  ("spellbind", "revenue"),
  ("spheroid", "revival"),
  ("spigot", "revolver"),
  ("spindle", "sandalwood"),
  ("spyglass", "sardonic"),
  ("stagehand", "Saturday"),
  ("stagnate", "savagery"),
  ("stairway", "scavenger"),
  ("standard", "sensation"),
  ("stapler", "sociable"),
  ("steamship", "souvenir"),
  ("sterling", "specialist"),
  ("stockman", "speculate"),
  ("stopwatch", "stethoscope"),
  ("stormy", "stupendous"),
  ("sugar", "supportive"),
  ("surmount", "surrender"),
  ("suspense", "suspicious"),
  ("sweatband", "sympathy"),
  ("swelter", "tambourine"),
  ("tactics", "telephone"),
  ("talon", "therapist"),
  ("tapeworm", "tobacco"),
  ("tempest", "tolerance"),
  ("tiger", "tomorrow"),
  ("tissue", "torpedo"),
  ("tonic", "tradition"),
  ("topmost", "travesty"),
  ("tracker", "trombonist"),
  ("transit", "truncated"),
  ("trauma", "typewriter"),
  ("treadmill", "ultimate"),
  ("Trojan", "undaunted"),
  ("trouble", "underfoot"),
  ("tumor", "unicorn"),
  ("tunnel", "unify"),
  ("tycoon", "universe"),
  ("uncut", "unravel"),
  ("unearth", "upcoming"),
  ("unwind", "vacancy"),
  ("uproot", "vagabond"),
  ("upset", "vertigo"),
  ("upshot", "Virginia"),
  ("vapor", "visitor"),
  ("village", "vocalist"),
  ("virus", "voyager"),
  ("Vulcan", "warranty"),
  ("waffle", "Waterloo"),
  ("wallet", "whimsical"),
  ("watchword", "Wichita"),
  ("wayside", "Wilmington"),
  ("willow", "Wyoming"),
  ("woodlark", "yesteryear"),
  ("Zulu", "Yucatan")
]

/-- The UTF-8 octets of a word.  The facts below are stated on octets: the words are ASCII letters
    (`wordOk` checks it), so their octets are their letters, and the kernel reads the octets of a
    literal about ten times faster than it decodes its characters. -/
def wordBytes (s : String) : List UInt8 := s.toUTF8.data.toList

theorem wordBytes_eq (s : String) : wordBytes s = s.toList.flatMap String.utf8EncodeChar := by
  rw [wordBytes, String.toUTF8, ← String.ofList_toList (s := s), String.toByteArray_ofList, String.toList_ofList,
    List.utf8Encode, List.data_toByteArray]

/-- ASCII case folding of one octet -/
def lowerByte (b : UInt8) : Nat := if 65 ≤ b.toNat ∧ b.toNat ≤ 90 then b.toNat + 32 else b.toNat

/-- strict lexicographic order on octet lists after case folding; a proper prefix is smaller -/
def ciLtBytes : List UInt8 → List UInt8 → Bool
  | [], [] => false
  | [], _ :: _ => true
  | _ :: _, [] => false
  | a :: as, b :: bs =>
    if lowerByte a < lowerByte b then true
    else if lowerByte b < lowerByte a then false
    else ciLtBytes as bs

def ciLt (a b : String) : Bool := ciLtBytes (wordBytes a) (wordBytes b)

theorem ciLtBytes_cons (x y : UInt8) (a b : List UInt8) : ciLtBytes (x :: a) (y :: b) = true ↔
    lowerByte x < lowerByte y ∨ (lowerByte x = lowerByte y ∧ ciLtBytes a b = true) := by
  simp only [ciLtBytes]
  split
  · simp [*]
  · split
    · simp only [Bool.false_eq_true, false_iff]; omega
    · simp only [*, false_or, iff_and_self]; omega

theorem ciLtBytes_irrefl : ∀ a, ciLtBytes a a = false
  | [] => rfl
  | c :: r => by simp [ciLtBytes, ciLtBytes_irrefl r]

theorem ciLtBytes_trans : ∀ {a b c}, ciLtBytes a b = true → ciLtBytes b c = true → ciLtBytes a c = true
  | [], _ :: _, _ :: _, _, _ => rfl
  | _ :: _, _ :: _, [], _, h => by simp [ciLtBytes] at h
  | x :: a, y :: b, z :: c, h1, h2 => by
    rw [ciLtBytes_cons] at h1 h2 ⊢
    rcases h1 with h1 | ⟨e1, h1⟩ <;> rcases h2 with h2 | ⟨e2, h2⟩
    · exact .inl (by omega)
    · exact .inl (by omega)
    · exact .inl (by omega)
    · exact .inr ⟨by omega, ciLtBytes_trans h1 h2⟩

/-- every adjacent pair is in the strict order `lt` -/
def strictSorted {α} (lt : α → α → Bool) : List α → Bool
  | a :: b :: r => lt a b && strictSorted lt (b :: r)
  | _ => true

theorem strictSorted_pairwise {α} {lt : α → α → Bool}
    (trans : ∀ {a b c}, lt a b = true → lt b c = true → lt a c = true) :
    ∀ {l : List α}, strictSorted lt l = true → l.Pairwise fun a b => lt a b = true
  | [], _ => .nil
  | [_], _ => List.pairwise_singleton _ _
  | a :: b :: r, h => by
    simp only [strictSorted, Bool.and_eq_true] at h
    have ih := strictSorted_pairwise (lt := lt) trans h.2
    refine List.pairwise_cons.mpr ⟨fun x hx => ?_, ih⟩
    rcases List.mem_cons.mp hx with rfl | hx
    · exact h.1
    · exact trans h.1 ((List.pairwise_cons.mp ih).1 x hx)

/-- merge of two lists by `lt` (`n` bounds the number of steps) -/
def mergeBy {α} (lt : α → α → Bool) : Nat → List α → List α → List α
  | n + 1, a :: as, b :: bs =>
    if lt a b then a :: mergeBy lt n as (b :: bs) else b :: mergeBy lt n (a :: as) bs
  | _, as, bs => as ++ bs

theorem mergeBy_perm {α} (lt : α → α → Bool) : ∀ n as bs, (mergeBy lt n as bs).Perm (as ++ bs)
  | 0, _, _ => by simp [mergeBy]
  | _ + 1, [], _ => by simp [mergeBy]
  | _ + 1, _ :: _, [] => by simp [mergeBy]
  | n + 1, a :: as, b :: bs => by
    simp only [mergeBy]
    split
    · exact (mergeBy_perm lt n as (b :: bs)).cons a
    · exact ((mergeBy_perm lt n (a :: as) bs).cons b).trans List.perm_middle.symm

/-- exchange the elements at positions `n` and `n + 1` -/
def swapAt {α} : Nat → List α → List α
  | 0, a :: b :: r => b :: a :: r
  | n + 1, a :: r => a :: swapAt n r
  | _, l => l

theorem swapAt_perm {α} : ∀ n (l : List α), (swapAt n l).Perm l
  | 0, [] | 0, [_] | _ + 1, [] => .refl _
  | 0, a :: b :: r => .swap a b r
  | n + 1, a :: r => (swapAt_perm n r).cons a

/-- the words of a column in strictly increasing case-insensitive order -/
def ciStrictSorted (l : List String) : Bool := strictSorted ciLtBytes (l.map wordBytes)

/-- two columns that merge into one strictly increasing list have no word in common, and neither repeats one -/
theorem nodup_append_of_merge_sorted {e o : List String} {n : Nat}
    (h : strictSorted ciLtBytes (mergeBy ciLtBytes n (e.map wordBytes) (o.map wordBytes)) = true) :
    (e ++ o).Nodup := by
  have h := strictSorted_pairwise (lt := ciLtBytes) ciLtBytes_trans h
  have h : List.Nodup _ := h.imp fun hab e => by rw [e, ciLtBytes_irrefl] at hab; cases hab
  have h := (mergeBy_perm ..).nodup_iff.mp h
  rw [← List.map_append] at h
  exact List.Pairwise.of_map wordBytes (fun _ _ hab e => hab (congrArg _ e)) h

def refEven : List String := pgpWordListReference.map (·.1)
def refOdd : List String := pgpWordListReference.map (·.2)

/-- `a`…`z` or `A`…`Z` -/
def isAsciiLetter (b : UInt8) : Bool := (97 ≤ b.toNat ∧ b.toNat ≤ 122) ∨ (65 ≤ b.toNat ∧ b.toNat ≤ 90)
def wordOk (w : String) : Bool :=
  (wordBytes w).all isAsciiLetter && 4 ≤ (wordBytes w).length && (wordBytes w).length ≤ 11

/-- a word of ASCII letters is not empty and has no blank in it -/
theorem wordOk_chars {w : String} (h : wordOk w = true) : w.toList ≠ [] ∧ ' ' ∉ w.toList := by
  simp only [wordOk, wordBytes_eq, Bool.and_eq_true, decide_eq_true_eq, List.all_eq_true] at h
  refine ⟨fun he => ?_, fun hsp => ?_⟩
  · rw [he] at h; simp at h
  · exact absurd (h.1.1 32 (List.mem_flatMap.mpr ⟨' ', hsp, by decide⟩)) (by decide)

/-- Every structural fact of the published list in ONE kernel evaluation: decoding a string literal into its
octets is what costs, and within one evaluation the kernel's cache shares most of that work between the conjuncts
(stated apart they take more than twice as long to check).
The last conjunct (the two columns merge into one strictly increasing list) gives, by the transitivity of the
order, that no word is repeated within a column or shared between them. -/
theorem reference_checked :
    ciStrictSorted refEven = true ∧ ciStrictSorted refOdd = false ∧ ciStrictSorted (swapAt 9 refOdd) = true ∧
    refEven.all wordOk = true ∧ refOdd.all wordOk = true ∧
    strictSorted ciLtBytes (mergeBy ciLtBytes 512 (refEven.map wordBytes) ((swapAt 9 refOdd).map wordBytes)) = true := by
  decide +kernel

/-- the one inversion of the odd column as published: `applicant` (row 09) before `Apollo` (row 0A) -/
theorem reference_odd_inversion :
    refOdd[9]? = some "applicant" ∧ refOdd[10]? = some "Apollo" ∧ ciLt "Apollo" "applicant" = true := by
  decide +kernel

theorem reference_shape :
    pgpWordListReference.length = 256 ∧ refEven.Nodup ∧ refOdd.Nodup ∧ ∀ w ∈ refEven, w ∉ refOdd := by
  obtain ⟨he, ho, hd⟩ := List.nodup_append.mp (nodup_append_of_merge_sorted reference_checked.2.2.2.2.2)
  have hp := swapAt_perm 9 refOdd
  exact ⟨by decide +kernel, he, hp.nodup_iff.mp ho, fun w hw hwo => hd w hw w (hp.mem_iff.mpr hwo) rfl⟩

end Kskm.C17Reference
