/-
  C18, "the exported document is well-formed XML and means the tree": the tie between the model's
  document (`TrustAnchorDoc.toXmlDoc`, a `String`), the element tree `docTree ta` (Lemmas/C18Render.lean) and
  the grammar-level specification reader `XmlSpec.stdRead` (lean/Kskm/XmlSpec.lean).

    * GENERATED values (key tag, algorithm, digest type, hex digest, validFrom / validUntil) consist of
      characters that need no escaping anywhere — unconditionally: they lie in the alphabet the codecs print
      (`Printed`, Lemmas/PrintedChars.lean), the hex digest in `0`…`9`, `A`…`F` (`gen_*`);
    * `good_docTree`: with clean free text the tree is `GoodT`, so `stdRead_render_ws` applies.
-/
import KskmProofs.Lemmas.C18Render
import KskmProofs.Lemmas.C18XmlSpec
import KskmProofs.Lemmas.PrintedChars
namespace Kskm.C18
open Kskm.XmlSpec

theorem xmlDeclLine_toList : xmlDeclLine.toList = declChars ++ ['\n'] := by
  rw [xmlDeclLine, String.toList_ofList]; rfl

/-- free text written into an attribute: usable as it is -/
def AttrClean (v : String) : Prop := ∀ c ∈ v.toList, attrCharOk c = true
/-- free text written as element content: usable as it is, and not empty -/
def TextClean (s : String) : Prop := s.toList ≠ [] ∧ ∀ c ∈ s.toList, textCharOk c = true

/-- the characters generators produce: `*`…`f` without `<` and `>` (digits, `+ - : T`, hex letters) -/
def genChar (c : Char) : Bool :=
  decide (42 ≤ c.toNat) && decide (c.toNat ≤ 102) && decide (c.toNat ≠ 60) && decide (c.toNat ≠ 62)

def Gen (l : List Char) : Prop := ∀ c ∈ l, genChar c = true

theorem genChar_ok {c : Char} (h : genChar c = true) : attrCharOk c = true ∧ textCharOk c = true := by
  simp only [genChar, Bool.and_eq_true, decide_eq_true_eq] at h
  obtain ⟨⟨⟨h1, h2⟩, h3⟩, h4⟩ := h
  have ne : ∀ d : Char, (d.toNat < 42 ∨ d.toNat = 60 ∨ d.toNat = 62) → c ≠ d := by
    intro d hd e; subst e; omega
  have hx : isXmlChar c = true := by
    simp only [isXmlChar, Bool.or_eq_true, Bool.and_eq_true, decide_eq_true_eq]
    exact Or.inl (Or.inl (Or.inr ⟨by omega, by omega⟩))
  simp only [attrCharOk, textCharOk, Bool.and_eq_true, bne_iff_ne, ne_eq, hx, and_true]
  refine ⟨?_, ?_⟩ <;> (repeat' apply And.intro) <;> (apply ne; decide)

theorem Gen.attr {l : List Char} (h : Gen l) : ∀ c ∈ l, attrCharOk c = true := fun c hc => (genChar_ok (h c hc)).1
theorem Gen.text {l : List Char} (h : Gen l) : ∀ c ∈ l, textCharOk c = true := fun c hc => (genChar_ok (h c hc)).2

theorem Gen.append {a b : List Char} (ha : Gen a) (hb : Gen b) : Gen (a ++ b) :=
  List.forall_mem_append.mpr ⟨ha, hb⟩

/-- every text the codecs print consists of such characters -/
theorem _root_.Kskm.Printed.gen {l : List Char} (h : Printed l) : Gen l := h.all (by decide)

theorem gen_natRepr (n : Nat) : Gen (toString n).toList := by
  show Gen (String.ofList (Nat.toDigits 10 n)).toList
  rw [String.toList_ofList]; exact (printed_toDigits n).gen

theorem gen_intRepr (i : Int) : Gen (toString i).toList := by
  cases i with
  | ofNat m => exact gen_natRepr m
  | negSucc m =>
    show Gen ("-" ++ String.ofList (Nat.toDigits 10 (m + 1))).toList
    rw [String.toList_append, String.toList_ofList, String.toList_ofList]
    exact (Printed.cons (by decide) (printed_toDigits _)).gen

theorem natRepr_ne_nil (n : Nat) : (toString n).toList ≠ [] := by
  show (String.ofList (Nat.toDigits 10 n)).toList ≠ []
  rw [String.toList_ofList]; exact Nat.toDigits_ne_nil

theorem intRepr_ne_nil (i : Int) : (toString i).toList ≠ [] := by
  cases i with
  | ofNat m => exact natRepr_ne_nil m
  | negSucc m =>
    show ("-" ++ String.ofList (Nat.toDigits 10 (m + 1))).toList ≠ []
    rw [String.toList_append]
    intro h
    have := congrArg List.length h
    simp at this

theorem gen_upperHex (b : Bytes) : Gen (upperHex b).toList := by
  have hd : ∀ k : Fin 16, genChar (if k.val < 10 then Char.ofNat (48 + k.val) else Char.ofNat (55 + k.val)) = true := by
    decide
  simp only [upperHex, String.toList_ofList]
  intro c hc
  simp only [List.mem_flatMap, List.mem_cons, List.not_mem_nil, or_false] at hc
  obtain ⟨x, _, hc | hc⟩ := hc
  · rw [hc]; exact hd ⟨x.toNat / 16, by have := x.toNat_lt; omega⟩
  · rw [hc]; exact hd ⟨x.toNat % 16, by omega⟩

theorem upperHex_ne_nil (b : Bytes) (h : b ≠ []) : (upperHex b).toList ≠ [] := by
  cases b with
  | nil => exact absurd rfl h
  | cons x r => simp [upperHex]

/-- **validFrom / validUntil are always safe**: whatever the instant -/
theorem gen_formatDatetime (t : Int) : Gen (formatDatetime t).toList := by
  rw [formatDatetime, String.toList_ofList]
  exact (printed_formatDatetimeChars t).gen

theorem goodT_text {s : List Char} (hne : s ≠ []) (hs : ∀ c ∈ s, textCharOk c = true) : GoodT (.text s) := by
  rw [GoodT]; exact ⟨hne, hs⟩

theorem goodL_nil (b : Bool) : GoodL b [] := by rw [GoodL]; trivial

theorem goodL_cons_text {s : List Char} {rest : List XmlTree} (hs : GoodT (.text s)) (hr : GoodL true rest) :
    GoodL false (.text s :: rest) := by
  rw [GoodL]; exact ⟨hs, fun h => (Bool.false_ne_true h).elim, hr⟩

theorem goodL_cons_elem {b : Bool} {n : List Char} {a : Attrs} {cs rest : List XmlTree} (he : GoodT (.elem n a cs))
    (hr : GoodL false rest) : GoodL b (.elem n a cs :: rest) := by
  rw [GoodL]; exact ⟨he, fun _ => rfl, hr⟩

theorem good_leaf (n s : List Char) (hn : nameOk n = true) (hne : s ≠ [])
    (hs : ∀ c ∈ s, textCharOk c = true) : GoodT (.elem n [] [.text s]) := by
  rw [GoodT]
  exact ⟨hn, ⟨fun _ h => absurd h List.not_mem_nil, List.nodup_nil⟩, goodL_cons_text (goodT_text hne hs) (goodL_nil _)⟩

theorem nl_text : GoodT (.text ['\n']) := goodT_text (by decide) (by decide)

theorem nl_toList : "\n".toList = ['\n'] := String.toList_ofList

/-- a name written as a literal is checked on its characters (a literal is `String.ofList` of them; reading
    them off a `String` is the expensive step for the kernel) -/
theorem nameOk_lit {l : List Char} (h : nameOk l = true) : nameOk (String.ofList l).toList = true := by
  rwa [String.toList_ofList]

theorem nm_id : nameOk "id".toList = true := nameOk_lit (by decide)
theorem nm_vf : nameOk "validFrom".toList = true := nameOk_lit (by decide)

theorem good_digestTree (d : KeyDigest) (h : AttrClean d.id ∧ d.digest ≠ []) : GoodT (digestTree d).toSpec := by
  obtain ⟨hid, hdg⟩ := h
  have h1 := good_leaf "KeyTag".toList (toString d.keyTag).toList (nameOk_lit (by decide)) (intRepr_ne_nil _) (gen_intRepr _).text
  have h2 := good_leaf "Algorithm".toList (toString d.algorithm).toList (nameOk_lit (by decide)) (natRepr_ne_nil _) (gen_natRepr _).text
  have h3 := good_leaf "DigestType".toList (toString d.digestType).toList (nameOk_lit (by decide)) (natRepr_ne_nil _) (gen_natRepr _).text
  have h4 := good_leaf "Digest".toList (upperHex d.digest).toList (nameOk_lit (by decide)) (upperHex_ne_nil _ hdg) (gen_upperHex _).text
  have hvf := (gen_formatDatetime d.validFrom).attr
  unfold digestTree
  simp only [Xml.toSpec, leafLine, List.cons_append, List.nil_append, Xml.toSpecL, List.map_nil, nl_toList]
  rw [GoodT]
  refine ⟨nameOk_lit (by decide), ?_, ?_⟩
  · rw [attrsOk]
    cases hu : d.validUntil with
    | none =>
      simp only [List.map_cons, List.map_nil, List.forall_mem_cons]
      exact ⟨⟨⟨nm_id, hid⟩, ⟨nm_vf, hvf⟩, List.forall_mem_nil _⟩, by rw [String.toList_ofList, String.toList_ofList]; decide⟩
    | some u =>
      simp only [List.map_cons, List.map_nil, List.forall_mem_cons]
      exact ⟨⟨⟨nm_id, hid⟩, ⟨nm_vf, hvf⟩, ⟨nameOk_lit (by decide), (gen_formatDatetime u).attr⟩, List.forall_mem_nil _⟩,
        by rw [String.toList_ofList, String.toList_ofList, String.toList_ofList]; decide⟩
  · apply goodL_cons_text nl_text
    apply goodL_cons_elem h1
    apply goodL_cons_text nl_text
    apply goodL_cons_elem h2
    apply goodL_cons_text nl_text
    apply goodL_cons_elem h3
    apply goodL_cons_text nl_text
    apply goodL_cons_elem h4
    apply goodL_cons_text nl_text
    exact goodL_nil _

theorem good_entryNodes (l : List KeyDigest) (h : ∀ d ∈ l, AttrClean d.id ∧ d.digest ≠ []) : GoodL true (Xml.toSpecL (entryNodes l)) := by
  induction l with
  | nil => simp only [entryNodes, Xml.toSpecL]; exact goodL_nil _
  | cons d r ih =>
    have hd := good_digestTree d (h d (by simp))
    have hr := ih (fun x hx => h x (by simp [hx]))
    simp only [entryNodes, Xml.toSpecL]
    unfold digestTree at hd ⊢
    simp only [Xml.toSpec, nl_toList] at hd ⊢
    exact goodL_cons_elem hd (goodL_cons_text nl_text hr)

theorem docTree_toSpec (ta : TrustAnchorDoc) :
    (docTree ta).toSpec = .elem "TrustAnchor".toList [("id".toList, ta.id.toList), ("source".toList, ta.source.toList)]
      (Xml.toSpecL ([.text "\n"] ++ leafLine "Zone" ta.zone ++ entryNodes (sortDigests ta.keyDigests))) := by
  simp [docTree, Xml.toSpec]

/-- with clean free text (identifier, source, zone, labels) and non-empty digests, the document tree is good -/
theorem good_docTree (ta : TrustAnchorDoc) (hid : AttrClean ta.id) (hsrc : AttrClean ta.source)
    (hzone : TextClean ta.zone) (hent : ∀ d ∈ ta.keyDigests, AttrClean d.id ∧ d.digest ≠ []) :
    GoodT (docTree ta).toSpec := by
  have hz := good_leaf "Zone".toList ta.zone.toList (nameOk_lit (by decide)) hzone.1 hzone.2
  have he := good_entryNodes (sortDigests ta.keyDigests)
    (fun d hd => hent d ((List.mergeSort_perm ta.keyDigests _).mem_iff.mp hd))
  rw [docTree_toSpec, GoodT, attrsOk]
  simp only [List.map_cons, List.map_nil, List.forall_mem_cons]
  refine ⟨nameOk_lit (by decide), ⟨⟨⟨nm_id, hid⟩, ⟨nameOk_lit (by decide), hsrc⟩, List.forall_mem_nil _⟩, ?_⟩, ?_⟩
  · rw [String.toList_ofList, String.toList_ofList]; decide
  · simp only [leafLine, List.cons_append, List.nil_append, Xml.toSpecL, Xml.toSpec, List.map_nil, nl_toList]
    exact goodL_cons_text nl_text (goodL_cons_elem hz (goodL_cons_text nl_text he))

end Kskm.C18
