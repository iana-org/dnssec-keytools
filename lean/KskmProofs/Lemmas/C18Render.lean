/-
  The trust-anchor document as the plain serialisation of an element tree (C18, rendering theorem).
  `Xml` / `render` are the SPECIFICATION side (a generic element tree and its textbook serialisation);
  `Xml.toSpec` is the tree in the vocabulary of lean/Kskm/XmlSpec.lean (strings as character lists) and
  `render_toList` says `render` is that file's `renderS`; `toXmlDoc_eq_render` ties the model's string building
  (`KeyDigest.toXml`, `TrustAnchorDoc.toXml`) to it, by comparing the two texts as character lists.
-/
import Kskm.TrustAnchor
import Kskm.XmlSpec
import KskmProofs.Lemmas.Literals
namespace Kskm.C18
open Kskm.XmlSpec

inductive Xml where
  | text (s : String)
  | node (name : String) (attrs : List (String × String)) (children : List Xml)

def renderAttrs : List (String × String) → String
  | [] => ""
  | (k, v) :: r => " " ++ k ++ "=\"" ++ v ++ "\"" ++ renderAttrs r

mutual
/-- the plain serialisation: `<name a="v" …>children</name>`; text as it is -/
def Xml.render : Xml → String
  | .text s => s
  | .node n as cs => "<" ++ n ++ renderAttrs as ++ ">" ++ Xml.renderList cs ++ "</" ++ n ++ ">"
def Xml.renderList : List Xml → String
  | [] => ""
  | c :: cs => c.render ++ Xml.renderList cs
end

/-- `<name>text</name>` followed by a line break -/
def leafLine (name text : String) : List Xml := [.node name [] [.text text], .text "\n"]

def digestTree (d : KeyDigest) : Xml :=
  .node "KeyDigest"
    ([("id", d.id), ("validFrom", formatDatetime d.validFrom)] ++
      (match d.validUntil with
       | some u => [("validUntil", formatDatetime u)]
       | none => []))
    ([.text "\n"] ++ leafLine "KeyTag" (toString d.keyTag) ++ leafLine "Algorithm" (toString d.algorithm)
      ++ leafLine "DigestType" (toString d.digestType) ++ leafLine "Digest" (upperHex d.digest))

def entryNodes : List KeyDigest → List Xml
  | [] => []
  | d :: r => digestTree d :: .text "\n" :: entryNodes r

def docTree (ta : TrustAnchorDoc) : Xml :=
  .node "TrustAnchor" [("id", ta.id), ("source", ta.source)]
    ([.text "\n"] ++ leafLine "Zone" ta.zone ++ entryNodes (sortDigests ta.keyDigests))

/-- attribute values that need no escaping -/
def AttrSafe (v : String) : Prop := ∀ c ∈ v.toList, c ≠ '"' ∧ c ≠ '<' ∧ c ≠ '&'

theorem renderList_append (a b : List Xml) : Xml.renderList (a ++ b) = Xml.renderList a ++ Xml.renderList b := by
  induction a with
  | nil => simp only [List.nil_append, Xml.renderList, String.empty_append]
  | cons x r ih => simp only [List.cons_append, Xml.renderList, ih, String.append_assoc]

mutual
def Xml.toSpec : Xml → XmlTree
  | .text s => .text s.toList
  | .node n as cs => .elem n.toList (as.map (fun p => (p.1.toList, p.2.toList))) (Xml.toSpecL cs)
def Xml.toSpecL : List Xml → List XmlTree
  | [] => []
  | c :: cs => c.toSpec :: Xml.toSpecL cs
end

theorem toSpecL_append (a b : List Xml) : Xml.toSpecL (a ++ b) = Xml.toSpecL a ++ Xml.toSpecL b := by
  induction a with
  | nil => simp [Xml.toSpecL]
  | cons x r ih => simp [Xml.toSpecL, ih]

theorem renderAttrs_toList (as : List (String × String)) :
    (renderAttrs as).toList = attrsText (as.map (fun p => (p.1.toList, p.2.toList))) := by
  induction as with
  | nil => simp [renderAttrs, attrsText]
  | cons p r ih =>
    obtain ⟨k, v⟩ := p
    simp [renderAttrs, attrsText, String.toList_append, ih]

mutual
theorem render_toList : ∀ x : Xml, x.render.toList = renderS x.toSpec
  | .text s => by simp [Xml.render, Xml.toSpec, renderS]
  | .node n as cs => by
    have := renderList_toList cs
    simp [Xml.render, Xml.toSpec, renderS, String.toList_append, renderAttrs_toList, this, List.append_assoc]
theorem renderList_toList : ∀ cs : List Xml, (Xml.renderList cs).toList = renderL (Xml.toSpecL cs)
  | [] => by simp [Xml.renderList, Xml.toSpecL, renderL]
  | c :: cs => by
    have h1 := render_toList c
    have h2 := renderList_toList cs
    simp [Xml.renderList, Xml.toSpecL, renderL, String.toList_append, h1, h2]
end

/-! The model's strings and the serialisation are compared as character lists.  Both sides are first written as
    right-nested appends while the literals are still atoms; only then do the literals become characters
    (`chars`: free for the kernel, where evaluating `"lit".toList` is not), so that each character passes one
    append.  The model's merged literals (`"</KeyTag>\n"`) and the serialiser's pieces then meet as the same characters. -/
theorem toXml_eq_render (d : KeyDigest) : d.toXml = (digestTree d).render ++ "\n" := by
  apply String.toList_inj.mp
  rw [String.toList_append, render_toList]
  unfold KeyDigest.toXml digestTree
  cases d.validUntil <;>
    simp only [String.toList_append, Xml.toSpec, Xml.toSpecL, renderS, renderL, attrsText, leafLine, List.map_cons,
      List.map_nil, List.cons_append, List.nil_append, List.append_assoc] <;>
    chars <;> simp only [List.cons_append, List.nil_append]

theorem join_entries (l : List KeyDigest) : String.join (l.map KeyDigest.toXml) = Xml.renderList (entryNodes l) := by
  induction l with
  | nil => rfl
  | cons d r ih =>
    simp only [List.map_cons, String.join_cons, entryNodes, Xml.renderList, Xml.render, ih, toXml_eq_render,
      String.append_assoc]

theorem toXmlDoc_eq_render (ta : TrustAnchorDoc) : ta.toXmlDoc = xmlDeclLine ++ (docTree ta).render := by
  refine congrArg (xmlDeclLine ++ ·) (String.toList_inj.mp ?_)
  rw [render_toList]
  unfold TrustAnchorDoc.toXml TrustAnchorDoc.header TrustAnchorDoc.entries docTree taFooter
  simp only [join_entries, renderList_toList, String.toList_append, Xml.toSpec, Xml.toSpecL, renderS, renderL,
    attrsText, leafLine, List.map_cons, List.map_nil, List.cons_append, List.nil_append, List.append_assoc]
  chars
  simp only [List.cons_append, List.nil_append]

end Kskm.C18
