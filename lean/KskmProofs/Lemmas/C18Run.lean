/-
  Helper lemmas for C18 (`Kskm.TrustAnchor`): how the exporter's loop steps, what one configured KSK
  contributes, which token operations the exporter can issue.

  Definitions here (`usablePk`, `digestFor`, `found`, `Lookups`) are VIEWS of code that is inline in
  the model; each is tied to the model by an equation / implication proved below, never assumed.
-/
import Kskm.TrustAnchor
import KskmProofs.Lemmas.NoSign
import KskmProofs.C14
import KskmProofs.Lemmas.Res
namespace Kskm.C18

/-- the public key text a lookup result contributes: absent key, absent or empty public key ↦ nothing -/
def usablePk (r : Option P11Key) : Option String :=
  match r with
  | some k =>
    match k.publicKey with
    | some pk => if pk.isEmpty then none else some pk
    | none => none
  | none => none

/-- the `KeyDigest` the exporter builds for a configured KSK from the public key text of the token -/
def digestFor (ext : Externals) (ttl : Int) (ksk : KskKey) (pk : String) : Res KeyDigest := do
  let key ← publicKeyToDnssecKey pk ksk.label ksk.algorithm ttl 257
  createTrustanchorKeydigest ext.hash ksk key

/-- the key texts the lookups produced, each with its configured KSK, in configuration order -/
def found (l : List (KskKey × Option String)) : List (KskKey × String) := l.filterMap fun p => p.2.map (p.1, ·)

theorem mem_found {l : List (KskKey × Option String)} {ksk : KskKey} {pk : String} :
    (ksk, pk) ∈ found l ↔ (ksk, some pk) ∈ l := by
  simp only [found, List.mem_filterMap, Option.map_eq_some_iff, Prod.mk.injEq]
  constructor
  · rintro ⟨⟨k, o⟩, hm, q, rfl, rfl, rfl⟩; exact hm
  · intro hm; exact ⟨_, hm, pk, rfl, rfl, rfl⟩

/-- **The lookups of one run**, in configuration order: for each configured KSK what
    `get_p11_key(label, public=True)` returned against this token at that point of the run. -/
inductive Lookups (mods : List P11Module) (tok : Token) :
    List KskKey → TokState → List (Option P11Key) → TokState → Prop
  | nil (s : TokState) : Lookups mods tok [] s [] s
  | cons {ksk : KskKey} {rest : List KskKey} {s s1 s' : TokState} {r : Option P11Key}
      {rs : List (Option P11Key)} :
      getP11Key ksk.label true none mods tok s = (.ok r, s1) → Lookups mods tok rest s1 rs s' →
      Lookups mods tok (ksk :: rest) s (r :: rs) s'

theorem Lookups.length {mods tok ksks s rs s'} (h : Lookups mods tok ksks s rs s') : rs.length = ksks.length := by
  induction h with
  | nil => rfl
  | cons _ _ ih => simp [ih]

/-! `set.add` -/
theorem mem_digestSetAdd (s : List KeyDigest) (d x : KeyDigest) : x ∈ digestSetAdd s d ↔ x ∈ s ∨ x = d :=
  mem_insertNew s d x

theorem nodup_digestSetAdd (s : List KeyDigest) (d : KeyDigest) (h : s.Nodup) : (digestSetAdd s d).Nodup :=
  nodup_insertNew d h

/-- a successful loop: there were lookups, one per configured KSK; the digest of every key text found was built
    (`built`, in configuration order; one failure ends the run); the result is the set these were added to one by one -/
theorem taLoop_ok {ext : Externals} {mods : List P11Module} {ttl : Int} {tok : Token} :
    ∀ {ksks : List KskKey} {acc : List KeyDigest} {s s' : TokState} {ds : List KeyDigest},
      taLoop ext mods ttl ksks acc tok s = (.ok ds, s') →
      ∃ rs, ∃ built : List KeyDigest, Lookups mods tok ksks s rs s' ∧
        (found (ksks.zip (rs.map usablePk))).map (fun p => digestFor ext ttl p.1 p.2) = built.map .ok ∧
        ds = built.foldl digestSetAdd acc := by
  intro ksks
  induction ksks with
  | nil =>
    intro acc s s' ds h
    simp only [taLoop, TokM.pure_run, Prod.mk.injEq, Except.ok.injEq] at h
    obtain ⟨rfl, rfl⟩ := h
    exact ⟨[], [], .nil _, rfl, rfl⟩
  | cons ksk rest ih =>
    intro acc s s' ds h
    rw [taLoop] at h
    obtain ⟨r, s1, hg, h⟩ := TokM.bind_ok h
    -- a lookup without a usable key text: the loop goes on with `acc`
    have skip : usablePk r = none → taLoop ext mods ttl rest acc tok s1 = (.ok ds, s') →
        ∃ rs, ∃ built : List KeyDigest, Lookups mods tok (ksk :: rest) s rs s' ∧
          (found ((ksk :: rest).zip (rs.map usablePk))).map (fun p => digestFor ext ttl p.1 p.2) = built.map .ok ∧
          ds = built.foldl digestSetAdd acc := fun hu h => by
      obtain ⟨rs, built, hl, hb, hds⟩ := ih h
      exact ⟨r :: rs, built, .cons hg hl, by simpa [found, hu] using hb, hds⟩
    rcases r with _ | k
    · exact skip rfl h
    · dsimp only at h
      cases hk : k.publicKey with
      | none => rw [hk] at h; exact skip (by simp [usablePk, hk]) h
      | some pk =>
        rw [hk] at h; dsimp only at h
        by_cases he : pk.isEmpty = true
        · rw [if_pos he] at h; exact skip (by simp [usablePk, hk, he]) h
        · rw [if_neg he] at h
          obtain ⟨key, hkey, h⟩ := TokM.lift_bind_ok_iff.mp h
          obtain ⟨d, hd, h⟩ := TokM.lift_bind_ok_iff.mp h
          obtain ⟨rs, built, hl, hb, hds⟩ := ih h
          have hu : usablePk (some k) = some pk := by simp [usablePk, hk, he]
          have hdf : digestFor ext ttl ksk pk = .ok d := by rw [digestFor, hkey]; exact hd
          exact ⟨some k :: rs, d :: built, .cons hg hl, by simpa [found, hu, hdf] using hb, hds⟩

/-- the digests built are those of the key texts found … -/
theorem built_mem {ext : Externals} {ttl : Int} {l : List (KskKey × Option String)} {built : List KeyDigest}
    (hb : (found l).map (fun p => digestFor ext ttl p.1 p.2) = built.map .ok) (d : KeyDigest) :
    d ∈ built ↔ ∃ ksk pk, (ksk, some pk) ∈ l ∧ digestFor ext ttl ksk pk = .ok d := by
  have : d ∈ built ↔ (.ok d : Res KeyDigest) ∈ built.map .ok := by simp
  rw [this, ← hb]
  simp only [List.mem_map, Prod.exists, mem_found]

/-- … of every one of them -/
theorem built_of_mem {ext : Externals} {ttl : Int} {l : List (KskKey × Option String)} {built : List KeyDigest}
    (hb : (found l).map (fun p => digestFor ext ttl p.1 p.2) = built.map .ok) {ksk : KskKey} {pk : String}
    (hm : (ksk, some pk) ∈ l) : ∃ d, digestFor ext ttl ksk pk = .ok d := by
  have := List.mem_map_of_mem (f := fun p => digestFor ext ttl p.1 p.2) (mem_found.mpr hm)
  rw [hb] at this
  obtain ⟨d, _, hd⟩ := List.mem_map.mp this
  exact ⟨d, hd.symm⟩

/-- `key_to_rdata` of a flags-257, protocol-3 key: the algorithm fits its octet, the key text decodes,
    and the RDATA is `rdataOf 257 3 alg key` -/
theorem keyToRdata_257 {k : Key} {r : Bytes} (hf : k.flags = 257) (hp : k.protocol = 3)
    (h : keyToRdata k = .ok r) :
    k.algorithm < 256 ∧ ∃ pkb, Base64.decode k.publicKey = some pkb ∧ r = rdataOf 257 3 k.algorithm pkb := by
  obtain ⟨⟨_, _, ha⟩, pkb, hd, hr⟩ := (C14.keyToRdata_ok_iff k r).mp h
  exact ⟨ha, pkb, hd, by rw [hr, hf, hp]; rfl⟩

/-- `create_trustanchor_keydigest` for the root zone: SHA-256 over `00 ‖ RDATA` of the key, the other
    fields copied from the key and the configured KSK -/
theorem createTrustanchorKeydigest_ok {hash : Hasher} {ksk : KskKey} {key : Key} {d : KeyDigest}
    (h : createTrustanchorKeydigest hash ksk key = .ok d) :
    ∃ r, keyToRdata key = .ok r ∧ hash .sha256 (0 :: r) = some d.digest ∧
      d.id = key.keyIdentifier ∧ d.keyTag = key.keyTag ∧ d.algorithm = key.algorithm ∧ d.digestType = 2 ∧
      d.validFrom = ksk.validFrom ∧ d.validUntil = ksk.validUntil := by
  unfold createTrustanchorKeydigest at h
  obtain ⟨owner, ho, h⟩ := Res.bind_ok h
  obtain ⟨r, hr, h⟩ := Res.bind_ok h
  obtain ⟨dg, hh, hd⟩ := Res.bind_ok h
  rw [dn2wire, if_pos rfl] at ho
  cases hd; cases ho
  exact ⟨r, hr, hashOrUnknown_ok_iff.mp hh, rfl, rfl, rfl, rfl, rfl, rfl⟩

theorem digestFor_ok {ext : Externals} {ttl : Int} {ksk : KskKey} {pk : String} {d : KeyDigest}
    (h : digestFor ext ttl ksk pk = .ok d) :
    ksk.algorithm < 256 ∧ ∃ pkb, Base64.decode pk = some pkb ∧
      d.id = ksk.label ∧ d.algorithm = ksk.algorithm ∧ d.digestType = 2 ∧
      d.validFrom = ksk.validFrom ∧ d.validUntil = ksk.validUntil ∧
      d.keyTag = (keyTagOfRdata (rdataOf 257 3 ksk.algorithm pkb) : Nat) ∧
      ext.hash .sha256 (0 :: rdataOf 257 3 ksk.algorithm pkb) = some d.digest := by
  obtain ⟨key, hk, h⟩ := Res.bind_ok h
  obtain ⟨hid, _, hfl, hpr, hal, hpk, r, hr, htag⟩ := publicKeyToDnssecKey_ok hk
  obtain ⟨ha, pkb, hdec, hrd⟩ := keyToRdata_257 hfl hpr hr
  obtain ⟨r', hr', hh, did, dtag, dalg, dty, dfrom, duntil⟩ := createTrustanchorKeydigest_ok h
  rw [hr] at hr'
  cases hr'
  rw [hal] at ha hrd
  exact ⟨ha, pkb, hpk ▸ hdec, did.trans hid, dalg.trans hal, dty, dfrom, duntil,
    by rw [dtag, htag, hrd], hrd ▸ hh⟩

/-- an operation the exporter may issue: session set-up, a lookup of the PUBLIC object of one of the
    given labels, attribute reads.  Never `C_Sign`, `C_GenerateKeyPair`, `C_DestroyObject`. -/
def IsTaOp (labels : List String) : TokOp → Prop
  | .findObjects _ _ t => ∃ l ∈ labels, t = [("LABEL", .str l), ("CLASS", .num ckoPublic)]
  | .getAttr .. => True
  | .load _ => True
  | .initialize _ => True
  | .getSlotList _ => True
  | .openSession .. => True
  | .login .. => True
  | .getTokenInfo .. => True
  | .sign .. => False
  | .generateKeyPair .. => False
  | .destroyObject .. => False
  | .closeAllSessions .. => False

theorem isLookupAmong_isTaOp {mods : List P11Module} {label : String} {labels : List String} (hl : label ∈ labels)
    {op : TokOp} (h : IsLookupAmong mods label ckoPublic op) : IsTaOp labels op := by
  obtain ⟨m, _, h⟩ := h
  cases op <;> first | exact h.elim | trivial | exact ⟨label, hl, h.2⟩

theorem isSetupOp_isTaOp {labels : List String} {op : TokOp} (h : IsSetupOp op) : IsTaOp labels op := by
  cases op <;> first | exact h.elim | trivial

theorem taLoop_plays (ext : Externals) (mods : List P11Module) (ttl : Int) (labels : List String) :
    ∀ ksks : List KskKey, (∀ k ∈ ksks, k.label ∈ labels) → ∀ acc,
      Plays (IsTaOp labels) (fun _ => True) (taLoop ext mods ttl ksks acc)
  | [], _, acc => .pure acc
  | ksk :: rest, h, acc => by
    have ih := taLoop_plays ext mods ttl labels rest fun k hk => h k (List.mem_cons_of_mem _ hk)
    rw [taLoop]
    refine ((getP11Key_plays ksk.label true none mods).mono
      (fun _ ho => isLookupAmong_isTaOp (h ksk List.mem_cons_self) ho) fun _ => False.elim).bind fun r => ?_
    split
    · exact ih _
    · split
      · exact ih _
      · split
        · exact ih _
        · exact (Plays.lift fun _ _ => trivial).bind fun _ => (Plays.lift fun _ _ => trivial).bind fun _ => ih _

theorem trustanchor_plays (ext : Externals) (args : TaArgs) (cfg : TaConfig) :
    Plays (IsTaOp (cfg.kskKeys.map (·.2.label))) (fun _ => True) (trustanchor ext args cfg) := by
  unfold trustanchor
  refine ((initPkcs11Modules_plays _ _ _ _).mono (fun _ h => isSetupOp_isTaOp h) fun _ => False.elim).bind
    fun mods => ?_
  refine (taLoop_plays ext mods cfg.ttl _ (cfg.kskKeys.map (·.2)) (fun k hk => ?_) []).bind fun ds => ?_
  · obtain ⟨p, hp, rfl⟩ := List.mem_map.mp hk
    exact List.mem_map_of_mem (f := fun p => p.2.label) hp
  · dsimp only
    split <;> exact .pure _

theorem sortDigests_sorted (l : List KeyDigest) :
    (sortDigests l).Pairwise (fun a b => a.validFrom ≤ b.validFrom) ∧ (sortDigests l).Perm l := by
  refine ⟨?_, List.mergeSort_perm l _⟩
  have := List.pairwise_mergeSort (le := fun a b : KeyDigest => decide (a.validFrom ≤ b.validFrom))
    (by intro a b c h1 h2; simp only [decide_eq_true_eq] at *; omega)
    (by intro a b; simp only [Bool.or_eq_true, decide_eq_true_eq]; omega) l
  exact this.imp (by intro a b h; simpa using h)

end Kskm.C18
