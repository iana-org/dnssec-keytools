/-
  What `key_delete` and `keygen` do to a store (C19): `Shrinks` (only objects named by the label leave),
  the case analyses of the two commands against a store — they change it by removals that `Shrinks`
  covers, by one `Generated`, or not at all —, what `get_session` answers, and that the inventory issues
  read operations only.
-/
import KskmProofs.Lemmas.C19Store
import KskmProofs.C14
namespace Kskm.Km

/-! ### `Shrinks`: only objects named by the label leave -/

def isKeyClass (c : Nat) : Prop := c = ckoPublic ∨ c = ckoPrivate

theorem ckoPublic_ne_ckoPrivate : ckoPublic ≠ ckoPrivate := by decide

/-- `st'` is `st` minus some public / private objects labelled `label` in searched slots; counters, pool
    and every other object are as they were -/
structure Shrinks (label : String) (mods : List P11Module) (st st' : Store) : Prop where
  pool : st'.pool = st.pool
  next : ∀ p n, (st'.slots p n).map (·.next) = (st.slots p n).map (·.next)
  sub : ∀ p n, ∀ o ∈ st'.objs p n, o ∈ st.objs p n
  gone : ∀ p n, ∀ o ∈ st.objs p n, o ∉ st'.objs p n → o.label = label ∧ isKeyClass o.cls ∧ (p, n) ∈ searched mods

theorem Shrinks.refl (label : String) (mods : List P11Module) (st : Store) : Shrinks label mods st st :=
  ⟨rfl, fun _ _ => rfl, fun _ _ _ h => h, fun _ _ _ h hn => absurd h hn⟩

theorem Shrinks.trans {label : String} {mods : List P11Module} {a b c : Store}
    (h1 : Shrinks label mods a b) (h2 : Shrinks label mods b c) : Shrinks label mods a c :=
  ⟨h2.pool.trans h1.pool, fun p n => (h2.next p n).trans (h1.next p n),
    fun p n o ho => h1.sub p n o (h2.sub p n o ho),
    fun p n o ho hn => by
      by_cases hb : o ∈ b.objs p n
      · exact h2.gone p n o hb hn
      · exact h1.gone p n o ho hb⟩

theorem remove_shrinks {label : String} {mods : List P11Module} {st : Store} (hw : st.WF)
    {p : String} {n : Nat} {s : SlotSt} (hs : st.slots p n = some s) {o : Obj} (ho : o ∈ s.objects)
    (hlab : o.label = label) (hcls : isKeyClass o.cls) (hsearched : (p, n) ∈ searched mods) :
    Shrinks label mods st (st.setSlot p n (s.remove o.handle)) := by
  refine ⟨rfl, fun p' n' => ?_, fun p' n' x hx => ((mem_objs_remove hs _ p' n' x).mp hx).1, fun p' n' x hx hn => ?_⟩
  · rw [slots_setSlot]
    split
    · rename_i h; rw [h.1, h.2, hs]; rfl
    · rfl
  · obtain ⟨rfl, rfl, hh⟩ := Decidable.not_and_not_right.mp (mt (mem_objs_remove hs _ p' n' x).mpr hn) hx
    obtain rfl := eq_of_handle (hw _ _ s hs).1 (objs_of_slots hs ▸ hx) ho hh
    exact ⟨hlab, hcls, hsearched⟩

/-! ### `keygen` and `key_delete` against a store -/

theorem existingKeyP_ro {mods : List P11Module} {label : String} : AllOps isReadOp (existingKeyP mods label) := by
  unfold existingKeyP
  refine getP11KeyP_ro.bind fun r => ?_
  split
  · exact AllOps.pure _
  · exact getP11KeyP_ro

/-- the existing-label check answers "none" only when no public and no private object in any searched
    slot carries the label -/
theorem existingKeyP_none {mods : List P11Module} {label : String} {st st' : Store}
    (h : (existingKeyP mods label).runSt st = (.ok none, st')) :
    ∀ p n, (p, n) ∈ searched mods → ∀ o ∈ st.objs p n, o.label = label → ¬ isKeyClass o.cls := by
  unfold existingKeyP at h
  obtain ⟨r, h1, h2⟩ := runSt_bind_ok_of_readOnly getP11KeyP_ro h
  cases r with
  | some k => simp at h2
  | none =>
    simp only at h2
    intro p n hpn o ho hl hc
    rcases hc with hc | hc
    · exact getP11KeyP_none h1 p n hpn o ho ⟨hl, by simpa [classOf] using hc⟩
    · exact getP11KeyP_none h2 p n hpn o ho ⟨hl, by simpa [classOf] using hc⟩

/-- `generate_key_from_templates` against a store, in three cases -/
theorem generateKeyFromTemplatesP_cases (mods : List P11Module) (label : String) (bits : Option Nat)
    (exponent : Option Bytes) (st : Store) :
    let run := (generateKeyFromTemplatesP mods label bits exponent).runSt st
    -- refused, or failed before generating: nothing changed
    (run.2 = st ∧ (run.1 = .ok none ∨ ∃ e, run.1 = .error e)) ∨
    -- generated (whatever happened afterwards)
    (∃ path slot k, (existingKeyP mods label).runSt st = (.ok none, st) ∧ getSession mods = .ok (path, slot) ∧
      some k.bits = bits ∧ k.e = wantedE exponent ∧
      Generated label path slot k st run.2 ∧
      run = (getP11KeyP label true none mods).runSt run.2) := by
  intro run
  show _ ∨ _
  simp only [run]
  unfold generateKeyFromTemplatesP
  rw [runSt_bind_of_readOnly existingKeyP_ro]
  cases he : ((existingKeyP mods label).runSt st).1 with
  | error e => left; exact ⟨rfl, Or.inr ⟨e, rfl⟩⟩
  | ok o =>
    cases o with
    | some k => left; exact ⟨rfl, Or.inl rfl⟩
    | none =>
      have hex : (existingKeyP mods label).runSt st = (.ok none, st) :=
        Prod.ext he (existingKeyP_ro.readOnly st)
      simp only
      rw [runSt_bind, runSt_liftP]
      cases hg : getSession mods with
      | error e => left; exact ⟨rfl, Or.inr ⟨e, rfl⟩⟩
      | ok ps =>
        obtain ⟨path, slot⟩ := ps
        simp only
        rw [runSt_bind, runSt_askOkP]
        rcases generate_step st path slot label bits exponent with ⟨h1, h2⟩ | ⟨k, h1, hb, hx, hgen⟩
        · left
          simp only [h1, if_true, h2]
          exact ⟨trivial, Or.inr ⟨_, rfl⟩⟩
        · right
          simp only [if_neg h1]
          have hstore := getP11KeyP_store label true none mods
            (storeStep st (.generateKeyPair path slot label bits exponent label)).2
          refine ⟨path, slot, k, hex, rfl, hb, hx, ?_, ?_⟩
          · rw [hstore]; exact hgen
          · rw [hstore]

/-- the first destroy of `key_delete`, given the object the public lookup found: nothing happens (no
    public key text), or exactly that object goes -/
theorem destroyPublicP_run {st : Store} {pub : P11Key} {s : SlotSt} {o : Obj}
    (hs : st.slots pub.module pub.slot = some s) (ho : o ∈ s.objects) (hh : pub.pubHandle = some o.handle) :
    (destroyPublicP pub).runSt st = (.ok (), st) ∨
    (destroyPublicP pub).runSt st = (.ok (), st.setSlot pub.module pub.slot (s.remove o.handle)) := by
  unfold destroyPublicP
  cases pub.publicKey with
  | none => exact Or.inl rfl
  | some pk =>
    simp only [hh]
    split
    · exact Or.inl rfl
    · right
      rw [runSt_bind, runSt_askOkP, storeStep_destroy hs ho]
      rfl

/-- the second half of `key_delete`: no change and no `True`, or the private object the lookup found goes -/
theorem destroyPrivateP_cases (mods : List P11Module) (label : String) (st : Store) :
    (((destroyPrivateP mods label).runSt st).2 = st ∧ ((destroyPrivateP mods label).runSt st).1 ≠ .ok true) ∨
    ∃ (priv : P11Key) (s : SlotSt) (o : Obj), (priv.module, priv.slot) ∈ searched mods ∧ st.slots priv.module priv.slot = some s ∧
      o ∈ s.objects ∧ o.named label ckoPrivate ∧
      (destroyPrivateP mods label).runSt st = (.ok true, st.setSlot priv.module priv.slot (s.remove o.handle)) := by
  unfold destroyPrivateP
  rw [runSt_bind_of_readOnly getP11KeyP_ro]
  cases hl : ((getP11KeyP label false none mods).runSt st).1 with
  | error e => exact Or.inl ⟨rfl, by simp⟩
  | ok r =>
    cases r with
    | none => exact Or.inl ⟨rfl, by simp⟩
    | some priv =>
      obtain ⟨hsearched, s, o, hs, ho, hn, _, _, _, hph, _⟩ := getP11KeyP_found hl
      right
      simp only [hph rfl]
      rw [runSt_bind, runSt_askOkP, storeStep_destroy hs ho]
      exact ⟨priv, s, o, hsearched, hs, ho, hn, rfl⟩

/-- `key_delete` against a store: nothing changed (not found, lookup failed, or not confirmed), or the
    public lookup found an object, the deletion was confirmed, that object went (or stayed: no public key
    text), and the rest is the second half run on what remains -/
theorem keyDeleteP_cases (mods : List P11Module) (label : String) (force : Bool) (answer : String) (st : Store) :
    (((keyDeleteP mods label force answer).runSt st).2 = st ∧
      (((keyDeleteP mods label force answer).runSt st).1 = .ok true → (!force && !confirmed answer) = true)) ∨
    ∃ (pub : P11Key) (s : SlotSt) (o : Obj) (st₂ : Store), (!force && !confirmed answer) = false ∧ (pub.module, pub.slot) ∈ searched mods ∧
      st.slots pub.module pub.slot = some s ∧ o ∈ s.objects ∧ o.named label ckoPublic ∧
      (st₂ = st ∨ st₂ = st.setSlot pub.module pub.slot (s.remove o.handle)) ∧
      (keyDeleteP mods label force answer).runSt st = (destroyPrivateP mods label).runSt st₂ := by
  unfold keyDeleteP
  rw [runSt_bind_of_readOnly getP11KeyP_ro]
  cases hl : ((getP11KeyP label true none mods).runSt st).1 with
  | error e => exact Or.inl ⟨rfl, by simp⟩
  | ok r =>
    cases r with
    | none => exact Or.inl ⟨rfl, by simp⟩
    | some pub =>
      cases hnc : (!force && !confirmed answer) with
      | true => exact Or.inl ⟨rfl, fun _ => rfl⟩
      | false =>
        obtain ⟨hsearched, s, o, hs, ho, hn, _, _, hph, _⟩ := getP11KeyP_found hl
        right
        simp only [Bool.false_eq_true, if_false]
        rcases destroyPublicP_run hs ho hph with hd | hd
        · exact ⟨pub, s, o, st, trivial, hsearched, hs, ho, hn, Or.inl rfl, runSt_bind_of_ok hd⟩
        · exact ⟨pub, s, o, _, trivial, hsearched, hs, ho, hn, Or.inr rfl, runSt_bind_of_ok hd⟩

theorem destroyPrivateP_shrinks {label : String} {mods : List P11Module} {st : Store} (hw : st.WF) :
    Shrinks label mods st ((destroyPrivateP mods label).runSt st).2 := by
  rcases destroyPrivateP_cases mods label st with ⟨h, _⟩ | ⟨priv, s, o, hsearched, hs, ho, hn, hrun⟩
  · rw [h]; exact .refl _ _ _
  · rw [hrun]; exact remove_shrinks hw hs ho hn.1 (Or.inr hn.2) hsearched

/-- **Deletion only shrinks**: whatever `key_delete` does to a well-formed store, every object that
    leaves is a public / private object carrying the label, in a searched slot; nothing arrives, nothing
    else changes. -/
theorem keyDeleteP_shrinks {label : String} {mods : List P11Module} {st : Store} (hw : st.WF)
    (force : Bool) (answer : String) :
    Shrinks label mods st ((keyDeleteP mods label force answer).runSt st).2 := by
  rcases keyDeleteP_cases mods label force answer st with ⟨h, _⟩ | ⟨pub, s, o, st₂, _, hsearched, hs, ho, hn, hst₂, hrun⟩
  · rw [h]; exact .refl _ _ _
  · rw [hrun]
    rcases hst₂ with rfl | rfl
    · exact destroyPrivateP_shrinks hw
    · exact (remove_shrinks hw hs ho hn.1 (Or.inl hn.2) hsearched).trans (destroyPrivateP_shrinks (hw.remove hs _))

theorem generateRsaKeyP_eq (mods : List P11Module) (bits : Nat) (label : String) :
    generateRsaKeyP mods bits (some label) =
      generateKeyFromTemplatesP mods label (some bits) (some (exponentOctets 65537)) := rfl

/-- the generation step of `keygen` generated a pair: the algorithm is RSA and a size was given, no key
    object of a searched slot carried the label, the session is `get_session`'s, and the pool key has the
    requested size and exponent 65537 -/
structure KeygenGenerated (mods : List P11Module) (alg : Nat) (size : Option Nat) (label : String)
    (st st' : Store) (bits : Nat) (path : String) (slot : Nat) (k : PoolKey) : Prop where
  size : size = some bits
  rsa : isAlgorithmRsa alg = true
  fresh : (existingKeyP mods label).runSt st = (.ok none, st)
  session : getSession mods = .ok (path, slot)
  bits : k.bits = bits
  exponent : k.e = 65537
  generated : Generated label path slot k st st'

/-- the generation step of `keygen`: nothing changed (refused / failed), or a pair was generated and the
    result is the re-lookup on the new store -/
theorem keygenGenerateP_cases (mods : List P11Module) (alg : Nat) (size : Option Nat) (label : String)
    (st : Store) {st' : Store} {r : Res (Option P11Key)}
    (h : (keygenGenerateP mods alg size (some label)).runSt st = (r, st')) :
    (st' = st ∧ (r = .ok none ∨ ∃ e, r = .error e)) ∨
    ∃ bits path slot k, KeygenGenerated mods alg size label st st' bits path slot k ∧
      (getP11KeyP label true none mods).runSt st' = (r, st') := by
  unfold keygenGenerateP at h
  by_cases hrsa : isAlgorithmRsa alg = true
  · simp only [hrsa, if_true] at h
    cases size with
    | none => cases h; exact Or.inl ⟨rfl, Or.inr ⟨_, rfl⟩⟩
    | some bits =>
      simp only [generateRsaKeyP_eq] at h
      rcases generateKeyFromTemplatesP_cases mods label (some bits) (some (exponentOctets 65537)) st with
        h' | ⟨path, slot, k, hex, hsess, hb, he, hgen, hrun⟩
      · rw [h] at h'; exact Or.inl h'
      · rw [h] at hgen hrun
        have he' : k.e = 65537 := by
          rw [he]; simp only [wantedE, exponentOctets]; exact beNat_natToBytes 65537
        exact Or.inr ⟨bits, path, slot, k, ⟨rfl, hrsa, hex, hsess, by simpa using hb, he', hgen⟩, hrun.symm⟩
  · simp only [hrsa, Bool.false_eq_true, if_false] at h
    left
    split at h <;> (cases h; exact ⟨rfl, Or.inr ⟨_, rfl⟩⟩)

theorem keygenP_run (ext : Externals) (cfg : KmConfig) (mods : List P11Module) (alg : Nat)
    (size : Option Nat) (label : Option String) (st : Store) :
    (keygenP ext cfg mods alg size label).runSt st =
      match (keygenGenerateP mods alg size label).runSt st with
      | (.ok a, st') => (keygenTail ext cfg alg a, st')
      | (.error e, st') => (.error e, st') := by
  unfold keygenP
  rw [runSt_bind]
  cases (keygenGenerateP mods alg size label).runSt st with
  | mk r s => cases r <;> simp [runSt_liftP]

/-- `keygen` against a store: nothing changed and it failed, or a pair was generated (and then the
    outcome is that of the tag / DS computation on the re-looked-up key) -/
theorem keygenP_cases (ext : Externals) (cfg : KmConfig) (mods : List P11Module) (alg : Nat)
    (size : Option Nat) (label : String) (st : Store) {st' : Store} {r : Res KeygenReport}
    (h : (keygenP ext cfg mods alg size (some label)).runSt st = (r, st')) :
    (st' = st ∧ ∃ e, r = .error e) ∨
    ∃ bits path slot k a, KeygenGenerated mods alg size label st st' bits path slot k ∧
      (getP11KeyP label true none mods).runSt st' = (a, st') ∧ r = a.bind (keygenTail ext cfg alg) := by
  rw [keygenP_run] at h
  cases hg : (keygenGenerateP mods alg size (some label)).runSt st with
  | mk a st1 =>
    rw [hg] at h
    obtain ⟨rfl, rfl⟩ : r = a.bind (keygenTail ext cfg alg) ∧ st' = st1 := by
      cases a <;> (cases h; exact ⟨rfl, rfl⟩)
    rcases keygenGenerateP_cases mods alg size label st hg with
      ⟨rfl, ha⟩ | ⟨bits, path, slot, k, hg, hlook⟩
    · left
      rcases ha with rfl | ⟨e, rfl⟩
      · exact ⟨rfl, _, rfl⟩
      · exact ⟨rfl, e, rfl⟩
    · exact Or.inr ⟨bits, path, slot, k, a, hg, hlook, rfl⟩

theorem keygenTail_ok {ext : Externals} {cfg : KmConfig} {alg : Nat} {o : Option P11Key} {rep : KeygenReport}
    (h : keygenTail ext cfg alg o = .ok rep) :
    ∃ key pk, o = some key ∧ key.publicKey = some pk ∧ keygenReport ext cfg alg key.label pk = .ok rep := by
  unfold keygenTail at h
  split at h
  · cases h
  · rename_i key
    split at h
    · cases h
    · rename_i pk hpk
      split at h
      · cases h
      · exact ⟨key, pk, rfl, hpk, h⟩

/-- a successful `keygen`: a pair was generated under a label no key object carried, the re-lookup on the new
    store found a key with public key text, and the report is the tag / DS computation on that text -/
theorem keygenP_ok {ext : Externals} {cfg : KmConfig} {mods : List P11Module} {alg : Nat} {size : Option Nat}
    {label : String} {st st' : Store} {rep : KeygenReport}
    (h : (keygenP ext cfg mods alg size (some label)).runSt st = (.ok rep, st')) :
    ∃ bits path slot k key pk, KeygenGenerated mods alg size label st st' bits path slot k ∧
      (getP11KeyP label true none mods).runSt st' = (.ok (some key), st') ∧
      key.publicKey = some pk ∧ keygenReport ext cfg alg key.label pk = .ok rep := by
  rcases keygenP_cases ext cfg mods alg size label st h with
    ⟨_, e, he⟩ | ⟨bits, path, slot, k, a, hg, hlook, hres⟩
  · cases he
  · cases a with
    | error e => cases hres
    | ok o =>
      obtain ⟨key, pk, rfl, hpk, hrep⟩ := keygenTail_ok hres.symm
      exact ⟨bits, path, slot, k, key, pk, hg, hlook, hpk, hrep⟩

/-! ### `get_session` -/

theorem minSlot_spec : ∀ (l : List Nat) (m : Nat), minSlot l = some m → m ∈ l ∧ ∀ x ∈ l, m ≤ x := by
  intro l
  induction l with
  | nil => intro m h; simp [minSlot] at h
  | cons a r ih =>
    intro m h
    simp only [minSlot] at h
    cases hr : minSlot r with
    | none =>
      simp only [hr, Option.some.injEq] at h
      subst h
      cases r with
      | nil => simp
      | cons b r' =>
        simp only [minSlot] at hr
        cases h2 : minSlot r' <;> simp [h2] at hr
    | some b =>
      simp only [hr, Option.some.injEq] at h
      obtain ⟨hb1, hb2⟩ := ih b hr
      by_cases hab : a ≤ b
      · simp only [hab, if_true] at h; subst h
        exact ⟨List.mem_cons_self, fun x hx => by
          rcases List.mem_cons.mp hx with rfl | hx
          · exact Nat.le_refl _
          · exact Nat.le_trans hab (hb2 x hx)⟩
      · simp only [hab, if_false] at h; subst h
        exact ⟨List.mem_cons_of_mem _ hb1, fun x hx => by
          rcases List.mem_cons.mp hx with rfl | hx
          · omega
          · exact hb2 x hx⟩

/-- `get_session`: the first module, the smallest of its slots, which has a session -/
theorem getSession_spec {mods : List P11Module} {path : String} {slot : Nat}
    (h : getSession mods = .ok (path, slot)) :
    ∃ first rest, mods = first :: rest ∧ path = first.path ∧ slot ∈ first.slots ∧ slot ∈ first.sessions ∧
      ∀ x ∈ first.slots, slot ≤ x := by
  unfold getSession at h
  cases mods with
  | nil => simp [err] at h
  | cons first rest =>
    simp only at h
    split at h
    · simp [err] at h
    · cases hm : minSlot first.slots with
      | none => simp [hm, err] at h
      | some s =>
        simp only [hm] at h
        split at h
        · rename_i hc
          simp only [pure, Except.pure, Except.ok.injEq, Prod.mk.injEq] at h
          obtain ⟨rfl, rfl⟩ := h
          obtain ⟨h1, h2⟩ := minSlot_spec _ _ hm
          exact ⟨first, rest, rfl, rfl, h1, by simpa using hc, h2⟩
        · simp [err] at h

/-! ### the inventory only reads -/

theorem keyIdOfP_ro {i : AttrAns} : AllOps isReadOp (keyIdOfP i) := by
  unfold keyIdOfP
  split
  · exact .pure _
  · exact .pure _
  · exact .errP _
  · exact .fail _

theorem labelOfP_ro {l : AttrAns} : AllOps isReadOp (labelOfP l) := by
  unfold labelOfP
  split
  · exact .pure _
  · exact .errP _
  · exact .fail _

theorem keyInfoOfP_ro {path : String} {slot h : Nat} {c l : AttrAns} {keyId : Option Bytes} :
    AllOps isReadOp (keyInfoOfP path slot h c l keyId) := by
  unfold keyInfoOfP
  split
  · split
    · exact labelOfP_ro.bind fun _ => .pure _
    · split
      · exact p11ObjectToPublicKeyP_ro.bind fun _ => labelOfP_ro.bind fun _ => .pure _
      · split
        · exact labelOfP_ro.bind fun _ => .pure _
        · exact .pure _
  · exact .pure _
  · exact .fail _

theorem inventoryOneP_ro {path : String} {slot h : Nat} : AllOps isReadOp (inventoryOneP path slot h) := by
  unfold inventoryOneP
  refine (AllOps.askOkP _ trivial).bind fun a => ?_
  split
  · exact keyIdOfP_ro.bind fun _ => keyInfoOfP_ro
  · exact .fail _

theorem inventoryLoopP_ro {path : String} {slot : Nat} {hs : List Nat} :
    AllOps isReadOp (inventoryLoopP path slot hs) := by
  induction hs with
  | nil => exact AllOps.pure _
  | cons h rest ih =>
    rw [inventoryLoopP]
    exact inventoryOneP_ro.bind fun _ => ih.bind fun _ => .pure _

theorem getKeyInventoryP_ro {path : String} {slot : Nat} : AllOps isReadOp (getKeyInventoryP path slot) := by
  unfold getKeyInventoryP
  refine AllOps.bind (AllOps.askOkP _ trivial) (fun a => ?_)
  split
  · exact inventoryLoopP_ro
  · exact AllOps.fail _

theorem inventorySlotsP_ro {ext : Externals} {cfg : KmConfig} {dns : Bool} {path : String} {slots : List Nat} :
    AllOps isReadOp (inventorySlotsP ext cfg dns path slots) := by
  induction slots with
  | nil => exact AllOps.pure _
  | cons sl rest ih =>
    rw [inventorySlotsP]
    refine AllOps.bind ?_ (fun _ => AllOps.bind ih (fun _ => AllOps.pure _))
    unfold slotListingP
    exact getKeyInventoryP_ro.bind fun _ => .liftP _

theorem inventoryP_ro {ext : Externals} {cfg : KmConfig} {mods : List P11Module} {dns : Bool} :
    AllOps isReadOp (inventoryP ext cfg mods dns) := by
  unfold inventoryP
  induction mods with
  | nil => exact AllOps.pure _
  | cons m rest ih =>
    rw [keyInventoryP]
    exact inventorySlotsP_ro.bind fun _ => ih.bind fun _ => .pure _

end Kskm.Km
