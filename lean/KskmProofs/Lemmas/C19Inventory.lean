/-
  Pure list facts about the inventory (C19), both loops in closed form: under class `c` the collection
  table of `key_inventory` (`KeyTable.add`) holds the records of class `c`, the first of each label+id
  (`lookup_tableOf`, `seen`); the pairing loop of `_format_keys` (`pairLoop`, F14 repaired) pairs the public
  entries whose label+id names a private entry and takes those and their partners out of both lists
  (`pairLoop_spec`).  Reading a class with `getD []` makes "class absent" no case of its own.
-/
import Kskm.Keymaster
import KskmProofs.Lemmas.Res
namespace Kskm.Km

/-- does the list hold an entry with this label+id (the `l.any (·.key = k)` of `KeyTable.add` and `pairLoop`) -/
def hasKey (l : List KeyInfo) (k : String × Option Bytes) : Bool := l.any (fun y => decide (y.key = k))

theorem hasKey_iff {l : List KeyInfo} {k : String × Option Bytes} : hasKey l k = true ↔ ∃ y ∈ l, y.key = k := by
  simp [hasKey]

theorem hasKey_filter (l : List KeyInfo) (P : String × Option Bytes → Bool) (k : String × Option Bytes) :
    hasKey (l.filter (fun x => P x.key)) k = (hasKey l k && P k) := by
  rw [Bool.eq_iff_iff, Bool.and_eq_true, hasKey_iff, hasKey_iff]
  constructor
  · rintro ⟨x, hx, rfl⟩
    exact ⟨⟨x, (List.mem_filter.mp hx).1, rfl⟩, (List.mem_filter.mp hx).2⟩
  · rintro ⟨⟨x, hx, rfl⟩, hP⟩
    exact ⟨x, List.mem_filter.mpr ⟨hx, hP⟩, rfl⟩

theorem hasKey_filter_self {pubs : List KeyInfo} {P : (String × Option Bytes) → Bool} {y : KeyInfo} (hy : y ∈ pubs) :
    hasKey (pubs.filter (fun x => P x.key)) y.key = P y.key := by
  rw [hasKey_filter, hasKey_iff.mpr ⟨y, hy, rfl⟩, Bool.true_and]

/-- `t[c] = v` for a class that may or may not be listed (an unlisted class stays unlisted) -/
theorem lookup_set (t : KeyTable) (c c' : Nat) (v : List KeyInfo) :
    (t.set c v).lookup c' = if c' = c then (t.lookup c).map (fun _ => v) else t.lookup c' := by
  induction t with
  | nil => simp [KeyTable.set]
  | cons p r ih =>
    obtain ⟨d, l⟩ := p
    simp only [KeyTable.set, List.map_cons] at ih ⊢
    by_cases hd : d = c
    · subst hd
      rw [if_pos rfl, List.lookup_cons, List.lookup_cons, ih]
      by_cases hc : c' = d
      · subst hc; simp
      · have hb : (c' == d) = false := by simpa using hc
        simp [hc, hb, List.lookup_cons]
    · rw [if_neg hd, List.lookup_cons, ih]
      by_cases hc : c' = c
      · subst hc
        have : (c' == d) = false := by simpa using fun e => hd e.symm
        simp [List.lookup_cons, this]
      · simp only [hc, if_false, List.lookup_cons]

theorem lookup_set_same (t : KeyTable) (c : Nat) (v : List KeyInfo) (h : (t.lookup c).isSome) :
    (t.set c v).lookup c = some v := by
  rw [lookup_set, if_pos rfl]
  cases ht : t.lookup c with
  | none => rw [ht] at h; cases h
  | some _ => rfl

theorem lookup_set_other {t : KeyTable} {c c' : Nat} {v : List KeyInfo} (h : c' ≠ c) :
    (t.set c v).lookup c' = t.lookup c' := by
  rw [lookup_set, if_neg h]

theorem map_fst_set (t : KeyTable) (c : Nat) (v : List KeyInfo) : (t.set c v).map (·.1) = t.map (·.1) := by
  unfold KeyTable.set
  rw [List.map_map]
  apply List.map_congr_left
  intro p _
  simp only [Function.comp]
  split <;> simp [*]

theorem lookup_of_mem {t : KeyTable} (hn : (t.map (·.1)).Nodup) {c : Nat} {l : List KeyInfo} (h : (c, l) ∈ t) :
    t.lookup c = some l := by
  obtain ⟨l₁, l₂, rfl⟩ := List.append_of_mem h
  refine List.lookup_eq_some_iff.mpr ⟨l₁, l₂, rfl, fun p hp => ?_⟩
  rw [List.map_append, List.nodup_append] at hn
  simpa using fun e : c = p.1 => hn.2.2 p.1 (List.mem_map_of_mem hp) c (by simp) e.symm

/-- what the collection loop maintains: classes listed once; within a class no label+id twice and every
    entry of that class -/
structure TableOk (t : KeyTable) : Prop where
  classes : (t.map (·.1)).Nodup
  keys : ∀ c l, (c, l) ∈ t → (l.map KeyInfo.key).Nodup
  cls : ∀ c l, (c, l) ∈ t → ∀ k ∈ l, k.keyClass = c

/-! ### the pairing loop (F14 repaired) -/

theorem hasKey_cons (x : KeyInfo) (l : List KeyInfo) (k : String × Option Bytes) :
    hasKey (x :: l) k = (decide (x.key = k) || hasKey l k) := by simp [hasKey]

theorem bool_step (a b : String × Option Bytes) (x : Bool) :
    (!x && decide (a ≠ b)) = !(decide (b = a) || x) := by
  by_cases h : a = b
  · subst h; cases x <;> simp
  · have h' : ¬ b = a := fun e => h e.symm
    cases x <;> simp [h, h']

/-- one round of the pairing loop that does not fail: the entry has public key text, its configured KSKs
    were examined, and the loop goes on — with the entry and its partners taken out when a private entry
    shares its label+id -/
theorem pairLoop_cons {ext : Externals} {cfg : KmConfig} {this : KeyInfo} {rest : List KeyInfo} {st res : PairState}
    (h : pairLoop ext cfg (this :: rest) st = .ok res) :
    ∃ pk info dns, this.pubkey = some pk ∧
      kskInfoLoop ext this.label pk cfg.ksks (.notFound, none) = .ok (info, dns) ∧
      pairLoop ext cfg rest (if hasKey st.privs this.key then
        { pubs := st.pubs.filter (·.key ≠ this.key), privs := st.privs.filter (·.key ≠ this.key),
          pairs := st.pairs ++ [{ pub := this, info, dns }] } else st) = .ok res := by
  rw [pairLoop] at h
  cases hpk : this.pubkey with
  | none => simp [hpk, err] at h
  | some pk =>
    simp only [hpk] at h
    obtain ⟨r, hk, h⟩ := Res.bind_ok h
    refine ⟨pk, r.1, r.2, rfl, hk, ?_⟩
    rw [apply_ite (pairLoop ext cfg rest)]
    exact h

/-- **The pairing loop, in closed form.**  Over an initial list of public entries with pairwise different
    label+id: the pairs are the entries whose label+id also names a private entry, in order; those and
    their partners leave the two tables; nothing else does. -/
theorem pairLoop_spec (ext : Externals) (cfg : KmConfig) :
    ∀ (init : List KeyInfo) (st res : PairState), (init.map KeyInfo.key).Nodup →
      pairLoop ext cfg init st = .ok res →
      res.pairs.map (·.pub) = st.pairs.map (·.pub) ++ init.filter (fun x => hasKey st.privs x.key) ∧
      res.pubs = st.pubs.filter (fun y => !(hasKey (init.filter (fun x => hasKey st.privs x.key)) y.key)) ∧
      res.privs = st.privs.filter (fun y => !(hasKey init y.key)) := by
  intro init
  induction init with
  | nil =>
    intro st res _ h
    simp only [pairLoop, pure, Except.pure, Except.ok.injEq] at h
    subst h
    refine ⟨by simp, ?_, ?_⟩ <;>
      (symm; apply List.filter_eq_self.mpr; intro a _; simp [hasKey])
  | cons this rest ih =>
    intro st res hn h
    simp only [List.map_cons, List.nodup_cons] at hn
    obtain ⟨hthis, hrest⟩ := hn
    have hne : ∀ x ∈ rest, x.key ≠ this.key := by
      intro x hx e; exact hthis (List.mem_map.mpr ⟨x, hx, e⟩)
    obtain ⟨pk, info, dns, _, _, h⟩ := pairLoop_cons h
    cases hp : hasKey st.privs this.key with
    | false =>
      simp only [hp, Bool.false_eq_true, if_false] at h
      obtain ⟨h1, h2, h3⟩ := ih st res hrest h
      refine ⟨?_, ?_, ?_⟩
      · rw [h1]; simp [hp]
      · rw [h2]; simp [hp]
      · rw [h3]
        apply List.filter_congr
        intro y hy
        have : (decide (this.key = y.key)) = false := by
          rw [decide_eq_false_iff_not]
          intro e
          have : hasKey st.privs this.key = true := hasKey_iff.mpr ⟨y, hy, e.symm⟩
          rw [hp] at this; cases this
        simp [hasKey, List.any_cons, this]
    | true =>
      simp only [hp, if_true] at h
      obtain ⟨h1, h2, h3⟩ := ih _ res hrest h
      simp only at h1 h2 h3
      have hcongr : rest.filter (fun x => hasKey (st.privs.filter fun y => decide (y.key ≠ this.key)) x.key)
          = rest.filter (fun x => hasKey st.privs x.key) := by
        apply List.filter_congr
        intro x hx
        exact (hasKey_filter _ (fun k => decide (k ≠ this.key)) _).trans (by simp [hne x hx])
      rw [hcongr] at h1 h2
      refine ⟨?_, ?_, ?_⟩
      · rw [h1]; simp [hp]
      · rw [h2, List.filter_filter]
        apply List.filter_congr
        intro y _
        rw [List.filter_cons, hp, if_pos rfl, hasKey_cons]
        exact bool_step _ _ _
      · rw [h3, List.filter_filter]
        apply List.filter_congr
        intro y _
        rw [hasKey_cons]
        exact bool_step _ _ _

/-- every pair the loop added carries the verdict of `kskInfoLoop` on its public key text -/
theorem pairLoop_entries (ext : Externals) (cfg : KmConfig) :
    ∀ (init : List KeyInfo) (st res : PairState), pairLoop ext cfg init st = .ok res →
      ∀ p ∈ res.pairs, p ∈ st.pairs ∨
        ∃ pk, p.pub.pubkey = some pk ∧ kskInfoLoop ext p.pub.label pk cfg.ksks (.notFound, none) = .ok (p.info, p.dns) := by
  intro init
  induction init with
  | nil =>
    intro st res h p hp
    simp only [pairLoop, pure, Except.pure, Except.ok.injEq] at h
    subst h; exact Or.inl hp
  | cons this rest ih =>
    intro st res h p hp
    obtain ⟨pk, info, dns, hpk, hk, h⟩ := pairLoop_cons h
    rcases ih _ res h p hp with hm | hx
    · split at hm
      · simp only [List.mem_append, List.mem_cons, List.not_mem_nil, or_false] at hm
        rcases hm with hm | rfl
        · exact Or.inl hm
        · exact Or.inr ⟨pk, hpk, hk⟩
      · exact Or.inl hm
    · exact Or.inr hx

/-! ### the table of one slot, in closed form -/

/-- the table `key_inventory` builds for one slot (the fold in `slotListingP`) -/
def tableOf (infos : List KeyInfo) : KeyTable := infos.foldl KeyTable.add []

/-- one round of the collection loop, on the entries of the class of `x`: a label+id already there is skipped -/
def addKey (l : List KeyInfo) (x : KeyInfo) : List KeyInfo := if hasKey l x.key then l else l ++ [x]

/-- what `key_inventory` files under class `c`: the records of that class, the first of each label+id -/
def seen (infos : List KeyInfo) (c : Nat) : List KeyInfo := (infos.filter (fun i => i.keyClass = c)).foldl addKey []

theorem lookup_add (t : KeyTable) (x : KeyInfo) (c : Nat) :
    ((t.add x).lookup c).getD [] = if c = x.keyClass then addKey ((t.lookup c).getD []) x else (t.lookup c).getD [] := by
  unfold KeyTable.add KeyTable.get addKey hasKey
  cases ht : t.lookup x.keyClass with
  | some l =>
    simp only [ht, Option.isSome_some, if_true]
    by_cases hc : c = x.keyClass
    · subst hc
      split
      · simp [*]
      · rw [lookup_set_same _ _ _ (by simp [ht])]; simp [*]
    · rw [if_neg hc]
      split
      · rfl
      · rw [lookup_set_other hc]
  | none =>
    have hx : (t ++ [(x.keyClass, ([] : List KeyInfo))]).lookup x.keyClass = some [] := by
      simp [List.lookup_append, ht]
    simp only [Option.isSome_none, Bool.false_eq_true, if_false, hx, List.any_nil, List.nil_append]
    by_cases hc : c = x.keyClass
    · subst hc
      rw [lookup_set_same _ _ _ (by simp [hx])]; simp [ht]
    · have : (c == x.keyClass) = false := by simpa using hc
      rw [if_neg hc, lookup_set_other hc, List.lookup_append]
      simp [List.lookup, this]

theorem lookup_foldl_add (infos : List KeyInfo) (c : Nat) : ∀ t : KeyTable,
    ((infos.foldl KeyTable.add t).lookup c).getD [] =
      (infos.filter (fun i => i.keyClass = c)).foldl addKey ((t.lookup c).getD []) := by
  induction infos with
  | nil => intro t; rfl
  | cons x r ih =>
    intro t
    rw [List.foldl_cons, ih, lookup_add, List.filter_cons]
    by_cases hc : c = x.keyClass
    · subst hc; simp
    · have : ¬ x.keyClass = c := fun e => hc e.symm
      simp [hc, this]

/-- **The table of a slot, in closed form.** -/
theorem lookup_tableOf (infos : List KeyInfo) (c : Nat) : ((tableOf infos).lookup c).getD [] = seen infos c :=
  lookup_foldl_add infos c []

/-! ### what the fold of `addKey` holds -/

theorem foldl_addKey (l : List KeyInfo) : ∀ acc : List KeyInfo,
    (∀ x ∈ l.foldl addKey acc, x ∈ acc ∨ x ∈ l) ∧
    (∀ k, hasKey (l.foldl addKey acc) k = (hasKey acc k || hasKey l k)) ∧
    ((acc.map KeyInfo.key).Nodup → ((l.foldl addKey acc).map KeyInfo.key).Nodup) := by
  induction l with
  | nil => intro acc; exact ⟨fun x h => .inl h, fun k => by simp [hasKey], id⟩
  | cons y r ih =>
    intro acc
    obtain ⟨h1, h2, h3⟩ := ih (addKey acc y)
    rw [List.foldl_cons]
    unfold addKey at h1 h2 h3 ⊢
    cases hk : hasKey acc y.key with
    | true =>
      simp only [hk, if_true] at h1 h2 h3 ⊢
      refine ⟨fun x hx => (h1 x hx).imp_right (List.mem_cons_of_mem _), fun k => ?_, h3⟩
      rw [h2, hasKey_cons]
      by_cases e : y.key = k
      · subst e; simp [hk]
      · simp [e]
    | false =>
      simp only [hk, Bool.false_eq_true, if_false] at h1 h2 h3 ⊢
      refine ⟨fun x hx => ?_, fun k => ?_, fun hn => h3 ?_⟩
      · rcases h1 x hx with h | h
        · rcases List.mem_append.mp h with h | h
          · exact .inl h
          · exact .inr (by simp at h; simp [h])
        · exact .inr (List.mem_cons_of_mem _ h)
      · rw [h2, hasKey_cons]
        simp [hasKey, Bool.or_assoc]
      · rw [List.map_append, List.nodup_append]
        refine ⟨hn, by simp, ?_⟩
        intro a ha b hb
        simp only [List.map_cons, List.map_nil, List.mem_cons, List.not_mem_nil, or_false] at hb
        subst hb
        intro e
        obtain ⟨z, hz, hze⟩ := List.mem_map.mp ha
        have : hasKey acc y.key = true := hasKey_iff.mpr ⟨z, hz, hze.trans e⟩
        rw [hk] at this; cases this

theorem mem_seen {infos : List KeyInfo} {c : Nat} {x : KeyInfo} (h : x ∈ seen infos c) : x ∈ infos ∧ x.keyClass = c := by
  rcases (foldl_addKey _ []).1 x h with h | h
  · cases h
  · simpa using h

theorem hasKey_seen (infos : List KeyInfo) (c : Nat) (k : String × Option Bytes) :
    hasKey (seen infos c) k = true ↔ ∃ i ∈ infos, i.keyClass = c ∧ i.key = k := by
  unfold seen
  rw [(foldl_addKey _ []).2.1]
  simp [hasKey]

theorem nodup_seen (infos : List KeyInfo) (c : Nat) : ((seen infos c).map KeyInfo.key).Nodup :=
  (foldl_addKey _ []).2.2 (by simp)

/-! ### the table of one slot satisfies `TableOk` -/

/-- the collection loop lists no class twice: a class is appended only when the table does not list it, and
    `set` keeps the classes -/
theorem classes_foldl_add (infos : List KeyInfo) : ∀ t : KeyTable, (t.map (·.1)).Nodup →
    ((infos.foldl KeyTable.add t).map (·.1)).Nodup := by
  induction infos with
  | nil => intro t h; exact h
  | cons x r ih =>
    intro t h
    refine ih _ ?_
    unfold KeyTable.add KeyTable.get
    have h' : ((if (t.lookup x.keyClass).isSome then t else t ++ [(x.keyClass, [])]).map (·.1)).Nodup := by
      split
      · exact h
      · rename_i hn
        rw [List.map_append, List.nodup_append]
        refine ⟨h, by simp, fun a ha b hb e => hn ?_⟩
        obtain rfl : b = x.keyClass := by simpa using hb
        obtain ⟨p, hp, rfl⟩ := List.mem_map.mp ha
        exact List.lookup_isSome_iff.mpr ⟨p, hp, by simp [e]⟩
    generalize (if (t.lookup x.keyClass).isSome then t else t ++ [(x.keyClass, [])]) = t' at h' ⊢
    dsimp only
    split
    · split
      · exact h'
      · rw [map_fst_set]; exact h'
    · exact h'

/-- `TableOk` holds of the table of a slot: a listed class `c` holds `seen infos c` -/
theorem tableOf_ok (infos : List KeyInfo) : TableOk (tableOf infos) := by
  have hc : ((tableOf infos).map (·.1)).Nodup := classes_foldl_add infos [] List.nodup_nil
  have hl : ∀ c l, (c, l) ∈ tableOf infos → l = seen infos c := fun c l h => by
    rw [← lookup_tableOf, lookup_of_mem hc h]; rfl
  exact ⟨hc, fun c l h => hl c l h ▸ nodup_seen infos c, fun c l h k hk => (mem_seen (hl c l h ▸ hk)).2⟩

/-! ### how often a label+id is listed -/

/-- how many entries of the list carry this label+id -/
def countKey (l : List KeyInfo) (k : String × Option Bytes) : Nat := (l.filter (fun y => decide (y.key = k))).length

theorem countKey_eq (l : List KeyInfo) (hn : (l.map KeyInfo.key).Nodup) (k : String × Option Bytes) :
    countKey l k = if hasKey l k then 1 else 0 := by
  induction l with
  | nil => simp [countKey, hasKey]
  | cons x r ih =>
    simp only [List.map_cons, List.nodup_cons] at hn
    have ihr := ih hn.2
    unfold countKey at ihr ⊢
    rw [hasKey_cons, List.filter_cons]
    by_cases hx : x.key = k
    · have hnot : hasKey r k = false := by
        rw [Bool.eq_false_iff]; intro h
        obtain ⟨y, hy, hye⟩ := hasKey_iff.mp h
        exact hn.1 (List.mem_map.mpr ⟨y, hy, hye.trans hx.symm⟩)
      simp only [hx, decide_true, if_true, List.length_cons, ihr, hnot, Bool.true_or, Bool.false_eq_true, if_false]
    · simp only [hx, decide_false, Bool.false_eq_true, if_false, ihr, Bool.false_or]

theorem countKey_seen {infos : List KeyInfo} {i : KeyInfo} (hi : i ∈ infos) : countKey (seen infos i.keyClass) i.key = 1 := by
  rw [countKey_eq _ (nodup_seen _ _), (hasKey_seen _ _ _).mpr ⟨i, hi, rfl, rfl⟩]; rfl

theorem countKey_filter (l : List KeyInfo) (P : String × Option Bytes → Bool) (k : String × Option Bytes) :
    countKey (l.filter (fun x => P x.key)) k = if P k then countKey l k else 0 := by
  unfold countKey
  rw [List.filter_filter]
  cases hP : P k with
  | true =>
    rw [if_pos rfl]
    congr 1
    apply List.filter_congr
    intro x _
    by_cases e : x.key = k
    · simp [e, hP]
    · simp [e]
  | false =>
    rw [if_neg (by simp), List.length_eq_zero_iff, List.filter_eq_nil_iff]
    intro x _
    by_cases e : x.key = k
    · simp [e, hP]
    · simp [e]

end Kskm.Km
