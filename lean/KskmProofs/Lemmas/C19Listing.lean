/-
  `get_key_inventory` against a store (C19): the records it returns are the key objects of the slot, in
  token order, each with its class, label and id — so that the listing theorems, which speak of those
  records, speak of the objects.
-/
import KskmProofs.Lemmas.C19Effects
namespace Kskm.Km

/-- what the inventory records of an object: class, label, id (an empty CKA_ID is "no id"); objects that
    are neither public, private nor secret keys are not recorded -/
def keyInfoView (o : Obj) : Option (Nat × String × Option Bytes) :=
  if o.cls = ckoSecret ∨ o.cls = ckoPublic ∨ o.cls = ckoPrivate then
    some (o.cls, o.label, if o.id = [] then none else some o.id)
  else none

/-- class, label, id of an inventory record -/
def KeyInfo.view (k : KeyInfo) : Nat × String × Option Bytes := (k.keyClass, k.label, k.keyId)

theorem keyIdOfP_bytes (b : Bytes) (st : Store) :
    (keyIdOfP (.bytes b)).runSt st = (.ok (if b = [] then none else some b), st) := by
  cases b with
  | nil => rfl
  | cons x r => rfl

/-- one object of `get_key_inventory` against a store: the record (if the read succeeds) is the
    object's class, label and id -/
theorem inventoryOneP_ok {st st' : Store} {p : String} {n : Nat} {s : SlotSt} (hs : st.slots p n = some s)
    (hn : (s.objects.map (·.handle)).Nodup) {o : Obj} (ho : o ∈ s.objects) {r : Option KeyInfo}
    (h : (inventoryOneP p n o.handle).runSt st = (.ok r, st')) : r.map KeyInfo.view = keyInfoView o := by
  unfold inventoryOneP at h
  rw [runSt_bind, runSt_askOkP, storeStep_getAttr hs hn ho,
    show ["CLASS", "LABEL", "ID"].map o.attr = [.num o.cls, .str o.label, .bytes o.id] by simp [Obj.attr]] at h
  simp only [reduceCtorEq, if_false] at h
  rw [runSt_bind, keyIdOfP_bytes] at h
  simp only at h
  unfold keyInfoOfP at h
  simp only at h
  unfold keyInfoView
  have e24 : ¬ (ckoPublic = ckoSecret) := by decide
  have e34 : ¬ (ckoPrivate = ckoSecret) := by decide
  have e32 : ¬ (ckoPrivate = ckoPublic) := by decide
  by_cases h4 : o.cls = ckoSecret
  · simp only [h4, if_true, true_or] at h ⊢
    simp only [labelOfP, runSt_bind, runSt_pure, Prod.mk.injEq, Except.ok.injEq] at h
    rw [← h.1]; rfl
  · by_cases h2 : o.cls = ckoPublic
    · simp only [h2, e24, if_false, if_true, or_true, true_or] at h ⊢
      rw [runSt_bind] at h
      cases hp : (p11ObjectToPublicKeyP p n o.handle).runSt st with
      | mk pr st1 =>
        rw [hp] at h
        cases pr with
        | error e => simp at h
        | ok pub =>
          simp only [labelOfP, runSt_bind, runSt_pure, Prod.mk.injEq, Except.ok.injEq] at h
          rw [← h.1]
          simp [KeyInfo.view]
    · by_cases h3 : o.cls = ckoPrivate
      · simp only [h3, e34, e32, if_false, if_true, or_true] at h ⊢
        simp only [labelOfP, runSt_bind, runSt_pure, Prod.mk.injEq, Except.ok.injEq] at h
        rw [← h.1]; rfl
      · simp only [h4, h2, h3, if_false, or_self] at h ⊢
        simp only [runSt_pure, Prod.mk.injEq, Except.ok.injEq] at h
        rw [← h.1]; rfl

theorem inventoryLoopP_ok {st : Store} {p : String} {n : Nat} {s : SlotSt} (hs : st.slots p n = some s)
    (hn : (s.objects.map (·.handle)).Nodup) :
    ∀ (os : List Obj), (∀ o ∈ os, o ∈ s.objects) → ∀ (infos : List KeyInfo) (st' : Store),
      (inventoryLoopP p n (os.map (·.handle))).runSt st = (.ok infos, st') →
      infos.map KeyInfo.view = os.filterMap keyInfoView := by
  intro os
  induction os with
  | nil =>
    intro _ infos st' h
    simp only [List.map_nil, inventoryLoopP, runSt_pure, Prod.mk.injEq, Except.ok.injEq] at h
    rw [← h.1]; rfl
  | cons o rest ih =>
    intro hmem infos st' h
    simp only [List.map_cons] at h
    rw [inventoryLoopP] at h
    obtain ⟨r, h1, h2⟩ := runSt_bind_ok_of_readOnly inventoryOneP_ro h
    obtain ⟨more, st2, h3, h4⟩ := runSt_bind_ok h2
    have hview := inventoryOneP_ok hs hn (hmem o List.mem_cons_self) h1
    have hrest := ih (fun x hx => hmem x (List.mem_cons_of_mem _ hx)) more st2 h3
    simp only [runSt_pure, Prod.mk.injEq, Except.ok.injEq] at h4
    rw [← h4.1, List.filterMap_cons]
    cases r with
    | none =>
      simp only [Option.map_none] at hview
      rw [← hview]; exact hrest
    | some k =>
      simp only [Option.map_some] at hview
      rw [← hview]; simp [hrest]

/-- **`get_key_inventory` returns the key objects of the slot**, in token order, with their class, label
    and id (well-formed store). -/
theorem getKeyInventoryP_ok {st st' : Store} {p : String} {n : Nat} {s : SlotSt} (hs : st.slots p n = some s)
    (hn : (s.objects.map (·.handle)).Nodup) {infos : List KeyInfo}
    (h : (getKeyInventoryP p n).runSt st = (.ok infos, st')) :
    infos.map KeyInfo.view = s.objects.filterMap keyInfoView := by
  unfold getKeyInventoryP at h
  rw [runSt_bind, runSt_askOkP, storeStep_find_some _ hs] at h
  simp only [reduceCtorEq, if_false] at h
  have hall : s.objects.filter (fun o => o.matchesTmpl []) = s.objects := by
    apply List.filter_eq_self.mpr
    intro a _; simp [Obj.matchesTmpl]
  rw [hall] at h
  exact inventoryLoopP_ok hs hn s.objects (fun o ho => ho) infos st' h

end Kskm.Km
