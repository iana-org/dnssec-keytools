/-
  Programs over token operations (`Kskm.Km.Prog`): how the two interpretations step; `AllOps P p` (every
  operation the text of `p` can ask satisfies `P`) with its closure under the constructions the model
  uses; and the theorem that ties the interpretations — `refines`: against EVERY token oracle whose
  logged answers are those a store gives, `runTok` returns what `runSt` returns and the store ends where
  `runSt` leaves it.
-/
import Kskm.Keymaster
import KskmProofs.Lemmas.TokM
namespace Kskm.Km

@[simp] theorem runSt_ret {α} (a : α) (st : Store) : (Prog.ret a).runSt st = (.ok a, st) := rfl
@[simp] theorem runSt_pure {α} (a : α) (st : Store) : (pure a : Prog α).runSt st = (.ok a, st) := rfl
@[simp] theorem runSt_fail {α} (f : Fail) (st : Store) : (Prog.fail f : Prog α).runSt st = (.error f, st) := rfl
@[simp] theorem runSt_errP {α} (k : ErrKind) (st : Store) : (errP k : Prog α).runSt st = (.error (.error k), st) := rfl
@[simp] theorem runSt_ask {α} (op : TokOp) (k : TokAns → Prog α) (st : Store) :
    (Prog.ask op k).runSt st = (k (storeStep st op).1).runSt (storeStep st op).2 := rfl
@[simp] theorem runSt_askP (op : TokOp) (st : Store) : (askP op).runSt st = (.ok (storeStep st op).1, (storeStep st op).2) := rfl

theorem runSt_liftP {α} (r : Res α) (st : Store) : (liftP r).runSt st = (r, st) := by
  cases r <;> rfl

theorem bind_def {α β} (p : Prog α) (f : α → Prog β) : p >>= f = p.bind f := rfl

theorem runSt_bind {α β} (p : Prog α) (f : α → Prog β) (st : Store) :
    (p >>= f).runSt st = match p.runSt st with
      | (.ok a, st') => (f a).runSt st'
      | (.error e, st') => (.error e, st') := by
  rw [bind_def]
  induction p generalizing st with
  | ret a => rfl
  | fail e => rfl
  | ask op k ih =>
    simp only [Prog.bind, runSt_ask]
    exact ih _ _

theorem runSt_bind_ok {α β} {p : Prog α} {f : α → Prog β} {st st' : Store} {b : β}
    (h : (p >>= f).runSt st = (.ok b, st')) :
    ∃ a st1, p.runSt st = (.ok a, st1) ∧ (f a).runSt st1 = (.ok b, st') := by
  rw [runSt_bind] at h
  cases hp : p.runSt st with
  | mk r st1 =>
    rw [hp] at h
    cases r with
    | error e => simp at h
    | ok a => exact ⟨a, st1, rfl, h⟩

theorem runSt_bind_of_ok {α β} {p : Prog α} {f : α → Prog β} {st st1 : Store} {a : α}
    (hp : p.runSt st = (.ok a, st1)) : (p >>= f).runSt st = (f a).runSt st1 := by
  rw [runSt_bind, hp]

theorem runSt_bind_of_error {α β} {p : Prog α} {f : α → Prog β} {st st1 : Store} {e : Fail}
    (hp : p.runSt st = (.error e, st1)) : (p >>= f).runSt st = (.error e, st1) := by
  rw [runSt_bind, hp]

theorem runSt_askOkP (op : TokOp) (st : Store) :
    (askOkP op).runSt st =
      if (storeStep st op).1 = .error then (.error (.error .p11), (storeStep st op).2)
      else (.ok (storeStep st op).1, (storeStep st op).2) := by
  unfold askOkP
  rw [runSt_bind, runSt_askP]
  cases h : (storeStep st op).1 <;> simp [errP]

@[simp] theorem runTok_ret {α} (a : α) : (Prog.ret a).runTok = (pure a : TokM α) := rfl
@[simp] theorem runTok_fail {α} (f : Fail) : (Prog.fail f : Prog α).runTok = TokM.fail f := rfl
theorem runTok_ask {α} (op : TokOp) (k : TokAns → Prog α) :
    (Prog.ask op k).runTok = (Kskm.ask op >>= fun a => (k a).runTok) := rfl

theorem runTok_ask_run {α} (op : TokOp) (k : TokAns → Prog α) (t : Token) (s : TokState) :
    (Prog.ask op k).runTok t s =
      (k (t s.count op)).runTok t { count := s.count + 1, log := (op, t s.count op) :: s.log } := by
  rw [runTok_ask, bind_run, ask_run']
  rfl

/-- every operation the program can issue, whatever it is answered, satisfies `P`.  (On the SYNTAX of a program;
    `Plays` of Lemmas/Hsm says the same of a `TokM` function, where a question's continuation is only known on the
    states that reach it — so `Plays` of `p.runTok` does not give `AllOps p` back.) -/
inductive AllOps (P : TokOp → Prop) : {α : Type} → Prog α → Prop
  | ret {α} (a : α) : AllOps P (Prog.ret a)
  | fail {α} (f : Fail) : AllOps P (Prog.fail f : Prog α)
  | ask {α} (op : TokOp) (k : TokAns → Prog α) : P op → (∀ a, AllOps P (k a)) → AllOps P (Prog.ask op k)

namespace AllOps
variable {P : TokOp → Prop} {α β : Type}

theorem pure (a : α) : AllOps P (Pure.pure a : Prog α) := .ret a
theorem errP (k : ErrKind) : AllOps P (Km.errP k : Prog α) := .fail _
theorem liftP (r : Res α) : AllOps P (Km.liftP r) := by cases r <;> constructor
theorem askP (op : TokOp) (h : P op) : AllOps P (Km.askP op) := .ask op _ h (fun a => .ret a)

theorem bind {p : Prog α} {f : α → Prog β} (hp : AllOps P p) (hf : ∀ a, AllOps P (f a)) : AllOps P (p >>= f) := by
  rw [bind_def]
  induction hp with
  | ret a => exact hf a
  | fail e => exact .fail e
  | ask op k hop _ ih => exact .ask op _ hop (fun a => ih a)

theorem askOkP (op : TokOp) (h : P op) : AllOps P (Km.askOkP op) := by
  unfold Km.askOkP
  refine bind (askP op h) (fun a => ?_)
  split
  · exact errP _
  · exact pure _

theorem mono {Q : TokOp → Prop} {p : Prog α} (h : AllOps P p) (hpq : ∀ op, P op → Q op) : AllOps Q p := by
  induction h with
  | ret a => exact .ret a
  | fail e => exact .fail e
  | ask op k hop _ ih => exact .ask op k (hpq _ hop) ih

end AllOps

/-- the operations `ops` (oldest first) were answered, one after the other from `st`, as the store
    semantics answers them -/
def Consistent : Store → List (TokOp × TokAns) → Prop
  | _, [] => True
  | st, (op, a) :: rest => a = (storeStep st op).1 ∧ Consistent (storeStep st op).2 rest

/-- the store after the operations `ops` (oldest first) -/
def replayStore : Store → List (TokOp × TokAns) → Store
  | st, [] => st
  | st, (op, _) :: rest => replayStore (storeStep st op).2 rest

/-- **Refinement.**  Run a program against ANY token oracle.  If the answers it logged during this run
    (the segment `l`, newest first, that the run added to the log) are the answers the store semantics
    gives from `st`, then the oracle run returns exactly what the store-backed run returns, and the
    store the logged operations lead to is the store the store-backed run ends in. -/
theorem refines {α} (p : Prog α) : ∀ (t : Token) (s : TokState) (st : Store),
    ∃ l : List (TokOp × TokAns), (p.runTok t s).2.log = l ++ s.log ∧
      (Consistent st l.reverse →
        (p.runTok t s).1 = (p.runSt st).1 ∧ replayStore st l.reverse = (p.runSt st).2) := by
  induction p with
  | ret a => intro t s st; exact ⟨[], rfl, fun _ => ⟨rfl, rfl⟩⟩
  | fail e => intro t s st; exact ⟨[], rfl, fun _ => ⟨rfl, rfl⟩⟩
  | ask op k ih =>
    intro t s st
    rw [runTok_ask_run]
    generalize t s.count op = a
    obtain ⟨l, hl, hc⟩ := ih a t { count := s.count + 1, log := (op, a) :: s.log } (storeStep st op).2
    refine ⟨l ++ [(op, a)], by rw [hl]; simp, ?_⟩
    intro hcons
    simp only [List.reverse_append, List.reverse_cons, List.reverse_nil, List.nil_append, List.cons_append,
      Consistent] at hcons
    obtain ⟨ha, hrest⟩ := hcons
    subst ha
    obtain ⟨h1, h2⟩ := hc hrest
    simp only [List.reverse_append, List.reverse_cons, List.reverse_nil, List.nil_append, List.cons_append,
      replayStore, runSt_ask]
    exact ⟨h1, h2⟩

end Kskm.Km
