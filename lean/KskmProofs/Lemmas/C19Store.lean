/-
  The store semantics `storeStep` (Kskm/Keymaster.lean) operation by operation: what is answered and what
  the store is afterwards.  Two rules turn facts about operations into facts about programs: a program
  that asks only read operations leaves the store alone (`AllOps.readOnly`), and what every operation
  preserves every program preserves (`runSt_invariant`; so `Store.WF`: `runSt_wf`).

  Then the lookups of kskm/misc/hsm.py against a store: they only read, and what they return is what the
  store holds — `getP11KeyP_none` (nothing found ⇒ no object of that label and class in any searched slot)
  and `getP11KeyP_some` / `getP11KeyP_found` (found ⇒ the one object of that label and class in that slot,
  with its handle and, through `_p11_object_to_public_key`, its key text).
-/
import KskmProofs.Lemmas.C19Prog
namespace Kskm.Km

/-! ### the store semantics, operation by operation -/

theorem slots_setSlot (st : Store) (p : String) (n : Nat) (s : SlotSt) (p' : String) (n' : Nat) :
    (st.setSlot p n s).slots p' n' = if p' = p ∧ n' = n then some s else st.slots p' n' := rfl

theorem objs_of_slots {st : Store} {p : String} {n : Nat} {s : SlotSt} (h : st.slots p n = some s) :
    st.objs p n = s.objects := by simp [Store.objs, h]

theorem mem_objs {st : Store} {p : String} {n : Nat} {o : Obj} (h : o ∈ st.objs p n) :
    ∃ s, st.slots p n = some s ∧ o ∈ s.objects := by
  unfold Store.objs at h
  cases hs : st.slots p n with
  | none => simp [hs] at h
  | some s => exact ⟨s, rfl, by simpa [hs] using h⟩

/-- handles are unique within a slot and below the slot's counter (as the emulator keeps them) -/
def Store.WF (st : Store) : Prop :=
  ∀ p n s, st.slots p n = some s → (s.objects.map (·.handle)).Nodup ∧ ∀ o ∈ s.objects, o.handle < s.next

theorem eq_of_handle {l : List Obj} (hn : (l.map (·.handle)).Nodup) {a b : Obj} (ha : a ∈ l) (hb : b ∈ l)
    (h : a.handle = b.handle) : a = b := by
  induction l with
  | nil => simp at ha
  | cons x r ih =>
    simp only [List.map_cons, List.nodup_cons, List.mem_map, not_exists, not_and] at hn
    rcases List.mem_cons.mp ha with rfl | ha' <;> rcases List.mem_cons.mp hb with rfl | hb'
    · rfl
    · exact absurd h.symm (hn.1 b hb')
    · exact absurd h (hn.1 a ha')
    · exact ih hn.2 ha' hb'

theorem find_handle {l : List Obj} (hn : (l.map (·.handle)).Nodup) {o : Obj} (ho : o ∈ l) :
    l.find? (fun x => x.handle == o.handle) = some o := by
  induction l with
  | nil => simp at ho
  | cons x r ih =>
    rw [List.find?_cons]
    by_cases hx : x.handle = o.handle
    · have : x = o := eq_of_handle hn List.mem_cons_self ho hx
      simp [this]
    · have hne : (x.handle == o.handle) = false := by simpa using hx
      rw [hne]
      simp only [List.map_cons, List.nodup_cons] at hn
      rcases List.mem_cons.mp ho with rfl | ho'
      · exact absurd rfl hx
      · exact ih hn.2 ho'

theorem Store.WF.setSlot {st : Store} (hw : st.WF) (p : String) (n : Nat) {s : SlotSt}
    (h1 : (s.objects.map (·.handle)).Nodup) (h2 : ∀ o ∈ s.objects, o.handle < s.next) : (st.setSlot p n s).WF := by
  intro p' n' x hx
  rw [slots_setSlot] at hx
  split at hx
  · obtain rfl := Option.some.inj hx; exact ⟨h1, h2⟩
  · exact hw p' n' x hx

theorem Store.WF.remove {st : Store} (hw : st.WF) {p : String} {n : Nat} {s : SlotSt} (hs : st.slots p n = some s)
    (h : Nat) : (st.setSlot p n (s.remove h)).WF :=
  hw.setSlot p n ((List.filter_sublist.map _).nodup (hw p n s hs).1)
    fun o ho => (hw p n s hs).2 o (List.mem_filter.mp ho).1

theorem Store.WF.addPair {st : Store} (hw : st.WF) {p : String} {n : Nat} {s : SlotSt} (hs : st.slots p n = some s)
    (label privLabel : String) (k : PoolKey) : (st.setSlot p n (s.addPair label privLabel k)).WF := by
  obtain ⟨h1, h2⟩ := hw p n s hs
  refine hw.setSlot p n ?_ ?_
  · have : ∀ a ∈ s.objects, ¬a.handle = s.next ∧ ¬a.handle = s.next + 1 := fun a ha => by have := h2 a ha; omega
    simpa [SlotSt.addPair, rsaObj, List.nodup_append, h1] using this
  · simp only [SlotSt.addPair, rsaObj, List.mem_append, List.mem_cons, List.not_mem_nil, or_false]
    rintro o (ho | rfl | rfl)
    · have := h2 o ho; omega
    all_goals simp

/-- an operation that cannot change a store -/
def isReadOp : TokOp → Prop
  | .generateKeyPair .. => False
  | .destroyObject .. => False
  | _ => True

theorem storeStep_read (st : Store) (op : TokOp) (h : isReadOp op) : (storeStep st op).2 = st := by
  cases op <;> simp only [isReadOp] at h <;> simp only [storeStep] <;> (repeat' split) <;> rfl

theorem storeStep_find_none {st : Store} {p : String} {n : Nat} (t : List (String × TmplVal))
    (h : st.slots p n = none) : storeStep st (.findObjects p n t) = (.error, st) := by
  simp [storeStep, h]

theorem storeStep_find_some {st : Store} {p : String} {n : Nat} {s : SlotSt} (t : List (String × TmplVal))
    (h : st.slots p n = some s) :
    storeStep st (.findObjects p n t) = (.handles ((s.objects.filter (·.matchesTmpl t)).map (·.handle)), st) := by
  simp [storeStep, h]

theorem storeStep_getAttr {st : Store} {p : String} {n : Nat} {s : SlotSt} (hs : st.slots p n = some s)
    (hn : (s.objects.map (·.handle)).Nodup) {o : Obj} (ho : o ∈ s.objects) (names : List String) :
    storeStep st (.getAttr p n o.handle names) = (.attrs (names.map o.attr), st) := by
  simp [storeStep, hs, find_handle hn ho]

theorem storeStep_destroy {st : Store} {p : String} {n : Nat} {s : SlotSt} (hs : st.slots p n = some s) {o : Obj}
    (ho : o ∈ s.objects) :
    storeStep st (.destroyObject p n o.handle) = (.ok, st.setSlot p n (s.remove o.handle)) := by
  have : s.objects.any (·.handle == o.handle) = true := List.any_eq_true.mpr ⟨o, ho, by simp⟩
  simp [storeStep, hs, this]

theorem mem_objs_remove {st : Store} {p : String} {n : Nat} {s : SlotSt} (hs : st.slots p n = some s) (h : Nat)
    (p' : String) (n' : Nat) (x : Obj) :
    x ∈ (st.setSlot p n (s.remove h)).objs p' n' ↔ x ∈ st.objs p' n' ∧ ¬ (p' = p ∧ n' = n ∧ x.handle = h) := by
  by_cases hpn : p' = p ∧ n' = n
  · obtain ⟨rfl, rfl⟩ := hpn
    simp [Store.objs, slots_setSlot, hs, SlotSt.remove]
  · simp only [Store.objs, slots_setSlot, if_neg hpn]
    exact ⟨fun hx => ⟨hx, fun h' => hpn ⟨h'.1, h'.2.1⟩⟩, fun hx => hx.1⟩

/-- `st'` is `st` with the pair of pool key `k` under `label` appended to slot (`path`, `slot`), that
    slot's counter advanced by two and `k` taken from the pool; nothing else differs -/
def Generated (label path : String) (slot : Nat) (k : PoolKey) (st st' : Store) : Prop :=
  ∃ s pool', st.slots path slot = some s ∧ k ∈ st.pool ∧ st'.pool = pool' ∧
    (∀ x ∈ pool', x ∈ st.pool) ∧
    st'.slots path slot = some (s.addPair label label k) ∧
    ∀ p n, ¬ (p = path ∧ n = slot) → st'.slots p n = st.slots p n

theorem pickPool_spec {bits : Option Nat} {exponent : Option Bytes} :
    ∀ {pool : List PoolKey} {k : PoolKey} {rest : List PoolKey}, pickPool bits exponent pool = some (k, rest) →
      k ∈ pool ∧ some k.bits = bits ∧ k.e = wantedE exponent ∧
      ∀ x ∈ rest, x ∈ pool := by
  intro pool
  induction pool with
  | nil => intro k rest h; simp [pickPool] at h
  | cons a r ih =>
    intro k rest h
    rw [pickPool] at h
    split at h
    · rename_i hc
      simp only [Option.some.injEq, Prod.mk.injEq] at h
      obtain ⟨rfl, rfl⟩ := h
      exact ⟨List.mem_cons_self, hc.1, hc.2, fun x hx => List.mem_cons_of_mem _ hx⟩
    · cases hp : pickPool bits exponent r with
      | none => simp [hp] at h
      | some x =>
        obtain ⟨k', r'⟩ := x
        simp only [hp, Option.some.injEq, Prod.mk.injEq] at h
        obtain ⟨rfl, rfl⟩ := h
        obtain ⟨h1, h2, h3, h4⟩ := ih hp
        refine ⟨List.mem_cons_of_mem _ h1, h2, h3, ?_⟩
        intro x hx
        rcases List.mem_cons.mp hx with rfl | hx'
        · exact List.mem_cons_self
        · exact List.mem_cons_of_mem _ (h4 x hx')

/-- `C_GenerateKeyPair` against a store: an error and no change, or exactly `Generated` -/
theorem generate_step (st : Store) (path : String) (slot : Nat) (label : String) (bits : Option Nat)
    (exponent : Option Bytes) :
    ((storeStep st (.generateKeyPair path slot label bits exponent label)).1 = .error ∧
      (storeStep st (.generateKeyPair path slot label bits exponent label)).2 = st) ∨
    (∃ k, (storeStep st (.generateKeyPair path slot label bits exponent label)).1 ≠ .error ∧
      some k.bits = bits ∧ k.e = wantedE exponent ∧
      Generated label path slot k st (storeStep st (.generateKeyPair path slot label bits exponent label)).2) := by
  simp only [storeStep]
  cases hs : st.slots path slot with
  | none => left; simp
  | some s =>
    cases hp : pickPool bits exponent st.pool with
    | none => left; simp
    | some x =>
      obtain ⟨k, pool'⟩ := x
      obtain ⟨h1, h2, h3, h4⟩ := pickPool_spec hp
      right
      refine ⟨k, by simp, h2, h3, s, pool', hs, h1, rfl, h4, ?_, ?_⟩
      · simp [slots_setSlot]
      · intro p n hpn
        simp [slots_setSlot, hpn]

theorem Generated.objs_target {label path : String} {slot : Nat} {k : PoolKey} {st st' : Store}
    (h : Generated label path slot k st st') :
    ∃ s, st.slots path slot = some s ∧
      st'.objs path slot = st.objs path slot ++
        [rsaObj s.next ckoPublic label k, rsaObj (s.next + 1) ckoPrivate label k] := by
  obtain ⟨s, _, hs, _, _, _, hs', _⟩ := h
  exact ⟨s, hs, by rw [objs_of_slots hs, objs_of_slots hs']; rfl⟩

theorem Generated.mem_objs {label path : String} {slot : Nat} {k : PoolKey} {st st' : Store}
    (h : Generated label path slot k st st') :
    ∃ s, st.slots path slot = some s ∧ ∀ p n o, o ∈ st'.objs p n ↔
      o ∈ st.objs p n ∨ (p = path ∧ n = slot ∧
        (o = rsaObj s.next ckoPublic label k ∨ o = rsaObj (s.next + 1) ckoPrivate label k)) := by
  obtain ⟨s, hs, htarget⟩ := h.objs_target
  refine ⟨s, hs, fun p n o => ?_⟩
  by_cases hpn : p = path ∧ n = slot
  · obtain ⟨rfl, rfl⟩ := hpn
    simp [htarget]
  · obtain ⟨_, _, _, _, _, _, _, ho⟩ := h
    simp only [Store.objs, ho p n hpn]
    exact ⟨Or.inl, fun h' => h'.elim id (fun h'' => absurd ⟨h''.1, h''.2.1⟩ hpn)⟩

theorem storeStep_wf (st : Store) (op : TokOp) (hw : st.WF) : (storeStep st op).2.WF := by
  cases op with
  | generateKeyPair p n label bits exponent privLabel =>
    simp only [storeStep]
    split
    · exact hw
    · split
      · exact hw
      · exact hw.addPair ‹_› _ _ _
  | destroyObject p n h =>
    simp only [storeStep]
    split
    · exact hw
    · split
      · exact hw.remove ‹_› h
      · exact hw
  | _ => rw [storeStep_read]; exact hw; exact trivial

/-! ### from operations to programs -/

theorem AllOps.readOnly {α} {p : Prog α} (h : AllOps isReadOp p) (st : Store) : (p.runSt st).2 = st := by
  induction h generalizing st with
  | ret a => rfl
  | fail e => rfl
  | ask op k hop _ ih =>
    rw [runSt_ask, ih, storeStep_read st op hop]

theorem runSt_bind_of_readOnly {α β} {p : Prog α} (h : AllOps isReadOp p) (f : α → Prog β) (st : Store) :
    (p >>= f).runSt st = match (p.runSt st).1 with
      | .ok a => (f a).runSt st
      | .error e => (.error e, st) := by
  have hst := h.readOnly st
  rw [runSt_bind]
  cases hp : p.runSt st with
  | mk r st' =>
    rw [hp] at hst
    cases hst
    cases r <;> rfl

theorem runSt_bind_ok_of_readOnly {α β} {p : Prog α} (hp : AllOps isReadOp p) {f : α → Prog β} {st st' : Store}
    {b : β} (h : (p >>= f).runSt st = (.ok b, st')) :
    ∃ a, p.runSt st = (.ok a, st) ∧ (f a).runSt st = (.ok b, st') := by
  obtain ⟨a, st1, h1, h2⟩ := runSt_bind_ok h
  obtain rfl : st1 = st := by have := hp.readOnly st; rw [h1] at this; exact this
  exact ⟨a, h1, h2⟩

theorem runSt_invariant {I : Store → Prop} (hI : ∀ st op, I st → I (storeStep st op).2) {α} (p : Prog α) :
    ∀ st, I st → I (p.runSt st).2 := by
  induction p with
  | ret a => intro st h; exact h
  | fail f => intro st h; exact h
  | ask op k ih => intro st h; rw [runSt_ask]; exact ih _ _ (hI st op h)

theorem runSt_wf {α} (p : Prog α) {st : Store} (hw : st.WF) : (p.runSt st).2.WF :=
  runSt_invariant storeStep_wf p st hw

/-! ### the lookups of kskm/misc/hsm.py only read -/

theorem attr1P_ro {a : TokAns} : AllOps isReadOp (attr1P a) := by
  unfold attr1P
  split
  · exact .pure _
  · exact .fail _

theorem attrBytesP_ro {a : AttrAns} : AllOps isReadOp (attrBytesP a) := by
  unfold attrBytesP
  split
  · exact .pure _
  · exact .errP _
  · exact .fail _

/-- `attr1P (← askOkP op)`: read one attribute -/
theorem askAttrP_ro {β} (op : TokOp) {f : AttrAns → Prog β} (h : isReadOp op) (hf : ∀ x, AllOps isReadOp (f x)) :
    AllOps isReadOp (askOkP op >>= fun a => attr1P a >>= f) :=
  (AllOps.askOkP op h).bind fun _ => attr1P_ro.bind hf

theorem askAttrP_run {β} {st : Store} {op : TokOp} {x : AttrAns} (f : AttrAns → Prog β)
    (h : storeStep st op = (.attrs [x], st)) :
    (askOkP op >>= fun a => attr1P a >>= f).runSt st = (f x).runSt st := by
  rw [runSt_bind, runSt_askOkP, h, if_neg nofun]
  exact runSt_bind _ _ _

theorem p11ObjectToPublicKeyP_ro {path : String} {slot handle : Nat} :
    AllOps isReadOp (p11ObjectToPublicKeyP path slot handle) := by
  unfold p11ObjectToPublicKeyP
  refine askAttrP_ro _ trivial fun kt => ?_
  split
  · split
    · refine askAttrP_ro _ trivial fun modulus => askAttrP_ro _ trivial fun exp => ?_
      exact attrBytesP_ro.bind fun e => attrBytesP_ro.bind fun n => (AllOps.liftP _).bind fun _ => .pure _
    · split
      · refine askAttrP_ro _ trivial fun pt => ?_
        split
        · exact .pure _
        · exact .pure _
        · rename_i point _
          split
          · exact .errP _
          · refine askAttrP_ro _ trivial fun ps => attrBytesP_ro.bind fun params => ?_
            have tail : ∀ want, AllOps isReadOp
                (if ((ecUnwrap point).length - 1) * 8 / 2 ≠ want then errP .runtime
                 else pure (some (Base64.encode (ecUnwrap point)))) := fun _ => by
              split
              · exact .errP _
              · exact .pure _
            split
            · exact tail _
            · split
              · exact tail _
              · exact .errP _
        · exact .fail _
      · exact .errP _
  · exact .errP _
  · exact .fail _

/-- `_p11_object_to_public_key` on an RSA object of a well-formed slot: the RFC 3110 text of its
    exponent and modulus -/
theorem p11ObjectToPublicKeyP_rsa {st : Store} {p : String} {n : Nat} {s : SlotSt} (hs : st.slots p n = some s)
    (hn : (s.objects.map (·.handle)).Nodup) {o : Obj} (ho : o ∈ s.objects)
    (hkt : o.keyType = some ckkRsa) {m e : Bytes} (hm : o.attrs.lookup "MODULUS" = some m)
    (he : o.attrs.lookup "PUBLIC_EXPONENT" = some e) :
    (p11ObjectToPublicKeyP p n o.handle).runSt st =
      (match rsaEncode (beNat e) m with
       | .ok txt => (.ok (some txt), st)
       | .error f => (.error f, st)) := by
  have g : ∀ name, storeStep st (.getAttr p n o.handle [name]) = (.attrs [o.attr name], st) :=
    fun name => storeStep_getAttr hs hn ho [name]
  have a1 : o.attr "KEY_TYPE" = .num ckkRsa := by simp [Obj.attr, hkt]
  have a2 : o.attr "MODULUS" = .bytes m := by simp [Obj.attr, hm]
  have a3 : o.attr "PUBLIC_EXPONENT" = .bytes e := by simp [Obj.attr, he]
  unfold p11ObjectToPublicKeyP
  rw [askAttrP_run _ (g _), a1]
  dsimp only
  rw [if_pos rfl, askAttrP_run _ (g _), askAttrP_run _ (g _), a2, a3]
  show (liftP (rsaEncode (beNat e) m) >>= fun txt => pure (some txt)).runSt st = _
  rw [runSt_bind, runSt_liftP]
  cases rsaEncode (beNat e) m <;> rfl

theorem foundKeyTailP_ro {m : P11Module} {label : String} {cls : Nat} {hh : Option Bool} {slot h : Nat}
    {pk : Option String} : AllOps isReadOp (foundKeyTailP m label cls hh slot h pk) := by
  unfold foundKeyTailP
  refine askAttrP_ro _ trivial fun kt => ?_
  split
  · split
    · exact .errP _
    · exact .pure _
  · exact .errP _
  · exact .fail _

theorem foundKeyP_ro {m : P11Module} {label : String} {cls : Nat} {hh : Option Bool} {slot h : Nat} :
    AllOps isReadOp (foundKeyP m label cls hh slot h) := by
  unfold foundKeyP
  split
  · exact p11ObjectToPublicKeyP_ro.bind fun _ => foundKeyTailP_ro
  · exact foundKeyTailP_ro

theorem findInSlotsP_ro {m : P11Module} {label : String} {cls : Nat} {hh : Option Bool} {slots : List Nat} :
    AllOps isReadOp (findInSlotsP m label cls hh slots) := by
  induction slots with
  | nil => exact AllOps.pure _
  | cons sl rest ih =>
    rw [findInSlotsP]
    refine AllOps.bind (AllOps.askOkP _ trivial) (fun r => ?_)
    split
    · exact ih
    · exact foundKeyP_ro
    · exact AllOps.errP _
    · exact AllOps.fail _

theorem getP11KeyP_ro {label : String} {isPublic : Bool} {hh : Option Bool} {mods : List P11Module} :
    AllOps isReadOp (getP11KeyP label isPublic hh mods) := by
  induction mods with
  | nil => exact AllOps.pure _
  | cons m rest ih =>
    rw [getP11KeyP]
    refine findInSlotsP_ro.bind fun r => ?_
    split
    · exact AllOps.pure _
    · exact ih

theorem getP11KeyP_store (label : String) (isPublic : Bool) (hh : Option Bool) (mods : List P11Module)
    (st : Store) : ((getP11KeyP label isPublic hh mods).runSt st).2 = st :=
  getP11KeyP_ro.readOnly st

/-! ### what a lookup returns is what the store holds -/

/-- the object carries this label and class -/
def Obj.named (o : Obj) (label : String) (cls : Nat) : Prop := o.label = label ∧ o.cls = cls

instance (o : Obj) (label : String) (cls : Nat) : Decidable (o.named label cls) := by
  unfold Obj.named; infer_instance

theorem matchesTmpl_lookup (o : Obj) (label : String) (cls : Nat) :
    o.matchesTmpl [("LABEL", .str label), ("CLASS", .num cls)] = decide (o.named label cls) := by
  rw [Bool.eq_iff_iff]
  simp only [Obj.matchesTmpl, Obj.matches1, List.all_cons, List.all_nil, Bool.and_true,
    Bool.and_eq_true, beq_iff_eq]
  exact decide_eq_true_iff.symm

/-- the (module, slot) pairs a lookup searches -/
def searched (mods : List P11Module) : List (String × Nat) :=
  mods.flatMap (fun m => m.sessions.map (fun s => (m.path, s)))

theorem mem_searched {mods : List P11Module} {p : String} {n : Nat} :
    (p, n) ∈ searched mods ↔ ∃ m ∈ mods, m.path = p ∧ n ∈ m.sessions := by
  simp only [searched, List.mem_flatMap, List.mem_map, Prod.mk.injEq]
  constructor
  · rintro ⟨m, hm, s, hs, rfl, rfl⟩; exact ⟨m, hm, rfl, hs⟩
  · rintro ⟨m, hm, rfl, hs⟩; exact ⟨m, hm, n, hs, rfl, rfl⟩

/-- the key record `find_key_by_label` builds for the object with handle `h` -/
structure IsFound (k : P11Key) (path : String) (slot h : Nat) (label : String) (cls : Nat) : Prop where
  module : k.module = path
  slot : k.slot = slot
  label : k.label = label
  keyClass : k.keyClass = cls
  privHandle : k.privHandle = (if cls ≠ ckoPublic then some h else none)
  pubHandle : k.pubHandle = (if cls ≠ ckoSecret then some h else none)

theorem foundKeyTailP_ok {m : P11Module} {label : String} {cls : Nat} {hh : Option Bool} {slot h : Nat}
    {pk : Option String} {st st' : Store} {r : Option P11Key}
    (hr : (foundKeyTailP m label cls hh slot h pk).runSt st = (.ok r, st')) :
    ∃ k, r = some k ∧ IsFound k m.path slot h label cls ∧ k.publicKey = pk := by
  unfold foundKeyTailP at hr
  obtain ⟨_, _, _, hr⟩ := runSt_bind_ok hr
  obtain ⟨kt, _, _, hr⟩ := runSt_bind_ok hr
  cases kt with
  | num n =>
    simp only at hr
    cases hk : keyTypeOf n with
    | none => simp [hk] at hr
    | some t =>
      simp only [hk, runSt_pure, Prod.mk.injEq, Except.ok.injEq] at hr
      exact ⟨_, hr.1.symm, ⟨rfl, rfl, rfl, rfl, rfl, rfl⟩, rfl⟩
  | none => simp at hr
  | bytes b => simp at hr
  | str x => simp at hr

theorem foundKeyP_ok {m : P11Module} {label : String} {cls : Nat} {hh : Option Bool} {slot h : Nat}
    {st st' : Store} {r : Option P11Key} (hr : (foundKeyP m label cls hh slot h).runSt st = (.ok r, st')) :
    ∃ k, r = some k ∧ IsFound k m.path slot h label cls ∧
      (cls ≠ ckoSecret → ((p11ObjectToPublicKeyP m.path slot h).runSt st).1 = .ok k.publicKey) := by
  unfold foundKeyP at hr
  split at hr
  · obtain ⟨pk, st1, h1, hr⟩ := runSt_bind_ok hr
    obtain ⟨k, hk, hf, hpk⟩ := foundKeyTailP_ok hr
    exact ⟨k, hk, hf, fun _ => by rw [h1, hpk]⟩
  · obtain ⟨k, hk, hf, _⟩ := foundKeyTailP_ok hr
    exact ⟨k, hk, hf, fun hc => absurd hc ‹_›⟩

/-- one slot of `find_key_by_label` against a store -/
theorem findInSlotsP_cons_run (m : P11Module) (label : String) (cls : Nat) (hh : Option Bool) (slot : Nat)
    (rest : List Nat) (st : Store) :
    (findInSlotsP m label cls hh (slot :: rest)).runSt st =
      match st.slots m.path slot with
      | none => (.error (.error .p11), st)
      | some s =>
        match (s.objects.filter (fun o => decide (o.named label cls))).map (·.handle) with
        | [] => (findInSlotsP m label cls hh rest).runSt st
        | [h] => (foundKeyP m label cls hh slot h).runSt st
        | _ :: _ :: _ => (.error (.error .runtime), st) := by
  cases hs : st.slots m.path slot with
  | none =>
    rw [findInSlotsP, runSt_bind, runSt_askOkP, storeStep_find_none _ hs]
    simp
  | some s =>
    rw [findInSlotsP, runSt_bind, runSt_askOkP, storeStep_find_some _ hs]
    simp only [matchesTmpl_lookup]
    cases hl : (s.objects.filter (fun o => decide (o.named label cls))).map (·.handle) with
    | nil => simp
    | cons a r =>
      cases r with
      | nil => simp
      | cons b r' => simp

/-- what a successful `find_key_by_label` over `slots` did: every slot came up empty; or one of them holds
    exactly one object of that label and class, which `foundKeyP` turned into the result -/
theorem findInSlotsP_ok {m : P11Module} {label : String} {cls : Nat} {hh : Option Bool} :
    ∀ {slots : List Nat} {st st' : Store} {r : Option P11Key},
      (findInSlotsP m label cls hh slots).runSt st = (.ok r, st') →
      (r = none ∧ ∀ slot ∈ slots, ∀ o ∈ st.objs m.path slot, ¬ o.named label cls) ∨
      ∃ slot ∈ slots, ∃ s o, st.slots m.path slot = some s ∧
        s.objects.filter (fun o => decide (o.named label cls)) = [o] ∧
        (foundKeyP m label cls hh slot o.handle).runSt st = (.ok r, st') := by
  intro slots
  induction slots with
  | nil =>
    intro st st' r hr
    cases hr
    exact .inl ⟨rfl, fun _ hs => absurd hs List.not_mem_nil⟩
  | cons sl rest ih =>
    intro st st' r hr
    rw [findInSlotsP_cons_run] at hr
    cases hsl : st.slots m.path sl with
    | none => simp [hsl] at hr
    | some s =>
      simp only [hsl] at hr
      cases hl : (s.objects.filter (fun o => decide (o.named label cls))).map (·.handle) with
      | nil =>
        simp only [hl] at hr
        have hnone : s.objects.filter (fun o => decide (o.named label cls)) = [] := by simpa using hl
        rcases ih hr with ⟨hr0, hrest⟩ | ⟨slot, hs, x⟩
        · refine .inl ⟨hr0, fun slot hs o ho hn => ?_⟩
          rcases List.mem_cons.mp hs with rfl | hs'
          · simp only [Store.objs, hsl] at ho
            have hm : o ∈ s.objects.filter (fun o => decide (o.named label cls)) := by simp [ho, hn]
            rw [hnone] at hm
            exact absurd hm List.not_mem_nil
          · exact hrest slot hs' o ho hn
        · exact .inr ⟨slot, List.mem_cons_of_mem _ hs, x⟩
      | cons a t =>
        cases t with
        | nil =>
          simp only [hl] at hr
          obtain ⟨o, ho, rfl⟩ := List.map_eq_singleton_iff.mp hl
          exact .inr ⟨sl, List.mem_cons_self, s, o, hsl, ho, hr⟩
        | cons b t' => simp [hl] at hr

theorem getP11KeyP_cons_run (label : String) (isPublic : Bool) (hh : Option Bool) (m : P11Module)
    (rest : List P11Module) (st : Store) :
    (getP11KeyP label isPublic hh (m :: rest)).runSt st =
      match (findInSlotsP m label (classOf isPublic) hh m.sessions).runSt st with
      | (.ok (some k), st') => (.ok (some k), st')
      | (.ok none, st') => (getP11KeyP label isPublic hh rest).runSt st'
      | (.error e, st') => (.error e, st') := by
  rw [getP11KeyP, runSt_bind]
  simp only [classOf]
  cases h : (findInSlotsP m label (if isPublic = true then ckoPublic else ckoPrivate) hh m.sessions).runSt st with
  | mk r st' =>
    cases r with
    | error e => rfl
    | ok o => cases o <;> rfl

/-- what a successful `get_p11_key` did, in terms of the store: no searched slot holds an object of that label and
    class; or a searched slot holds exactly one, and `foundKeyP` on its handle gave the result.  The store is as it was. -/
theorem getP11KeyP_ok {label : String} {isPublic : Bool} {hh : Option Bool} :
    ∀ {mods : List P11Module} {st st' : Store} {r : Option P11Key},
      (getP11KeyP label isPublic hh mods).runSt st = (.ok r, st') →
      (r = none ∧ ∀ p n, (p, n) ∈ searched mods → ∀ o ∈ st.objs p n, ¬ o.named label (classOf isPublic)) ∨
      ∃ m ∈ mods, ∃ slot ∈ m.sessions, ∃ s o, st.slots m.path slot = some s ∧
        s.objects.filter (fun o => decide (o.named label (classOf isPublic))) = [o] ∧
        (foundKeyP m label (classOf isPublic) hh slot o.handle).runSt st = (.ok r, st) := by
  intro mods
  induction mods with
  | nil =>
    intro st st' r hr
    cases hr
    exact .inl ⟨rfl, fun _ _ h => by simp [searched] at h⟩
  | cons m rest ih =>
    intro st st' r hr
    rw [getP11KeyP_cons_run] at hr
    have hro := AllOps.readOnly (p := findInSlotsP m label (classOf isPublic) hh m.sessions) findInSlotsP_ro st
    cases hf : (findInSlotsP m label (classOf isPublic) hh m.sessions).runSt st with
    | mk r1 st1 =>
      rw [hf] at hr hro
      obtain rfl : st1 = st := hro
      rcases r1 with e | _ | k
      · cases hr
      · -- this module came up empty: its slots hold no such object
        rcases findInSlotsP_ok hf with ⟨_, hnone⟩ | ⟨_, _, _, _, _, _, hrun⟩
        · rcases ih hr with ⟨hr0, hrest⟩ | ⟨m', hm', x⟩
          · refine .inl ⟨hr0, fun p n hpn => ?_⟩
            obtain ⟨m', hm', rfl, hn⟩ := mem_searched.mp hpn
            rcases List.mem_cons.mp hm' with rfl | hm'
            · exact hnone n hn
            · exact hrest _ _ (mem_searched.mpr ⟨m', hm', rfl, hn⟩)
          · exact .inr ⟨m', List.mem_cons_of_mem _ hm', x⟩
        · obtain ⟨_, hk, _⟩ := foundKeyP_ok hrun
          cases hk
      · cases hr
        rcases findInSlotsP_ok hf with ⟨h, _⟩ | ⟨slot, hs, s, o, hsl, ho, hrun⟩
        · cases h
        · exact .inr ⟨m, List.mem_cons_self, slot, hs, s, o, hsl, ho, hrun⟩

/-- **Nothing found** ⇒ no object of that label and class in any searched slot. -/
theorem getP11KeyP_none {label : String} {isPublic : Bool} {hh : Option Bool}
    {mods : List P11Module} {st st' : Store} (hr : (getP11KeyP label isPublic hh mods).runSt st = (.ok none, st')) :
    ∀ p n, (p, n) ∈ searched mods → ∀ o ∈ st.objs p n, ¬ o.named label (classOf isPublic) := by
  rcases getP11KeyP_ok hr with ⟨_, h⟩ | ⟨_, _, _, _, _, _, _, _, hrun⟩
  · exact h
  · obtain ⟨_, hk, _⟩ := foundKeyP_ok hrun
    cases hk

/-- **Found** ⇒ it is THE object of that label and class in a searched slot, with its handle. -/
theorem getP11KeyP_some {label : String} {isPublic : Bool} {hh : Option Bool} {k : P11Key}
    {mods : List P11Module} {st st' : Store}
    (hr : (getP11KeyP label isPublic hh mods).runSt st = (.ok (some k), st')) :
    (k.module, k.slot) ∈ searched mods ∧ ∃ s o, st.slots k.module k.slot = some s ∧
      s.objects.filter (fun o => decide (o.named label (classOf isPublic))) = [o] ∧
      IsFound k k.module k.slot o.handle label (classOf isPublic) ∧
      ((p11ObjectToPublicKeyP k.module k.slot o.handle).runSt st).1 = .ok k.publicKey := by
  rcases getP11KeyP_ok hr with ⟨h, _⟩ | ⟨m, hm, slot, hs, s, o, hsl, ho, hrun⟩
  · cases h
  · obtain ⟨_, hk, hfound, hpk⟩ := foundKeyP_ok hrun
    cases hk
    rw [hfound.module, hfound.slot]
    exact ⟨mem_searched.mpr ⟨m, hm, rfl, hs⟩, s, o, hsl, ho, hfound, hpk (by cases isPublic <;> decide)⟩

/-- … in the form the deletion and generation proofs use: membership and uniqueness instead of the filter
    equation, the handles for the class looked up, and only the outcome of the run as hypothesis. -/
theorem getP11KeyP_found {label : String} {isPublic : Bool} {hh : Option Bool} {k : P11Key}
    {mods : List P11Module} {st : Store} (h : ((getP11KeyP label isPublic hh mods).runSt st).1 = .ok (some k)) :
    (k.module, k.slot) ∈ searched mods ∧ ∃ s o, st.slots k.module k.slot = some s ∧ o ∈ s.objects ∧
      o.named label (classOf isPublic) ∧ (∀ o' ∈ s.objects, o'.named label (classOf isPublic) → o' = o) ∧
      k.label = label ∧ k.pubHandle = some o.handle ∧ (isPublic = false → k.privHandle = some o.handle) ∧
      ((p11ObjectToPublicKeyP k.module k.slot o.handle).runSt st).1 = .ok k.publicKey := by
  obtain ⟨hsearched, s, o, hs, hf, hk, hpk⟩ :=
    getP11KeyP_some (Prod.ext h (getP11KeyP_store label isPublic hh mods st) :
      (getP11KeyP label isPublic hh mods).runSt st = (.ok (some k), st))
  have hmem : ∀ x, x ∈ s.objects ∧ x.named label (classOf isPublic) ↔ x = o := by
    intro x
    have := @List.mem_filter _ (fun o : Obj => decide (o.named label (classOf isPublic))) s.objects x
    rw [hf] at this
    simpa using this.symm
  refine ⟨hsearched, s, o, hs, ((hmem o).mpr rfl).1, ((hmem o).mpr rfl).2,
    fun o' h1 h2 => (hmem o').mp ⟨h1, h2⟩, hk.label, ?_, ?_, hpk⟩
  · rw [hk.pubHandle]; cases isPublic <;> rfl
  · rintro rfl; exact hk.privHandle

end Kskm.Km
