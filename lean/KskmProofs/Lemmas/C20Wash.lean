/- Helper lemmas for C20: the washing scan and plain path components. -/
import Kskm.Wksr
import KskmProofs.Lemmas.PyJoin
namespace Kskm.C20
open Kskm.Wksr

theorem washFrom_safe (s : List Nat) : ∀ b, ∀ c ∈ washFrom b s, isSafeCp c = true := by
  induction s with
  | nil => intro b c h; simp [washFrom] at h
  | cons x r ih =>
    intro b c h
    simp only [washFrom] at h
    split at h
    · rename_i hx
      rcases List.mem_cons.mp h with rfl | h
      · exact hx
      · exact ih _ c h
    · split at h
      · exact ih _ c h
      · rcases List.mem_cons.mp h with rfl | h
        · decide
        · exact ih _ c h

theorem washFrom_id_of_safe (s : List Nat) (hs : ∀ c ∈ s, isSafeCp c = true) : ∀ b, washFrom b s = s := by
  induction s with
  | nil => intro b; rfl
  | cons x r ih =>
    intro b
    have hx : isSafeCp x = true := hs x (by simp)
    simp only [washFrom, hx, ↓reduceIte]
    rw [ih (fun c hc => hs c (by simp [hc]))]

/-- a run of unsafe characters yields one underscore unless one was just produced (or the run is empty),
    and the scan goes on behind it knowing that -/
theorem washFrom_unsafe_run (u : List Nat) (hu : ∀ c ∈ u, isSafeCp c = false) (rest : List Nat) :
    ∀ b, washFrom b (u ++ rest) = (if b || u.isEmpty then [] else [95]) ++ washFrom (b || !u.isEmpty) rest := by
  induction u with
  | nil => intro b; simp
  | cons x t ih =>
    intro b
    have hx : isSafeCp x = false := hu x (by simp)
    have ht : ∀ c ∈ t, isSafeCp c = false := fun c h => hu c (by simp [h])
    simp only [List.cons_append, washFrom, hx, Bool.false_eq_true, ↓reduceIte]
    cases b <;> simp [ih ht true]

theorem wksr_splitOn_eq (sep : Nat) (l : List Nat) : splitOn sep l = Py.split sep l := by
  induction l with
  | nil => rfl
  | cons c r ih =>
    simp only [splitOn, Py.split, ih]
    by_cases h : c = sep <;> simp only [h, if_true, if_false]
    cases Py.split sep r <;> rfl

theorem parsePath_plain (name : List Nat) (h47 : 47 ∉ name) (hne : name ≠ []) (hdot : name ≠ [46]) :
    parsePath name = { absolute := false, parts := [name] } := by
  unfold parsePath
  rw [wksr_splitOn_eq, Py.split_word 47 name h47]
  have h1 : (name.head? == some 47) = false := by
    cases name with
    | nil => rfl
    | cons c r =>
      have : c ≠ 47 := fun h => h47 (by simp [h])
      simp [this]
  simp [h1, hne, hdot]
end Kskm.C20
