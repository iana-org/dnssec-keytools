/- `create_skr` echoes the request's header and, per position, each bundle's id and times. -/
import KskmProofs.Lemmas.SignerInv
namespace Kskm

theorem signBundle_echo (ext : Externals) (mods : List P11Module) (cfg : SignerConfig) (slot : Nat)
    (b rb : Bundle) (t : Token) (s s' : TokState)
    (h : signBundle ext mods cfg slot b t s = (.ok rb, s')) :
    rb.id = b.id ∧ rb.inception = b.inception ∧ rb.expiration = b.expiration := by
  obtain ⟨_, hrb, _⟩ := finishBundle_ok (signBundle_finish h)
  rw [hrb]
  exact ⟨rfl, rfl, rfl⟩

def Bundle.stamp (b : Bundle) : String × Int × Int := (b.id, b.inception, b.expiration)

/-- every response bundle was signed from a request bundle, position by position: the stamps agree as lists
    and each member has its run -/
theorem signBundlesFrom_mem {ext : Externals} {mods : List P11Module} {cfg : SignerConfig} {n : Nat}
    {bs rbs : List Bundle} {t : Token} {s s' : TokState}
    (h : signBundlesFrom ext mods cfg n bs t s = (.ok rbs, s')) :
    rbs.map Bundle.stamp = bs.map Bundle.stamp ∧
    ∀ rb ∈ rbs, ∃ b ∈ bs, ∃ slot s1 s2, signBundle ext mods cfg slot b t s1 = (.ok rb, s2) := by
  induction bs generalizing n rbs s with
  | nil =>
    simp only [signBundlesFrom_nil, TokM.pure_run, Prod.mk.injEq, Except.ok.injEq] at h
    rw [← h.1]; exact ⟨rfl, fun _ h => absurd h List.not_mem_nil⟩
  | cons b rest ih =>
    rw [signBundlesFrom_cons] at h
    obtain ⟨rb, s1, hrb, h⟩ := TokM.bind_ok h
    obtain ⟨more, s2, hmore, h⟩ := TokM.bind_ok h
    simp only [TokM.pure_run, Prod.mk.injEq, Except.ok.injEq] at h
    obtain ⟨rfl, rfl⟩ := h
    obtain ⟨ih1, ih2⟩ := ih hmore
    obtain ⟨e1, e2, e3⟩ := signBundle_echo _ _ _ _ _ _ _ _ _ hrb
    refine ⟨by simp only [List.map_cons, ih1, Bundle.stamp, e1, e2, e3], fun x hx => ?_⟩
    rcases List.mem_cons.mp hx with rfl | hx
    · exact ⟨b, List.mem_cons_self, n, s, s1, hrb⟩
    · obtain ⟨b', hb', r⟩ := ih2 x hx
      exact ⟨b', List.mem_cons_of_mem _ hb', r⟩

/-- **What `create_skr` returns**: the request's header, the KSK policy computed from the bundles, and bundles
    that echo the request's stamps, each signed from a request bundle. -/
theorem createSkr_ok {ext : Externals} {mods : List P11Module} {cfg : SignerConfig} {req : Request}
    {skr : Response} {t : Token} {s s' : TokState} (h : createSkr ext mods cfg req t s = (.ok skr, s')) :
    ∃ kp, kskSignaturePolicy cfg.kskPolicy skr.bundles = .ok kp ∧
      skr = { id := req.id, serial := req.serial, domain := req.domain, timestamp := none,
              zskPolicy := req.zskPolicy, kskPolicy := kp, bundles := skr.bundles } ∧
      skr.bundles.map Bundle.stamp = req.bundles.map Bundle.stamp ∧
      ∀ rb ∈ skr.bundles, ∃ b ∈ req.bundles, ∃ slot s1 s2, signBundle ext mods cfg slot b t s1 = (.ok rb, s2) := by
  unfold createSkr at h
  obtain ⟨bundles, s1, hb, h⟩ := TokM.bind_ok h
  obtain ⟨kp, hkp, h⟩ := TokM.lift_bind_ok_iff.mp h
  simp only [TokM.pure_run, Prod.mk.injEq, Except.ok.injEq] at h
  obtain ⟨rfl, rfl⟩ := h
  exact ⟨kp, hkp, rfl, signBundlesFrom_mem hb⟩

theorem createSkr_echo (ext : Externals) (mods : List P11Module) (cfg : SignerConfig) (req : Request)
    (resp : Response) (t : Token) (s s' : TokState)
    (h : createSkr ext mods cfg req t s = (.ok resp, s')) :
    resp.id = req.id ∧ resp.serial = req.serial ∧ resp.domain = req.domain ∧
    resp.zskPolicy = req.zskPolicy ∧ resp.timestamp = none ∧
    resp.bundles.map Bundle.stamp = req.bundles.map Bundle.stamp := by
  obtain ⟨kp, _, e, hst, _⟩ := createSkr_ok h
  rw [e]
  exact ⟨rfl, rfl, rfl, rfl, rfl, hst⟩

end Kskm
