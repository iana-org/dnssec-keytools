/-! Facts about core's `List` that several regions need and core does not state in this form.  No statement
    mentions a definition of the development, so the module imports nothing and can sit under every other one;
    what speaks of `Res` is in `Lemmas/Res.lean`. -/

namespace Kskm

/-! ### scanning with `takeWhile` / `dropWhile` -/

/-- a run of `p`-elements followed by something that does not start with one -/
theorem takeWhile_append_stop {α} (p : α → Bool) (l r : List α)
    (hl : ∀ c ∈ l, p c = true) (hr : ∀ c, r.head? = some c → p c = false) :
    (l ++ r).takeWhile p = l ∧ (l ++ r).dropWhile p = r := by
  rw [List.takeWhile_append_of_pos hl, List.dropWhile_append_of_pos hl]
  cases r with
  | nil => simp
  | cons c t => simp [hr c rfl]

theorem takeWhile_all {α} (p : α → Bool) (k : List α) (hk : ∀ c ∈ k, p c = true) : k.takeWhile p = k := by
  simpa using List.takeWhile_append_of_pos (l₂ := []) hk

theorem mem_takeWhile_imp {α} {p : α → Bool} {l : List α} {x : α} (h : x ∈ l.takeWhile p) : p x = true :=
  List.all_eq_true.mp List.all_takeWhile x h

/-! ### association lists -/

theorem mem_of_lookup {α β} [BEq α] [LawfulBEq α] {l : List (α × β)} {a : α} {b : β}
    (h : l.lookup a = some b) : (a, b) ∈ l := by
  obtain ⟨l₁, l₂, rfl, _⟩ := List.lookup_eq_some_iff.mp h
  simp

/-- a lookup sees only the first entry of each key, so it is the same on every order of a list without
    repeated keys -/
theorem lookup_perm {α β} [BEq α] [LawfulBEq α] {a a' : List (α × β)} (hp : a.Perm a')
    (hn : (a.map (·.1)).Nodup) (k : α) : a.lookup k = a'.lookup k := by
  induction hp with
  | nil => rfl
  | cons x _ ih =>
    obtain ⟨xk, xv⟩ := x
    simp only [List.map_cons, List.nodup_cons] at hn
    simp only [List.lookup_cons]
    cases (k == xk) with
    | true => rfl
    | false => exact ih hn.2
  | swap x y l =>
    obtain ⟨xk, xv⟩ := x
    obtain ⟨yk, yv⟩ := y
    simp only [List.map_cons, List.nodup_cons, List.mem_cons, not_or] at hn
    simp only [List.lookup_cons]
    cases hx : (k == xk) with
    | false => rfl
    | true =>
      cases hy : (k == yk) with
      | false => rfl
      | true => exact absurd ((beq_iff_eq.mp hy).symm.trans (beq_iff_eq.mp hx)) hn.1.1
  | trans h1 _ ih1 ih2 =>
    rw [ih1 hn]
    exact ih2 ((h1.map (·.1)).nodup_iff.mp hn)

theorem lookup_append_other {α β} [BEq α] [LawfulBEq α] {d : List (α × β)} {k k' : α} {v : β} (hne : k' ≠ k) :
    (d ++ [(k, v)]).lookup k' = d.lookup k' := by
  simp [List.lookup_append, List.lookup_cons, beq_eq_false_iff_ne.mpr hne]

theorem lookup_append_fresh {α β} [BEq α] [LawfulBEq α] (d : List (α × β)) (k : α) (v : β)
    (h : d.lookup k = none) : (d ++ [(k, v)]).lookup k = some v := by
  simp [List.lookup_append, h]

/-! ### keys without repetition -/

theorem eq_of_pairwise_ne {α β} (f : α → β) {l : List α} (hd : l.Pairwise (fun a b => f a ≠ f b)) :
    ∀ a ∈ l, ∀ b ∈ l, f a = f b → a = b := by
  induction l with
  | nil => intro a ha; simp at ha
  | cons x r ih =>
    rw [List.pairwise_cons] at hd
    intro a ha b hb he
    rcases List.mem_cons.mp ha with rfl | ha' <;> rcases List.mem_cons.mp hb with rfl | hb'
    · rfl
    · exact absurd he (hd.1 b hb')
    · exact absurd he.symm (hd.1 a ha')
    · exact ih hd.2 a ha' b hb' he

/-- a scan "does some later element carry the same key" finds nothing exactly when the keys are pairwise
    distinct -/
theorem dupScan_eq_false_iff {α β} [DecidableEq β] (key : α → β) (dup : List α → Bool)
    (hnil : dup [] = false)
    (hcons : ∀ a r, dup (a :: r) = (r.any (fun x => decide (key x = key a)) || dup r)) :
    ∀ l, dup l = false ↔ (l.map key).Nodup
  | [] => by simp [hnil]
  | a :: r => by
    simp only [hcons, Bool.or_eq_false_iff, dupScan_eq_false_iff key dup hnil hcons r, List.map_cons,
      List.nodup_cons]
    apply and_congr_left'
    simp only [List.any_eq_false, decide_eq_true_eq, List.mem_map, not_exists, not_and]

/-- core has the members of `eraseDups` only -/
theorem nodup_eraseDups {α} [BEq α] [LawfulBEq α] : ∀ l : List α, l.eraseDups.Nodup
  | [] => by simp
  | a :: as => by
    rw [List.eraseDups_cons, List.nodup_cons]
    exact ⟨by rw [List.mem_eraseDups]; simp, nodup_eraseDups _⟩
termination_by l => l.length
decreasing_by
  have := List.length_filter_le (fun b => !b == a) as
  simp only [List.length_cons]; omega

/-! Python's `if x not in seen: seen.append(x)`: one step, and the loop -/

theorem mem_insertNew {α} [BEq α] [LawfulBEq α] (acc : List α) (a x : α) :
    x ∈ (if acc.contains a then acc else acc ++ [a]) ↔ x ∈ acc ∨ x = a := by
  by_cases hc : a ∈ acc
  · rw [if_pos (List.contains_iff_mem.mpr hc)]
    exact ⟨Or.inl, fun h => h.elim id (· ▸ hc)⟩
  · rw [if_neg (fun h => hc (List.contains_iff_mem.mp h)), List.mem_append, List.mem_singleton]

theorem nodup_insertNew {α} [BEq α] [LawfulBEq α] {acc : List α} (a : α) (h : acc.Nodup) :
    (if acc.contains a then acc else acc ++ [a]).Nodup := by
  split
  · exact h
  · rename_i hc
    rw [List.nodup_append]
    exact ⟨h, by simp, fun x hx y hy e => hc (List.contains_iff_mem.mpr
      ((List.mem_singleton.mp hy) ▸ e ▸ hx))⟩

theorem dedupFold_mem {α} [BEq α] [LawfulBEq α] (l acc : List α) (x : α) :
    x ∈ l.foldl (fun acc a => if acc.contains a then acc else acc ++ [a]) acc ↔ x ∈ acc ∨ x ∈ l := by
  induction l generalizing acc with
  | nil => simp
  | cons a l ih => rw [List.foldl_cons, ih, mem_insertNew, List.mem_cons, or_assoc]

theorem dedupFold_nodup {α} [BEq α] [LawfulBEq α] (l acc : List α) (h : acc.Nodup) :
    (l.foldl (fun acc a => if acc.contains a then acc else acc ++ [a]) acc).Nodup := by
  induction l generalizing acc with
  | nil => exact h
  | cons a l ih => exact ih _ (nodup_insertNew a h)

/-! ### the first element such that -/

/-- the first element that `Q`, all before it `P`: where a loop that stops at its first failure stops -/
def FirstSuch {α} (P Q : α → Prop) (l : List α) : Prop :=
  ∃ pre a post, l = pre ++ a :: post ∧ (∀ y ∈ pre, P y) ∧ Q a

theorem firstSuch_cons {α} (P Q : α → Prop) (x : α) (r : List α) :
    FirstSuch P Q (x :: r) ↔ Q x ∨ (P x ∧ FirstSuch P Q r) := by
  constructor
  · rintro ⟨pre, a, post, heq, hpre, ha⟩
    cases pre with
    | nil => obtain ⟨rfl, _⟩ := List.cons.inj heq; exact Or.inl ha
    | cons y pre =>
      obtain ⟨rfl, rfl⟩ := List.cons.inj heq
      exact Or.inr ⟨hpre x (List.mem_cons_self ..), pre, a, post, rfl,
        fun y hy => hpre y (List.mem_cons_of_mem _ hy), ha⟩
  · rintro (hx | ⟨hx, pre, a, post, rfl, hpre, ha⟩)
    · exact ⟨[], x, r, rfl, by simp, hx⟩
    · exact ⟨x :: pre, a, post, rfl, List.forall_mem_cons.mpr ⟨hx, hpre⟩, ha⟩

theorem not_firstSuch_nil {α} (P Q : α → Prop) : ¬ FirstSuch P Q [] := by
  rintro ⟨pre, a, post, h, _⟩; cases pre <;> cases h

theorem all_or_firstSuch {α} (P : α → Prop) (l : List α) : (∀ x ∈ l, P x) ∨ FirstSuch P (fun x => ¬ P x) l := by
  induction l with
  | nil => exact .inl fun _ h => absurd h List.not_mem_nil
  | cons x r ih =>
    rw [firstSuch_cons, List.forall_mem_cons]
    by_cases hx : P x
    · exact ih.imp (And.intro hx) fun h => .inr ⟨hx, h⟩
    · exact .inr (.inl hx)

/-! ### positions -/

/-- the positional form in which the clauses speak of all pairs of a list -/
theorem pairwise_iff_getElem? {α} {R : α → α → Prop} {l : List α} :
    l.Pairwise R ↔ ∀ (i j : Nat) (a b : α), i < j → l[i]? = some a → l[j]? = some b → R a b := by
  rw [List.pairwise_iff_getElem]
  constructor
  · intro h i j a b hij ha hb
    obtain ⟨hi, rfl⟩ := List.getElem?_eq_some_iff.mp ha
    obtain ⟨hj, rfl⟩ := List.getElem?_eq_some_iff.mp hb
    exact h i j hi hj hij
  · intro h i j hi hj hij
    exact h i j _ _ hij (List.getElem?_eq_getElem hi) (List.getElem?_eq_getElem hj)

/-! ### sorting makes canonical -/

/-- `mergeSort` by a total preorder returns THE sorted arrangement of a list on whose elements the preorder
    is antisymmetric: a sorted list is determined by its elements (`List.Perm.eq_of_pairwise`) -/
theorem mergeSort_eq_of_sorted_perm {α} {le : α → α → Bool}
    (htrans : ∀ a b c, le a b = true → le b c = true → le a c = true) (htotal : ∀ a b, (le a b || le b a) = true)
    {m l : List α} (hp : m.Perm l) (hs : m.Pairwise (fun a b => le a b = true))
    (hanti : ∀ a ∈ l, ∀ b ∈ l, le a b = true → le b a = true → a = b) : l.mergeSort le = m :=
  List.Perm.eq_of_pairwise (le := fun a b => le a b = true)
    (fun a b ha hb => hanti a ((List.mergeSort_perm l _).mem_iff.mp ha) b (hp.mem_iff.mp hb))
    (List.pairwise_mergeSort htrans htotal l) hs ((List.mergeSort_perm l _).trans hp.symm)

/-- hence ONE list for all orders of such a list -/
theorem mergeSort_eq_of_perm {α} {le : α → α → Bool} (htrans : ∀ a b c, le a b = true → le b c = true → le a c = true)
    (htotal : ∀ a b, (le a b || le b a) = true) {l₁ l₂ : List α} (hp : l₁.Perm l₂)
    (hanti : ∀ a ∈ l₁, ∀ b ∈ l₁, le a b = true → le b a = true → a = b) : l₁.mergeSort le = l₂.mergeSort le :=
  mergeSort_eq_of_sorted_perm htrans htotal ((List.mergeSort_perm l₂ _).trans hp.symm)
    (List.pairwise_mergeSort htrans htotal l₂) hanti

end Kskm
