/-
  The token-facing model (`Kskm.Hsm`, `Kskm.Signer`).

  * `Emits P m`: every operation `m` issues, on any token and whatever the outcome, satisfies `P`
    (so "no private-key operation", "only this module is touched" are one-line corollaries);
  * `Plays P E m`: `m` asks only operations satisfying `P` and reports only policy violations satisfying `E`;
    each operation of the model is walked once (`…_plays`), with the strongest predicates that fit it,
    and `Emits`, `ResultVia` (Lemmas/TokRel), `NeverViol` (Lemmas/HsmNoViol) are read off;
  * `…_yields`: the lookups walked for `Yields` (Lemmas/TokM), i.e. what a key they return looks like;
  * run lemmas: how `findInSlots`, `getP11Key`, `openSessions` step, given the answer of the oracle to the
    next operation; what `p11ObjectToPublicKey` and `foundKeyTail` compute from the attributes the token
    `Answers`;
  * `load_pkcs11_key` inside the validity window is the lookup, the second lookup for the public part and
    the pure acceptance test `acceptKey`, composed (`loadPkcs11Key_inside`).

  Definitions here (`foundKey`, `acceptKey`, `refetchPublic`, `loadInside`) are *views* of code that is inline
  in the model; each is tied to the model by an equation proved below, never assumed.
-/
import Kskm.Signer
import KskmProofs.Lemmas.TokM
import KskmProofs.Lemmas.Res
namespace Kskm

/-- every operation `m` issues (on any token, from any state, whatever the outcome) satisfies `P`;
    the operation counter advances by exactly the number of logged operations -/
def Emits {α} (P : TokOp → Prop) (m : TokM α) : Prop :=
  ∀ tok s, ∃ l : List (TokOp × TokAns), (m tok s).2.log = l ++ s.log ∧
    (m tok s).2.count = s.count + l.length ∧ ∀ e ∈ l, P e.1

namespace Emits
variable {α β : Type} {P : TokOp → Prop}

theorem pure (a : α) : Emits P (Pure.pure a : TokM α) := fun _ _ => ⟨[], rfl, rfl, by simp⟩
theorem fail (f : Fail) : Emits P (TokM.fail f : TokM α) := fun _ _ => ⟨[], rfl, rfl, by simp⟩
theorem err (k : ErrKind) : Emits P (TokM.err k : TokM α) := fail _
theorem lift (r : Res α) : Emits P (TokM.lift r : TokM α) := fun _ _ => ⟨[], rfl, rfl, by simp⟩

theorem ask (op : TokOp) (h : P op) : Emits P (Kskm.ask op) := fun tok s =>
  ⟨[(op, tok s.count op)], rfl, rfl, by simpa using h⟩

theorem bind {m : TokM α} {f : α → TokM β} (hm : Emits P m) (hf : ∀ a, Emits P (f a)) :
    Emits P (m >>= f) := by
  intro tok s
  obtain ⟨l1, e1, c1, p1⟩ := hm tok s
  rw [bind_run]
  cases hr : m tok s with
  | mk r s1 =>
    rw [hr] at e1 c1
    cases r with
    | error e => exact ⟨l1, e1, c1, p1⟩
    | ok a =>
      obtain ⟨l2, e2, c2, p2⟩ := hf a tok s1
      refine ⟨l2 ++ l1, ?_, ?_, ?_⟩
      · simp only at e1 ⊢; rw [e2, e1, List.append_assoc]
      · simp only at c1 ⊢; rw [c2, c1, List.length_append]; omega
      · intro e he
        rcases List.mem_append.mp he with h | h
        · exact p2 e h
        · exact p1 e h

theorem mono {Q : TokOp → Prop} {m : TokM α} (h : Emits P m) (hpq : ∀ op, P op → Q op) :
    Emits Q m := by
  intro tok s
  obtain ⟨l, e, c, p⟩ := h tok s
  exact ⟨l, e, c, fun x hx => hpq _ (p x hx)⟩

/-- the form in which `Emits` is used: outcome and final state given -/
theorem run {m : TokM α} (h : Emits P m) {tok : Token} {s s' : TokState} {r : Res α}
    (hr : m tok s = (r, s')) :
    ∃ l : List (TokOp × TokAns), s'.log = l ++ s.log ∧ s'.count = s.count + l.length ∧
      ∀ e ∈ l, P e.1 := by
  have := h tok s
  rw [hr] at this
  exact this

end Emits

/-- a result that is not a policy violation -/
def NoViol {α} (r : Res α) : Prop := ∀ rule, r ≠ .error (.violation rule)

namespace NoViol
variable {α β : Type}
theorem pure (a : α) : NoViol (Pure.pure a : Res α) := fun _ h => by cases h
theorem err (k : ErrKind) : NoViol (Kskm.err k : Res α) := fun _ h => by cases h
theorem unsupported : NoViol (Kskm.unsupported : Res α) := fun _ h => by cases h
theorem bind {x : Res α} {f : α → Res β} (hx : NoViol x) (hf : ∀ a, NoViol (f a)) :
    NoViol (x >>= f) := by
  cases x with
  | error e => exact fun rule h => hx rule (by cases h; rfl)
  | ok a => exact hf a
end NoViol

theorem rsaEncode_noViol (e : Nat) (n : Bytes) : NoViol (rsaEncode e n) := by
  refine NoViol.bind ?_ fun _ => NoViol.pure _
  unfold rsaEncodeBytes
  dsimp only
  split
  · split
    · exact NoViol.pure _
    · exact NoViol.err _
  · exact NoViol.pure _

/-- `m` is an interaction with the token that asks only operations satisfying `P` and reports only
    policy violations satisfying `E`: it is an outcome, or a question followed, whatever the answer, by
    such an interaction.  One walk over the text of an operation establishes this; `Emits P m`
    (`Plays.emits`), `ResultVia P m` (`Plays.via`) and, when no violation is allowed, `NeverViol m`
    (`Plays.neverViol`) follow. -/
inductive Plays {α : Type} (P : TokOp → Prop) (E : Rule → Prop) : TokM α → Prop
  | pure (a : α) : Plays P E (Pure.pure a)
  | fail (e : Fail) (h : ∀ r, e = .violation r → E r) : Plays P E (TokM.fail e)
  | ask (op : TokOp) (k : TokAns → TokM α) (h : P op) (hk : ∀ a, Plays P E (k a)) :
      Plays P E (Kskm.ask op >>= k)

namespace Plays
variable {α β : Type} {P : TokOp → Prop} {E : Rule → Prop}

theorem err (k : ErrKind) : Plays P E (TokM.err k : TokM α) := .fail _ nofun
theorem unsupported : Plays P E (TokM.fail .unsupported : TokM α) := .fail _ nofun
theorem violation (r : Rule) (h : E r) : Plays P E (TokM.fail (.violation r) : TokM α) :=
  .fail _ fun _ he => by cases he; exact h

theorem lift {r : Res α} (h : ∀ rule, r = .error (.violation rule) → E rule) : Plays P E (TokM.lift r) := by
  cases r with
  | ok a => exact .pure a
  | error e => exact .fail e fun rule he => h rule (he ▸ rfl)

/- `(ask op >>= k) >>= f` and `ask op >>= fun a => k a >>= f` are the same function by unfolding. -/
theorem bind {m : TokM α} {f : α → TokM β} (hm : Plays P E m) (hf : ∀ a, Plays P E (f a)) :
    Plays P E (m >>= f) := by
  induction hm with
  | pure a => exact hf a
  | fail e h => exact .fail e h
  | ask op k h _ ih => exact .ask op (fun a => k a >>= f) h ih

theorem askOk (op : TokOp) (h : P op) : Plays P E (Kskm.askOk op) := by
  unfold Kskm.askOk
  refine .ask op _ h fun a => ?_
  split
  · exact .err _
  · exact .pure _

theorem mono {P' : TokOp → Prop} {E' : Rule → Prop} {m : TokM α} (h : Plays P E m)
    (hP : ∀ op, P op → P' op) (hE : ∀ r, E r → E' r) : Plays P' E' m := by
  induction h with
  | pure a => exact .pure a
  | fail e h => exact .fail e fun r he => hE r (h r he)
  | ask op k h _ ih => exact .ask op k (hP op h) ih

theorem emits {m : TokM α} (h : Plays P E m) : Emits P m := by
  induction h with
  | pure a => exact Emits.pure a
  | fail e _ => exact Emits.fail e
  | ask op k h _ ih => exact Emits.bind (Emits.ask op h) ih

theorem violation_of {m : TokM α} (h : Plays P E m) (t : Token) (s : TokState) {r : Rule}
    (hr : (m t s).1 = .error (.violation r)) : E r := by
  induction h generalizing s with
  | pure a => cases hr
  | fail e h => exact h r (by cases hr; rfl)
  | ask op k _ _ ih => exact ih _ _ hr

end Plays

/-- `mapM` asks what its body asks -/
theorem Plays.mapM {α β : Type} {P E} {f : α → TokM β} : ∀ (l : List α), (∀ a ∈ l, Plays P E (f a)) →
    Plays P E (l.mapM f)
  | [], _ => .pure _
  | a :: l, h => by
    rw [List.mapM_cons]
    exact (h a (by simp)).bind fun _ => (Plays.mapM l fun x hx => h x (by simp [hx])).bind fun _ => .pure _

theorem Emits.askOk {P : TokOp → Prop} (op : TokOp) (h : P op) : Emits P (Kskm.askOk op) :=
  (Plays.askOk (E := fun _ => True) op h).emits

theorem attr1_plays {P E} (a : TokAns) : Plays P E (attr1 a) := by
  unfold attr1; split
  · exact .pure _
  · exact .unsupported

theorem attrBytes_plays {P E} (a : AttrAns) : Plays P E (attrBytes a) := by
  unfold attrBytes; split
  · exact .pure _
  · exact .err _
  · exact .unsupported

/-- `attr1 (← askOk op)`: read one attribute -/
theorem Plays.askAttr {β P E} (op : TokOp) {f : AttrAns → TokM β} (h : P op) (hf : ∀ x, Plays P E (f x)) :
    Plays P E (Kskm.askOk op >>= fun a => attr1 a >>= f) :=
  (Plays.askOk op h).bind fun a => (attr1_plays a).bind hf

/-- the token answers `x` when asked for attribute `name` of this object, at whatever operation index -/
def Answers (tok : Token) (path : String) (slot h : Nat) (name : String) (x : AttrAns) : Prop :=
  ∀ i, tok i (.getAttr path slot h [name]) = .attrs [x]

/-- the state after that read -/
def TokState.read (s : TokState) (path : String) (slot h : Nat) (name : String) (x : AttrAns) : TokState :=
  s.push (.getAttr path slot h [name]) (.attrs [x])

/-- `attr1 (← askOk op)` when the answer at the current index is known -/
theorem read_run {β} {tok : Token} {path : String} {slot h : Nat} {name : String} {x : AttrAns} {s : TokState}
    (ha : tok s.count (.getAttr path slot h [name]) = .attrs [x]) (f : AttrAns → TokM β) :
    (askOk (.getAttr path slot h [name]) >>= fun a => attr1 a >>= f) tok s = f x tok (s.read path slot h name x) := by
  rw [bind_run, askOk_run, ha, if_neg nofun]
  rfl

/-- a read-only operation (find objects / get attributes) on module `path` -/
def IsReadOn (path : String) : TokOp → Prop
  | .findObjects m _ _ => m = path
  | .getAttr m _ _ _ => m = path
  | _ => False

/-- a `getAttr` on exactly this object -/
def IsGetAttrOf (path : String) (slot handle : Nat) : TokOp → Prop
  | .getAttr m s h _ => m = path ∧ s = slot ∧ h = handle
  | _ => False

theorem IsGetAttrOf.isReadOn {path : String} {slot handle : Nat} {op : TokOp}
    (h : IsGetAttrOf path slot handle op) : IsReadOn path op := by
  cases op <;> first | exact h.elim | exact h.1

theorem IsReadOn.not_sign {path : String} {op : TokOp} (h : IsReadOn path op) : isSignOp op = false := by
  cases op <;> first | exact h.elim | rfl

/-- what `find_key_by_label` asks of module `m`: the objects with this label and class, attributes -/
def IsLookupOn (m : P11Module) (label : String) (cls : Nat) : TokOp → Prop
  | .findObjects p _ t => p = m.path ∧ t = [("LABEL", .str label), ("CLASS", .num cls)]
  | .getAttr p _ _ _ => p = m.path
  | _ => False

theorem IsGetAttrOf.isLookupOn {m : P11Module} {label : String} {cls slot handle : Nat} {op : TokOp}
    (h : IsGetAttrOf m.path slot handle op) : IsLookupOn m label cls op := by
  cases op <;> first | exact h.elim | exact h.1

theorem IsLookupOn.isReadOn {m : P11Module} {label : String} {cls : Nat} {op : TokOp}
    (h : IsLookupOn m label cls op) : IsReadOn m.path op := by
  cases op <;> first | exact h.elim | exact h.1 | exact h

theorem p11ObjectToPublicKey_plays (path : String) (slot handle : Nat) :
    Plays (IsGetAttrOf path slot handle) (fun _ => False) (p11ObjectToPublicKey path slot handle) := by
  unfold p11ObjectToPublicKey
  have hg : ∀ names, IsGetAttrOf path slot handle (.getAttr path slot handle names) := fun _ => ⟨rfl, rfl, rfl⟩
  refine .askAttr _ (hg _) fun kt => ?_
  split
  · split
    · refine .askAttr _ (hg _) fun modulus => .askAttr _ (hg _) fun exp => ?_
      refine (attrBytes_plays _).bind fun e => (attrBytes_plays _).bind fun n => ?_
      exact (Plays.lift fun rule he => (rsaEncode_noViol _ _ rule he).elim).bind fun _ => .pure _
    · split
      · refine .askAttr _ (hg _) fun pt => ?_
        split
        · exact .pure _
        · exact .pure _
        · rename_i point _
          split
          · exact .err _
          · refine .askAttr _ (hg _) fun ps => (attrBytes_plays _).bind fun params => ?_
            have tail : ∀ want, Plays (IsGetAttrOf path slot handle) (fun _ => False)
                (if ((ecUnwrap point).length - 1) * 8 / 2 ≠ want then TokM.err .runtime
                 else pure (some (Base64.encode (ecUnwrap point)))) := fun _ => by
              split
              · exact .err _
              · exact .pure _
            split
            · exact tail _
            · split
              · exact tail _
              · exact .err _
        · exact .unsupported
      · exact .err _
  · exact .err _
  · exact .unsupported

/-- the lookup operation of `find_key_by_label` for one slot -/
def findOp (m : P11Module) (label : String) (cls : Nat) (slot : Nat) : TokOp :=
  .findObjects m.path slot [("LABEL", .str label), ("CLASS", .num cls)]

/-- the end of `find_key_by_label`: read the key type, build the key record -/
def foundKeyTail (m : P11Module) (label : String) (keyClass : Nat) (hashUsingHsm : Option Bool)
    (slot h : Nat) (pk : Option String) : TokM (Option P11Key) := do
  let kt ← attr1 (← askOk (.getAttr m.path slot h ["KEY_TYPE"]))
  match kt with
  | .num n =>
    match keyTypeOf n with
    | none => TokM.err .value
    | some t =>
      pure (some { label, keyType := t, keyClass, hashUsingHsm, publicKey := pk,
                   module := m.path, slot,
                   privHandle := if keyClass ≠ ckoPublic then some h else none,
                   pubHandle := if keyClass ≠ ckoSecret then some h else none })
  | .none => TokM.err .value
  | _ => TokM.fail .unsupported

/-- the record `find_key_by_label` returns for handle `h` of slot `sl`, key type `t`, key text `pk` -/
def keyRecord (m : P11Module) (label : String) (cls : Nat) (hh : Option Bool) (sl h : Nat) (t : KeyType)
    (pk : Option String) : P11Key :=
  { label, keyType := t, keyClass := cls, hashUsingHsm := hh, publicKey := pk, module := m.path, slot := sl,
    privHandle := if cls ≠ ckoPublic then some h else none,
    pubHandle := if cls ≠ ckoSecret then some h else none }

/-- what `find_key_by_label` does once exactly one handle `h` was returned for `slot`
    (inline in `findInSlots`; see `findInSlots_cons`) -/
def foundKey (m : P11Module) (label : String) (keyClass : Nat) (hashUsingHsm : Option Bool)
    (slot h : Nat) : TokM (Option P11Key) :=
  if keyClass ≠ ckoSecret then
    p11ObjectToPublicKey m.path slot h >>= foundKeyTail m label keyClass hashUsingHsm slot h
  else foundKeyTail m label keyClass hashUsingHsm slot h none

theorem findInSlots_cons (m : P11Module) (label : String) (cls : Nat) (hh : Option Bool)
    (sl : Nat) (rest : List Nat) :
    findInSlots m label cls hh (sl :: rest) = (do
      let r ← askOk (findOp m label cls sl)
      match r with
      | .handles [] => findInSlots m label cls hh rest
      | .handles [h] => foundKey m label cls hh sl h
      | .handles _ => TokM.err .runtime
      | _ => TokM.fail .unsupported) := by
  rw [findInSlots]
  rfl

section findRun
variable (m : P11Module) (label : String) (cls : Nat) (hh : Option Bool) (sl : Nat) (rest : List Nat)
  (tok : Token) (s : TokState)

theorem findInSlots_cons_error (hans : tok s.count (findOp m label cls sl) = .error) :
    findInSlots m label cls hh (sl :: rest) tok s =
      (.error (.error .p11), s.push (findOp m label cls sl) .error) := by
  rw [findInSlots_cons, bind_run, askOk_run, hans]; rfl

theorem findInSlots_cons_empty (hans : tok s.count (findOp m label cls sl) = .handles []) :
    findInSlots m label cls hh (sl :: rest) tok s =
      findInSlots m label cls hh rest tok (s.push (findOp m label cls sl) (.handles [])) := by
  rw [findInSlots_cons, bind_run, askOk_run, hans]; rfl

theorem findInSlots_cons_one (h : Nat) (hans : tok s.count (findOp m label cls sl) = .handles [h]) :
    findInSlots m label cls hh (sl :: rest) tok s =
      foundKey m label cls hh sl h tok (s.push (findOp m label cls sl) (.handles [h])) := by
  rw [findInSlots_cons, bind_run, askOk_run, hans]; rfl

theorem findInSlots_cons_many (a b : Nat) (r : List Nat)
    (hans : tok s.count (findOp m label cls sl) = .handles (a :: b :: r)) :
    findInSlots m label cls hh (sl :: rest) tok s =
      (.error (.error .runtime), s.push (findOp m label cls sl) (.handles (a :: b :: r))) := by
  rw [findInSlots_cons, bind_run, askOk_run, hans]; rfl

end findRun

theorem foundKeyTail_plays (m : P11Module) (label : String) (cls : Nat) (hh : Option Bool) (sl h : Nat)
    (pk : Option String) :
    Plays (IsGetAttrOf m.path sl h) (fun _ => False) (foundKeyTail m label cls hh sl h pk) := by
  unfold foundKeyTail
  refine .askAttr _ ⟨rfl, rfl, rfl⟩ fun kt => ?_
  split
  · split
    · exact .err _
    · exact .pure _
  · exact .err _
  · exact .unsupported

theorem foundKey_plays (m : P11Module) (label : String) (cls : Nat) (hh : Option Bool) (sl h : Nat) :
    Plays (IsGetAttrOf m.path sl h) (fun _ => False) (foundKey m label cls hh sl h) := by
  unfold foundKey
  split
  · exact (p11ObjectToPublicKey_plays m.path sl h).bind (foundKeyTail_plays m label cls hh sl h)
  · exact foundKeyTail_plays m label cls hh sl h none

theorem foundKey_emits (m : P11Module) (label : String) (cls : Nat) (hh : Option Bool) (sl h : Nat) :
    Emits (IsGetAttrOf m.path sl h) (foundKey m label cls hh sl h) :=
  (foundKey_plays m label cls hh sl h).emits

theorem findInSlots_plays (m : P11Module) (label : String) (cls : Nat) (hh : Option Bool) :
    ∀ slots, Plays (IsLookupOn m label cls) (fun _ => False) (findInSlots m label cls hh slots)
  | [] => .pure _
  | sl :: rest => by
    rw [findInSlots_cons]
    refine (Plays.askOk _ ⟨rfl, rfl⟩).bind fun r => ?_
    split
    · exact findInSlots_plays m label cls hh rest
    · exact (foundKey_plays m label cls hh sl _).mono (fun _ h => h.isLookupOn) fun _ => id
    · exact .err _
    · exact .unsupported

theorem findInSlots_emits (m : P11Module) (label : String) (cls : Nat) (hh : Option Bool)
    (slots : List Nat) : Emits (IsReadOn m.path) (findInSlots m label cls hh slots) :=
  (findInSlots_plays m label cls hh slots).emits.mono fun _ h => h.isReadOn

theorem foundKeyTail_run (m : P11Module) (label : String) (cls : Nat) (hh : Option Bool) (sl h : Nat)
    (pk : Option String) (tok : Token) (s : TokState) (n : Nat) (t : KeyType)
    (hkt : tok s.count (.getAttr m.path sl h ["KEY_TYPE"]) = .attrs [.num n]) (ht : keyTypeOf n = some t) :
    foundKeyTail m label cls hh sl h pk tok s =
      (.ok (some (keyRecord m label cls hh sl h t pk)), s.read m.path sl h "KEY_TYPE" (.num n)) := by
  unfold foundKeyTail
  rw [read_run hkt]
  simp only [ht, TokM.pure_run]
  rfl

theorem foundKeyTail_yields (m : P11Module) (label : String) (cls : Nat) (hh : Option Bool) (sl h : Nat)
    (pk : Option String) :
    Yields (fun o => ∃ t, o = some (keyRecord m label cls hh sl h t pk)) (foundKeyTail m label cls hh sl h pk) := by
  unfold foundKeyTail
  refine .bind_any fun a => .bind_any fun kt => ?_
  split
  · split
    · exact .err _
    · exact .pure ⟨_, rfl⟩
  · exact .err _
  · exact .fail _

/-- `foundKey` never answers "not found": it returns a key (in this slot, with this handle) or fails -/
theorem foundKey_yields (m : P11Module) (label : String) (cls : Nat) (hh : Option Bool) (sl h : Nat) :
    Yields (fun o => ∃ t pk, o = some (keyRecord m label cls hh sl h t pk)) (foundKey m label cls hh sl h) := by
  unfold foundKey
  split
  · exact .bind_any fun pk => (foundKeyTail_yields m label cls hh sl h pk).mono fun _ ⟨t, ht⟩ => ⟨t, pk, ht⟩
  · exact (foundKeyTail_yields m label cls hh sl h none).mono fun _ ⟨t, ht⟩ => ⟨t, none, ht⟩

theorem foundKey_ok (m : P11Module) (label : String) (cls : Nat) (hh : Option Bool) (sl h : Nat)
    (tok : Token) (s s' : TokState) (o : Option P11Key)
    (hr : foundKey m label cls hh sl h tok s = (.ok o, s')) :
    ∃ t pk, o = some (keyRecord m label cls hh sl h t pk) :=
  foundKey_yields m label cls hh sl h tok s o s' hr

theorem findInSlots_yields (m : P11Module) (label : String) (cls : Nat) (hh : Option Bool) :
    ∀ slots, Yields (fun o => ∀ k, o = some k →
      k.module = m.path ∧ k.slot ∈ slots ∧ k.label = label ∧ k.keyClass = cls ∧ k.hashUsingHsm = hh)
      (findInSlots m label cls hh slots)
  | [] => .pure fun _ h => nomatch h
  | sl :: rest => by
    rw [findInSlots_cons]
    refine .bind_any fun r => ?_
    split
    · exact (findInSlots_yields m label cls hh rest).mono fun _ h k hk =>
        let ⟨h1, h2, h3⟩ := h k hk; ⟨h1, List.mem_cons_of_mem _ h2, h3⟩
    · exact (foundKey_yields m label cls hh sl _).mono fun _ ⟨t, pk, ho⟩ k hk => by
        cases ho.symm.trans hk; exact ⟨rfl, List.mem_cons_self, rfl, rfl, rfl⟩
    · exact .err _
    · exact .fail _

theorem getP11Key_cons (label : String) (isPublic : Bool) (hh : Option Bool) (m : P11Module)
    (rest : List P11Module) :
    getP11Key label isPublic hh (m :: rest) = (do
      match ← findInSlots m label (classOf isPublic) hh m.sessions with
      | some k => pure (some k)
      | none => getP11Key label isPublic hh rest) := by
  rw [getP11Key]
  rfl

section getRun
variable (label : String) (isPublic : Bool) (hh : Option Bool) (m : P11Module) (rest : List P11Module)
  (tok : Token) (s s1 : TokState)

theorem getP11Key_cons_hit (k : P11Key)
    (h : findInSlots m label (classOf isPublic) hh m.sessions tok s = (.ok (some k), s1)) :
    getP11Key label isPublic hh (m :: rest) tok s = (.ok (some k), s1) := by
  rw [getP11Key_cons, bind_run, h]; rfl

theorem getP11Key_cons_miss
    (h : findInSlots m label (classOf isPublic) hh m.sessions tok s = (.ok none, s1)) :
    getP11Key label isPublic hh (m :: rest) tok s = getP11Key label isPublic hh rest tok s1 := by
  rw [getP11Key_cons, bind_run, h]

theorem getP11Key_cons_error (e : Fail)
    (h : findInSlots m label (classOf isPublic) hh m.sessions tok s = (.error e, s1)) :
    getP11Key label isPublic hh (m :: rest) tok s = (.error e, s1) := by
  rw [getP11Key_cons, bind_run, h]

end getRun

/-- a read-only operation on one of the listed modules -/
def IsReadAmong (mods : List P11Module) (op : TokOp) : Prop := ∃ m ∈ mods, IsReadOn m.path op

theorem IsReadAmong.not_sign {mods : List P11Module} {op : TokOp} (h : IsReadAmong mods op) :
    isSignOp op = false := by
  obtain ⟨_, _, h⟩ := h; exact h.not_sign

/-- what `get_p11_key` asks: the lookup of this label and class on one of the modules -/
def IsLookupAmong (mods : List P11Module) (label : String) (cls : Nat) (op : TokOp) : Prop :=
  ∃ m ∈ mods, IsLookupOn m label cls op

theorem IsLookupAmong.isReadAmong {mods : List P11Module} {label : String} {cls : Nat} {op : TokOp}
    (h : IsLookupAmong mods label cls op) : IsReadAmong mods op :=
  let ⟨m, hm, h⟩ := h; ⟨m, hm, h.isReadOn⟩

theorem getP11Key_plays (label : String) (isPublic : Bool) (hh : Option Bool) :
    ∀ mods, Plays (IsLookupAmong mods label (classOf isPublic)) (fun _ => False) (getP11Key label isPublic hh mods)
  | [] => .pure _
  | m :: rest => by
    rw [getP11Key_cons]
    refine ((findInSlots_plays m label _ hh _).mono (fun _ h => ⟨m, List.mem_cons_self, h⟩) fun _ => id).bind
      fun r => ?_
    split
    · exact .pure _
    · exact (getP11Key_plays label isPublic hh rest).mono
        (fun _ ⟨m', hm', h⟩ => ⟨m', List.mem_cons_of_mem _ hm', h⟩) fun _ => id

theorem getP11Key_emits (label : String) (isPublic : Bool) (hh : Option Bool) (mods : List P11Module) :
    Emits (IsReadAmong mods) (getP11Key label isPublic hh mods) :=
  (getP11Key_plays label isPublic hh mods).emits.mono fun _ h => h.isReadAmong

theorem getP11Key_yields (label : String) (isPublic : Bool) (hh : Option Bool) :
    ∀ mods, Yields (fun o => ∀ k, o = some k → k.label = label ∧ k.keyClass = classOf isPublic ∧
      ∃ m ∈ mods, k.module = m.path ∧ k.slot ∈ m.sessions) (getP11Key label isPublic hh mods)
  | [] => .pure fun _ h => nomatch h
  | m :: rest => by
    rw [getP11Key_cons]
    refine .bind (findInSlots_yields m label _ hh _) fun o ho => ?_
    split
    · exact .pure fun k hk => let ⟨h1, h2, h3, h4, _⟩ := ho k hk; ⟨h3, h4, m, List.mem_cons_self, h1, h2⟩
    · exact (getP11Key_yields label isPublic hh rest).mono fun _ h k hk =>
        let ⟨a, b, m', hm', c⟩ := h k hk; ⟨a, b, m', List.mem_cons_of_mem _ hm', c⟩

/-- the pure tail of `load_pkcs11_key`: is the key that was found the configured one? -/
def acceptKey (ksk : KskKey) (pol : KskPolicy) (found : P11Key) : Res (Option CompositeKey) :=
  match found.publicKey with
  | none => pure none
  | some pk =>
    if pk.isEmpty then pure none else do
    match found.keyType with
    | .rsa =>
      if !isAlgorithmRsa ksk.algorithm then err .value
      else do
        let pub ← rsaDecode pk ksk.algorithm
        if some (pub.bits : Int) != ksk.rsaSize then err .value
        else if some (pub.exponent : Int) != ksk.rsaExponent then err .value
        else pure ()
    | .ec =>
      if !isAlgorithmEcdsa ksk.algorithm && !isAlgorithmEddsa ksk.algorithm then err .value
      else pure ()
    | _ => pure ()
    match found.keyType with
    | .aes => pure none
    | .des3 => pure none
    | _ => do
      let key ← publicKeyToDnssecKey pk ksk.label ksk.algorithm pol.ttl 257
      pure (some { p11 := found, dns := key })

/-- "Query again for the public key" -/
def refetchPublic (mods : List P11Module) (ksk : KskKey) (isPublic : Bool) (found : P11Key) :
    TokM P11Key :=
  if found.publicKey.isNone && !isPublic then do
    match ← getP11Key ksk.label true ksk.hashUsingHsm mods with
    | some fp => pure { found with publicKey := fp.publicKey }
    | none => pure found
  else pure found

/-- the bundle lies outside the key's validity window -/
def WindowViolated (ksk : KskKey) (b : Bundle) : Prop :=
  ksk.validFrom > b.inception ∨ ∃ u, ksk.validUntil = some u ∧ u < b.expiration

/-- `load_pkcs11_key` once the window test has passed: lookup, second lookup for the public part, the pure test -/
def loadInside (mods : List P11Module) (ksk : KskKey) (pol : KskPolicy) (isPublic : Bool) :
    TokM (Option CompositeKey) :=
  getP11Key ksk.label isPublic ksk.hashUsingHsm mods >>= fun
    | none => pure none
    | some f0 => refetchPublic mods ksk isPublic f0 >>= fun f => TokM.lift (acceptKey ksk pol f)

/-- the model continues after the second lookup through a join point `k`; binding the looked-up key to `k`
    afterwards is the same computation -/
theorem refetch_then {γ} {c : Prop} [Decidable c] (m : TokM (Option P11Key)) (g : P11Key → P11Key) (f0 : P11Key)
    (k : P11Key → TokM γ) :
    (if c then m >>= fun r => match r with
        | some fp => pure (g fp) >>= k
        | none => pure f0 >>= k
      else pure f0 >>= k) =
    (if c then m >>= fun r => match r with
        | some fp => pure (g fp)
        | none => pure f0
      else pure f0) >>= k := by
  split
  · rw [TokM.bind_assoc]
    exact TokM.bind_congr _ fun r => by cases r <;> rfl
  · rfl

theorem loadPkcs11Key_inside (mods : List P11Module) (ksk : KskKey) (pol : KskPolicy) (b : Bundle)
    (isPublic : Bool) (h : ¬ WindowViolated ksk b) :
    loadPkcs11Key mods ksk pol b isPublic = loadInside mods ksk pol isPublic := by
  -- the window test sits in front of the rest of the function `K`: inside the window it is skipped
  have hskip : ∀ K : Unit → TokM (Option CompositeKey), (match ksk.validUntil with
      | some u => if u < b.expiration then (TokM.fail (.violation .keyUsage) >>= K) else K ()
      | none => K ()) = K () := fun K => by
    cases hu : ksk.validUntil with
    | none => rfl
    | some u => exact if_neg fun x => h (Or.inr ⟨u, hu, x⟩)
  unfold loadPkcs11Key loadInside
  rw [if_neg fun x => h (Or.inl x)]
  refine (hskip _).trans (TokM.bind_congr _ fun o => ?_)
  cases o with
  | none => rfl
  | some f0 =>
    refine (refetch_then (getP11Key ksk.label true ksk.hashUsingHsm mods)
      (fun fp => { f0 with publicKey := fp.publicKey }) f0 _).trans (TokM.bind_congr _ fun found => ?_)
    -- the monadic acceptance tail is the pure test
    funext tok s
    dsimp only
    unfold acceptKey
    cases found.publicKey with
    | none => rfl
    | some pk =>
      simp only
      split
      · rfl
      · cases found.keyType <;>
          simp only [ite_run, TokM.lift_run, TokM.pure_run, bind_run]
        · split
          · rfl
          · cases rsaDecode pk ksk.algorithm with
            | error e => rfl
            | ok pub =>
              simp only [bind, Except.bind]
              split
              · rfl
              · split
                · rfl
                · cases publicKeyToDnssecKey pk ksk.label ksk.algorithm pol.ttl 257 <;> rfl
        · split
          · rfl
          · cases publicKeyToDnssecKey pk ksk.label ksk.algorithm pol.ttl 257 <;> rfl
        · rfl
        · rfl

theorem loadPkcs11Key_violated (mods : List P11Module) (ksk : KskKey) (pol : KskPolicy) (b : Bundle)
    (isPublic : Bool) (tok : Token) (s : TokState) (h : WindowViolated ksk b) :
    loadPkcs11Key mods ksk pol b isPublic tok s = (.error (.violation .keyUsage), s) := by
  unfold loadPkcs11Key
  by_cases h0 : ksk.validFrom > b.inception
  · rw [if_pos h0]; rfl
  · rcases h with h | ⟨u, hu, h⟩
    · exact absurd h h0
    · rw [if_neg h0, hu]
      dsimp only
      rw [if_pos h]; rfl

theorem refetchPublic_plays (mods : List P11Module) (ksk : KskKey) (isPublic : Bool) (found : P11Key) :
    Plays (IsReadAmong mods) (fun _ => False) (refetchPublic mods ksk isPublic found) := by
  unfold refetchPublic
  split
  · refine ((getP11Key_plays ksk.label true ksk.hashUsingHsm mods).mono (fun _ h => h.isReadAmong)
      fun _ => id).bind fun r => ?_
    split <;> exact .pure _
  · exact .pure _

/-- the second lookup replaces the key text and nothing else -/
theorem refetchPublic_yields (mods : List P11Module) (ksk : KskKey) (isPublic : Bool) (f0 : P11Key) :
    Yields (fun f => f = { f0 with publicKey := f.publicKey }) (refetchPublic mods ksk isPublic f0) := by
  unfold refetchPublic
  split
  · exact .bind_any fun o => by split <;> exact .pure rfl
  · exact .pure rfl

/-- the lookups of `load_pkcs11_key` never report a policy violation; what the acceptance test may report
    is left to the caller (`acceptKey_noViol`, Lemmas/HsmNoViol) -/
theorem loadInside_plays {E : Rule → Prop} (mods : List P11Module) (ksk : KskKey) (pol : KskPolicy)
    (isPublic : Bool) (ha : ∀ f rule, acceptKey ksk pol f = .error (.violation rule) → E rule) :
    Plays (IsReadAmong mods) E (loadInside mods ksk pol isPublic) :=
  ((getP11Key_plays ksk.label isPublic ksk.hashUsingHsm mods).mono (fun _ h => h.isReadAmong)
    fun _ => False.elim).bind fun o => by
    split
    · exact .pure _
    · exact ((refetchPublic_plays mods ksk isPublic _).mono (fun _ => id) fun _ => False.elim).bind fun f => .lift (ha f)

theorem loadPkcs11Key_plays (mods : List P11Module) (ksk : KskKey) (pol : KskPolicy) (b : Bundle)
    (isPublic : Bool) : Plays (IsReadAmong mods) (fun _ => True) (loadPkcs11Key mods ksk pol b isPublic) := by
  by_cases h : WindowViolated ksk b
  · rw [show loadPkcs11Key mods ksk pol b isPublic = TokM.fail (.violation .keyUsage) from
      funext fun tok => funext fun s => loadPkcs11Key_violated mods ksk pol b isPublic tok s h]
    exact .violation _ trivial
  · rw [loadPkcs11Key_inside _ _ _ _ _ h]
    exact loadInside_plays mods ksk pol isPublic fun _ _ _ => trivial

theorem loadPkcs11Key_emits (mods : List P11Module) (ksk : KskKey) (pol : KskPolicy) (b : Bundle)
    (isPublic : Bool) : Emits (IsReadAmong mods) (loadPkcs11Key mods ksk pol b isPublic) :=
  (loadPkcs11Key_plays mods ksk pol b isPublic).emits

theorem fetchKeys_plays (ext : Externals) (mods : List P11Module) (cfg : SignerConfig) (b : Bundle)
    (isPublic : Bool) :
    ∀ names, Plays (IsReadAmong mods) (fun _ => True) (fetchKeys ext mods cfg b isPublic names)
  | [] => .pure _
  | name :: rest => by
    rw [fetchKeys]
    split
    · exact .err _
    · refine (loadPkcs11Key_plays mods _ cfg.kskPolicy b isPublic).bind fun o => ?_
      split
      · exact .err _
      · exact (Plays.lift fun _ _ => trivial).bind fun _ =>
          (fetchKeys_plays ext mods cfg b isPublic rest).bind fun _ => .pure _

theorem fetchKeys_emits (ext : Externals) (mods : List P11Module) (cfg : SignerConfig) (b : Bundle)
    (isPublic : Bool) (names : List String) :
    Emits (IsReadAmong mods) (fetchKeys ext mods cfg b isPublic names) :=
  (fetchKeys_plays ext mods cfg b isPublic names).emits

def openOpOf (m : P11Module) (slot : Nat) : TokOp :=
  .openSession m.path slot (if m.rwSession then ckfRwSession else 0)

def loginOpOf (m : P11Module) (slot : Nat) (p : String) : TokOp :=
  .login m.path slot p (if m.soLogin then ckuSo else ckuUser)

/-- session set-up: what `KSKM_P11Module.__init__` and its `sessions` property ask -/
def IsSetupOp : TokOp → Prop
  | .load _ | .initialize _ | .getSlotList _ | .openSession .. | .login .. | .getTokenInfo .. => True
  | _ => False

/-- a refused slot is dropped, not reported -/
theorem openSessions_plays {E} (m : P11Module) :
    ∀ (slots : List Nat) (acc : P11Module), Plays IsSetupOp E (openSessions m slots acc)
  | [], acc => .pure acc
  | sl :: rest, acc => by
    rw [openSessions]
    refine .ask _ _ trivial fun o => ?_
    split
    · exact openSessions_plays m rest _
    · dsimp only
      split
      · exact openSessions_plays m rest _
      · refine .ask _ _ trivial fun l => ?_
        split <;> exact openSessions_plays m rest _

theorem getSessions_plays {E} (m : P11Module) : Plays IsSetupOp E m.getSessions := by
  unfold P11Module.getSessions
  split
  · exact openSessions_plays m _ _
  · exact .pure m

/-- `__init__` once the slot list is known -/
theorem init_tail_plays (m : P11Module) (path : String) (c : Prop) [Decidable c] :
    Plays IsSetupOp (fun _ => False) (if c then pure m else do
      let m ← m.getSessions
      match m.slots with
      | [] => TokM.err .index
      | s0 :: _ =>
        let _ ← askOk (.getTokenInfo path s0)
        pure m) := by
  split
  · exact .pure _
  · refine (getSessions_plays _).bind fun m => ?_
    split
    · exact .err _
    · exact (Plays.askOk _ trivial).bind fun _ => .pure _

/- The PINs enter only the record handed to `init_tail_plays`: they are never inspected here. -/
theorem init_plays (label path : String) (pin soPin : Option String) (so rw : Bool) (typed : String) :
    Plays IsSetupOp (fun _ => False) (P11Module.init label path pin soPin so rw typed) := by
  unfold P11Module.init
  refine (Plays.askOk _ trivial).bind fun _ => (Plays.askOk _ trivial).bind fun _ =>
    (Plays.askOk _ trivial).bind fun sl => ?_
  cases sl with
  | slots l => exact (Plays.pure l).bind fun _ => init_tail_plays _ _ _
  | _ => exact .unsupported

/-- open + (when a PIN is configured) login on one slot: was the slot kept, and the state after -/
def openOne (m : P11Module) (slot : Nat) (tok : Token) (s : TokState) : Bool × TokState :=
  let o := tok s.count (openOpOf m slot)
  let s1 := s.push (openOpOf m slot) o
  if o = .error then (false, s1) else
  match (if m.soLogin then m.soPin else m.pin) with
  | none => (true, s1)
  | some p =>
    let l := tok s1.count (loginOpOf m slot p)
    (decide (l ≠ .error), s1.push (loginOpOf m slot p) l)

def keepSlot (acc : P11Module) (slot : Nat) : P11Module := { acc with sessions := acc.sessions ++ [slot] }
def dropSlot (acc : P11Module) (slot : Nat) : P11Module :=
  { acc with slots := acc.slots.filter (· != slot) }

theorem openSessions_cons_run (m : P11Module) (slot : Nat) (rest : List Nat) (acc : P11Module)
    (tok : Token) (s : TokState) :
    openSessions m (slot :: rest) acc tok s =
      openSessions m rest (if (openOne m slot tok s).1 then keepSlot acc slot else dropSlot acc slot)
        tok (openOne m slot tok s).2 := by
  rw [openSessions]
  simp only [bind_run, ask_run']
  unfold openOne openOpOf
  simp only
  cases ho : tok s.count (TokOp.openSession m.path slot (if m.rwSession = true then ckfRwSession else 0))
  case error => simp [dropSlot]
  all_goals
    simp only [reduceCtorEq, ↓reduceIte]
    cases hp : (if m.soLogin = true then m.soPin else m.pin) with
    | none => simp [keepSlot]
    | some p =>
      simp only [bind_run, ask_run', loginOpOf]
      cases hl : tok (s.count + 1) (TokOp.login m.path slot p (if m.soLogin = true then ckuSo else ckuUser)) <;>
        simp [keepSlot, dropSlot, TokState.push, hl]

/-- the slot a logged answer refuses (an `.error` answer to open-session or login on `path`) -/
def refusalOf (path : String) (e : TokOp × TokAns) : Option Nat :=
  match e with
  | (.openSession p s _, .error) => if p = path then some s else none
  | (.login p s _ _, .error) => if p = path then some s else none
  | _ => none

/-- according to the logged answers `l`, slot `sl` of module `path` refused to open or to log in -/
def refusedIn (path : String) (l : List (TokOp × TokAns)) (sl : Nat) : Bool :=
  l.any fun e => refusalOf path e == some sl

theorem refusedIn_append (path : String) (a b : List (TokOp × TokAns)) (x : Nat) :
    refusedIn path (a ++ b) x = (refusedIn path a x || refusedIn path b x) := by
  simp [refusedIn, List.any_append]

theorem refusalOf_open (m : P11Module) (slot : Nat) (a : TokAns) :
    refusalOf m.path (openOpOf m slot, a) = if a = .error then some slot else none := by
  cases a <;> simp [refusalOf, openOpOf]

theorem refusalOf_login (m : P11Module) (slot : Nat) (p : String) (a : TokAns) :
    refusalOf m.path (loginOpOf m slot p, a) = if a = .error then some slot else none := by
  cases a <;> simp [refusalOf, loginOpOf]

theorem openOne_log (m : P11Module) (slot : Nat) (tok : Token) (s : TokState) :
    ∃ l₁, (openOne m slot tok s).2.log = l₁ ++ s.log ∧
      refusedIn m.path l₁ slot = !(openOne m slot tok s).1 ∧
      ∀ x, x ≠ slot → refusedIn m.path l₁ x = false := by
  unfold openOne
  simp only
  by_cases ho : tok s.count (openOpOf m slot) = .error
  · simp only [ho, ↓reduceIte]
    refine ⟨[(openOpOf m slot, .error)], by simp, by simp [refusedIn, refusalOf_open], ?_⟩
    intro x hx; simp [refusedIn, refusalOf_open]; exact fun h => hx h.symm
  · simp only [ho, ↓reduceIte]
    cases hp : (if m.soLogin = true then m.soPin else m.pin) with
    | none =>
      exact ⟨[(openOpOf m slot, tok s.count (openOpOf m slot))], by simp,
        by simp [refusedIn, refusalOf_open, ho], by simp [refusedIn, refusalOf_open, ho]⟩
    | some p =>
      simp only [TokState.push_count]
      by_cases hl : tok (s.count + 1) (loginOpOf m slot p) = .error
      · refine ⟨[(loginOpOf m slot p, .error), (openOpOf m slot, tok s.count (openOpOf m slot))],
          by simp [hl], by simp [refusedIn, refusalOf_open, refusalOf_login, ho, hl], ?_⟩
        intro x hx; simp [refusedIn, refusalOf_open, refusalOf_login, ho]; exact fun h => hx h.symm
      · exact ⟨[(loginOpOf m slot p, tok (s.count + 1) (loginOpOf m slot p)),
            (openOpOf m slot, tok s.count (openOpOf m slot))],
          by simp, by simp [refusedIn, refusalOf_open, refusalOf_login, ho, hl],
          by simp [refusedIn, refusalOf_open, refusalOf_login, ho, hl]⟩

/- `ecUnwrap` (SoftHSM2 wraps the point in a DER OCTET STRING `04 <len> 04 …`: the octets after the header,
   by the rule of the checked-out tree, `KskmGen.ecUnwrapChecksLength`) and `ecUnwrapWith` (the rule for either value of the tabulated
   behaviour switch) are part of the model: Kskm/Hsm.lean. -/

/-- the EC branch of `_p11_object_to_public_key` once point and parameters have been read -/
def ecDerive (point params : Bytes) : Res (Option String) :=
  if params = ecOidP256 then
    (if ((ecUnwrap point).length - 1) * 8 / 2 ≠ 256 then err .runtime
     else pure (some (Base64.encode (ecUnwrap point))))
  else if params = ecOidP384 then
    (if ((ecUnwrap point).length - 1) * 8 / 2 ≠ 384 then err .runtime
     else pure (some (Base64.encode (ecUnwrap point))))
  else err .runtime

/-- the EC branch under either unwrap rule (`checksLength` = the tabulated behaviour switch
    `KskmGen.ecUnwrapChecksLength`): same text as `ecDerive` with `ecUnwrapWith checksLength` -/
def ecDeriveWith (checksLength : Bool) (point params : Bytes) : Res (Option String) :=
  if params = ecOidP256 then
    (if ((ecUnwrapWith checksLength point).length - 1) * 8 / 2 ≠ 256 then err .runtime
     else pure (some (Base64.encode (ecUnwrapWith checksLength point))))
  else if params = ecOidP384 then
    (if ((ecUnwrapWith checksLength point).length - 1) * 8 / 2 ≠ 384 then err .runtime
     else pure (some (Base64.encode (ecUnwrapWith checksLength point))))
  else err .runtime

/-- `ecDerive` is `ecDeriveWith` at the switch value tabulated from the checked-out tree -/
theorem ecDerive_eq_with (point params : Bytes) :
    ecDerive point params = ecDeriveWith KskmGen.ecUnwrapChecksLength point params := rfl

/-- a string that does not start with the three octets of a wrapper of itself is left alone by either rule -/
theorem ecUnwrapWith_of_not_prefix (b : Bool) (point : Bytes)
    (h : point.take 3 ≠ [4, UInt8.ofNat (point.length - 2), 4]) : ecUnwrapWith b point = point := by
  unfold ecUnwrapWith
  rw [if_neg (fun hc => h hc.1)]

/-- a wrapped point `04 k 04 x y` whose inner part has k = 65 / 97 octets is unwrapped by either rule -/
theorem ecUnwrapWith_wrapped (b : Bool) (xy : Bytes) (k : Nat) (hk : k = 65 ∨ k = 97)
    (hxy : xy.length + 1 = k) : ecUnwrapWith b (4 :: UInt8.ofNat k :: 4 :: xy) = 4 :: xy := by
  unfold ecUnwrapWith
  have hl : (4 :: UInt8.ofNat k :: 4 :: xy).length - 2 = k := by simp; omega
  rw [hl]
  have hc : List.take 3 (4 :: UInt8.ofNat k :: 4 :: xy) = [4, UInt8.ofNat k, 4] ∧
      (b = false ∨ k = 65 ∨ k = 97) := ⟨by simp, Or.inr hk⟩
  rw [if_pos hc]
  rfl

/-- the repaired rule leaves EVERY string of 65 / 97 octets alone, whatever its octets -/
theorem ecUnwrapWith_true_of_point_length (point : Bytes) (h : point.length = 65 ∨ point.length = 97) :
    ecUnwrapWith true point = point := by
  unfold ecUnwrapWith
  have hc : ¬ (point.take 3 = [4, UInt8.ofNat (point.length - 2), 4] ∧
      (true = false ∨ point.length - 2 = 65 ∨ point.length - 2 = 97)) := by
    rintro ⟨_, h1 | h2 | h3⟩
    · cases h1
    · omega
    · omega
  rw [if_neg hc]

/-- the pinned rule cuts two octets off every string that starts with the three octets of a wrapper of itself -/
theorem ecUnwrapWith_false_of_prefix (point : Bytes)
    (h : point.take 3 = [4, UInt8.ofNat (point.length - 2), 4]) : ecUnwrapWith false point = point.drop 2 := by
  unfold ecUnwrapWith
  rw [if_pos ⟨h, Or.inl rfl⟩]

theorem rsaEncode_of_bytes {e : Nat} {n b : Bytes} (h : rsaEncodeBytes e n = .ok b) :
    rsaEncode e n = .ok (Base64.encode b) := by
  rw [rsaEncode, h]; rfl

section reads
variable {tok : Token} {path : String} {slot h : Nat}

/-- the RSA branch of `_p11_object_to_public_key` -/
theorem p11ObjectToPublicKey_rsa_run {n e : Bytes} (hkt : Answers tok path slot h "KEY_TYPE" (.num ckkRsa))
    (hn : Answers tok path slot h "MODULUS" (.bytes n)) (he : Answers tok path slot h "PUBLIC_EXPONENT" (.bytes e))
    (s : TokState) :
    p11ObjectToPublicKey path slot h tok s =
      ((rsaEncode (beNat e) n).map some,
        ((s.read path slot h "KEY_TYPE" (.num ckkRsa)).read path slot h "MODULUS" (.bytes n)).read path slot h
          "PUBLIC_EXPONENT" (.bytes e)) := by
  unfold p11ObjectToPublicKey
  rw [read_run (hkt _)]
  simp only [↓reduceIte]
  rw [read_run (hn _), read_run (he _)]
  simp only [attrBytes, bind_run, TokM.pure_run, TokM.lift_run]
  cases rsaEncode (beNat e) n <;> rfl

theorem p11ObjectToPublicKey_ec_absent {pt : AttrAns} (hkt : Answers tok path slot h "KEY_TYPE" (.num ckkEc))
    (hpt : Answers tok path slot h "EC_POINT" pt) (habs : pt = .none ∨ pt = .bytes []) (s : TokState) :
    p11ObjectToPublicKey path slot h tok s =
      (.ok none, (s.read path slot h "KEY_TYPE" (.num ckkEc)).read path slot h "EC_POINT" pt) := by
  unfold p11ObjectToPublicKey
  rw [read_run (hkt _)]
  simp only [ckkEc, ckkRsa, Nat.reduceEqDiff, ↓reduceIte]
  rw [read_run (hpt _)]
  rcases habs with rfl | rfl <;> rfl

theorem p11ObjectToPublicKey_ec_run {a : UInt8} {r params : Bytes}
    (hkt : Answers tok path slot h "KEY_TYPE" (.num ckkEc)) (hpt : Answers tok path slot h "EC_POINT" (.bytes (a :: r)))
    (hpar : Answers tok path slot h "EC_PARAMS" (.bytes params))
    (hlen : 2 ≤ (a :: r).length ∧ (a :: r).length < 258) (s : TokState) :
    p11ObjectToPublicKey path slot h tok s =
      (ecDerive (a :: r) params,
        ((s.read path slot h "KEY_TYPE" (.num ckkEc)).read path slot h "EC_POINT" (.bytes (a :: r))).read path slot h
          "EC_PARAMS" (.bytes params)) := by
  unfold p11ObjectToPublicKey
  rw [read_run (hkt _)]
  simp only [ckkEc, ckkRsa, Nat.reduceEqDiff, ↓reduceIte]
  rw [read_run (hpt _)]
  have hg : ¬ ((a :: r).length < 2 ∨ 258 ≤ (a :: r).length) := by omega
  simp only [hg, ↓reduceIte]
  rw [read_run (hpar _)]
  simp only [attrBytes, bind_run, TokM.pure_run]
  unfold ecDerive
  by_cases h1 : params = ecOidP256
  · simp only [h1, ↓reduceIte, TokM.pure_bind, ite_run, TokM.err_run, TokM.pure_run]
    split <;> rfl
  · by_cases h2 : params = ecOidP384
    · subst h2
      simp only [h1, ↓reduceIte, TokM.pure_bind, ite_run, TokM.err_run, TokM.pure_run]
      split <;> rfl
    · simp only [h1, h2, ↓reduceIte, TokM.err_bind_run]
      rfl

end reads

theorem hashOrUnknown_ok_iff {hash : Hasher} {a : HashAlg} {d x : Bytes} :
    hashOrUnknown hash a d = .ok x ↔ hash a d = some x := by
  unfold hashOrUnknown
  cases hash a d <;> simp [pure, Except.pure, unsupported]

/-- what `public_key_to_dnssec_key` puts into the record it returns -/
theorem publicKeyToDnssecKey_ok {pk id : String} {alg : Nat} {ttl flags : Int} {k : Key}
    (h : publicKeyToDnssecKey pk id alg ttl flags = .ok k) :
    k.keyIdentifier = id ∧ k.ttl = ttl ∧ k.flags = flags ∧ k.protocol = 3 ∧ k.algorithm = alg ∧
    k.publicKey = pk ∧ ∃ r, keyToRdata k = .ok r ∧ k.keyTag = (keyTagOfRdata r : Nat) := by
  revert h
  unfold publicKeyToDnssecKey calculateKeyTag
  simp only [res_ok]
  rintro ⟨_, _, ⟨r, hr, rfl⟩, rfl⟩
  -- the RDATA does not depend on the tag field
  exact ⟨rfl, rfl, rfl, rfl, rfl, rfl, r, by simpa [keyToRdata] using hr, rfl⟩

/-! the save / update / restore of `os.environ` in `KSKM_P11Module.__init__`, one variable at a time -/

theorem restore_fold (saved : List (String × Option String)) (f : Env) (k : String) (v : Option String)
    (hv : ∀ p ∈ saved, p.1 = k → p.2 = v) :
    envRestore f saved k = if saved.any (·.1 = k) then v else f k := by
  unfold envRestore
  induction saved generalizing f with
  | nil => simp
  | cons p r ih =>
    simp only [List.foldl_cons, List.any_cons]
    rw [ih _ (fun q hq => hv q (List.mem_cons_of_mem _ hq))]
    by_cases hr : r.any (·.1 = k) = true
    · simp [hr]
    · simp only [hr, Bool.false_eq_true, ↓reduceIte, Bool.or_false]
      by_cases hp : p.1 = k
      · have := hv p (List.mem_cons_self) hp
        cases hp2 : p.2 with
        | none => simp [hp, Env.del, ← this, hp2]
        | some w => simp [hp, Env.set, ← this, hp2]
      · have hk : ¬ k = p.1 := fun h => hp h.symm
        cases hp2 : p.2 with
        | none => simp [hp, hk, Env.del]
        | some w => simp [hp, hk, Env.set]

theorem update_untouched (h : List (String × String)) (e : Env) (k : String)
    (hk : h.any (·.1 = k) = false) : envUpdate e h k = e k := by
  unfold envUpdate
  induction h generalizing e with
  | nil => rfl
  | cons p r ih =>
    simp only [List.any_cons, Bool.or_eq_false_iff, decide_eq_false_iff_not] at hk
    simp only [List.foldl_cons]
    rw [ih _ hk.2]
    have : ¬ k = p.1 := fun h => hk.1 h.symm
    simp [Env.set, this]

end Kskm
