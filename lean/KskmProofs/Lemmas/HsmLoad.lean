/-
  `load_pkcs11_key` / `_fetch_keys`, one step at a time: when the pure acceptance test accepts
  (`acceptKey_some_iff`), when `load_pkcs11_key` answers (`loadPkcs11Key_ok_iff`), when
  `validate_dnskey_matches_ksk` accepts, and `_fetch_keys` as the loop over `fetchOne`: the step as an equation
  (`fetchKeys_cons`), with every outcome spelled out (`fetchKeys_cons_run`), inverted (`fetchKeys_cons_ok_iff`,
  `fetchOne_ok_iff`).
-/
import KskmProofs.Lemmas.Hsm
import KskmProofs.Lemmas.Res
namespace Kskm

/-- the configured RSA parameters, as `load_pkcs11_key` compares them -/
def RsaParamsMatch (ksk : KskKey) (pk : String) : Prop :=
  isAlgorithmRsa ksk.algorithm = true ∧ ∃ pub, rsaDecode pk ksk.algorithm = .ok pub ∧
    some (pub.bits : Int) = ksk.rsaSize ∧ some (pub.exponent : Int) = ksk.rsaExponent

/-- the family / RSA parameter comparison of `load_pkcs11_key` -/
def familyCheck (ksk : KskKey) (kt : KeyType) (pk : String) : Res Unit :=
  match kt with
  | .rsa =>
    if !isAlgorithmRsa ksk.algorithm then err .value
    else do
      let pub ← rsaDecode pk ksk.algorithm
      if some (pub.bits : Int) != ksk.rsaSize then err .value
      else if some (pub.exponent : Int) != ksk.rsaExponent then err .value
      else pure ()
  | .ec =>
    if !isAlgorithmEcdsa ksk.algorithm && !isAlgorithmEddsa ksk.algorithm then err .value
    else pure ()
  | _ => pure ()

theorem acceptKey_eq (ksk : KskKey) (pol : KskPolicy) (found : P11Key) :
    acceptKey ksk pol found =
      (match found.publicKey with
      | none => pure none
      | some pk =>
        if pk.isEmpty then pure none else do
        familyCheck ksk found.keyType pk
        match found.keyType with
        | .aes => pure none
        | .des3 => pure none
        | _ => do
          let key ← publicKeyToDnssecKey pk ksk.label ksk.algorithm pol.ttl 257
          pure (some { p11 := found, dns := key })) := by
  unfold acceptKey familyCheck
  cases found.publicKey with
  | none => rfl
  | some pk =>
    simp only
    split
    · rfl
    · cases found.keyType
      · simp only
        split
        · rfl
        · cases rsaDecode pk ksk.algorithm with
          | error e => rfl
          | ok pub =>
            simp only [bind, Except.bind]
            split
            · rfl
            · split <;> rfl
      · simp only
        split <;> rfl
      · rfl
      · rfl

theorem familyCheck_rsa_iff (ksk : KskKey) (pk : String) :
    familyCheck ksk .rsa pk = .ok () ↔ RsaParamsMatch ksk pk := by
  unfold familyCheck RsaParamsMatch
  simp only [res_ok]
  simp

theorem familyCheck_ec_iff (ksk : KskKey) (pk : String) :
    familyCheck ksk .ec pk = .ok () ↔
      (isAlgorithmEcdsa ksk.algorithm = true ∨ isAlgorithmEddsa ksk.algorithm = true) := by
  unfold familyCheck
  cases isAlgorithmEcdsa ksk.algorithm <;> cases isAlgorithmEddsa ksk.algorithm <;>
    simp [err, pure, Except.pure]

theorem acceptKey_some_iff (ksk : KskKey) (pol : KskPolicy) (found : P11Key) (ck : CompositeKey) :
    acceptKey ksk pol found = .ok (some ck) ↔
      ∃ pk, found.publicKey = some pk ∧ pk.isEmpty = false ∧ ck.p11 = found ∧
        publicKeyToDnssecKey pk ksk.label ksk.algorithm pol.ttl 257 = .ok ck.dns ∧
        ((found.keyType = .rsa ∧ RsaParamsMatch ksk pk) ∨
         (found.keyType = .ec ∧ (isAlgorithmEcdsa ksk.algorithm = true ∨ isAlgorithmEddsa ksk.algorithm = true))) := by
  rw [acceptKey_eq]
  obtain ⟨p, d⟩ := ck
  cases hpk : found.publicKey with
  | none => simp [pure, Except.pure]
  | some pk =>
    simp only [Option.some.injEq, exists_eq_left']
    cases he : pk.isEmpty
    case true => simp [pure, Except.pure]
    -- per key type: the family test by its `iff`, the record built equals `⟨p, d⟩` field by field
    cases hkt : found.keyType <;> simp only [res_ok] <;>
      simp only [familyCheck_rsa_iff, familyCheck_ec_iff, Option.some.injEq, CompositeKey.mk.injEq, or_false,
        false_or, and_false, exists_eq_right_right]
    all_goals exact ⟨fun ⟨a, b, c⟩ => ⟨c.symm, b, a⟩, fun ⟨c, b, a⟩ => ⟨a, b, c.symm⟩⟩

theorem loadPkcs11Key_ok_iff (mods : List P11Module) (ksk : KskKey) (pol : KskPolicy) (b : Bundle)
    (isPublic : Bool) (tok : Token) (s s' : TokState) (o : Option CompositeKey) :
    loadPkcs11Key mods ksk pol b isPublic tok s = (.ok o, s') ↔
      ¬ WindowViolated ksk b ∧
      ((o = none ∧ getP11Key ksk.label isPublic ksk.hashUsingHsm mods tok s = (.ok none, s')) ∨
       ∃ f0 s1 f, getP11Key ksk.label isPublic ksk.hashUsingHsm mods tok s = (.ok (some f0), s1) ∧
        refetchPublic mods ksk isPublic f0 tok s1 = (.ok f, s') ∧ acceptKey ksk pol f = .ok o) := by
  by_cases hw : WindowViolated ksk b
  · simp [loadPkcs11Key_violated _ _ _ _ _ _ _ hw, hw]
  · rw [loadPkcs11Key_inside _ _ _ _ _ hw, loadInside, TokM.bind_ok_iff]
    simp only [hw, not_false_eq_true, true_and]
    constructor
    · rintro ⟨_ | f0, s1, hg, h⟩
      · cases h; exact .inl ⟨rfl, hg⟩
      · obtain ⟨f, s2, hr, h⟩ := TokM.bind_ok_iff.mp h
        rw [TokM.lift_run] at h
        obtain ⟨ha, rfl⟩ := Prod.mk.inj h
        exact .inr ⟨f0, s1, f, hg, hr, ha⟩
    · rintro (⟨rfl, hg⟩ | ⟨f0, s1, f, hg, hr, ha⟩)
      · exact ⟨none, s', hg, rfl⟩
      · exact ⟨some f0, s1, hg, TokM.bind_ok_iff.mpr ⟨f, s', hr, by rw [TokM.lift_run, ha]⟩⟩

theorem loadPkcs11Key_lookup_error (mods : List P11Module) (ksk : KskKey) (pol : KskPolicy) (b : Bundle)
    (isPublic : Bool) (tok : Token) (s s1 : TokState) (e : Fail) (hw : ¬ WindowViolated ksk b)
    (h : getP11Key ksk.label isPublic ksk.hashUsingHsm mods tok s = (.error e, s1)) :
    loadPkcs11Key mods ksk pol b isPublic tok s = (.error e, s1) := by
  rw [loadPkcs11Key_inside _ _ _ _ _ hw, loadInside, bind_run, h]

theorem loadPkcs11Key_some (mods : List P11Module) (ksk : KskKey) (pol : KskPolicy) (b : Bundle)
    (isPublic : Bool) (tok : Token) (s s' : TokState) (ck : CompositeKey)
    (h : loadPkcs11Key mods ksk pol b isPublic tok s = (.ok (some ck), s')) :
    ¬ WindowViolated ksk b ∧ ∃ f0 s1 f,
      getP11Key ksk.label isPublic ksk.hashUsingHsm mods tok s = (.ok (some f0), s1) ∧
      refetchPublic mods ksk isPublic f0 tok s1 = (.ok f, s') ∧
      acceptKey ksk pol f = .ok (some ck) := by
  obtain ⟨hw, ⟨h, _⟩ | h⟩ := (loadPkcs11Key_ok_iff mods ksk pol b isPublic tok s s' _).mp h
  · cases h
  · exact ⟨hw, h⟩

theorem loadPkcs11Key_none (mods : List P11Module) (ksk : KskKey) (pol : KskPolicy) (b : Bundle)
    (isPublic : Bool) (tok : Token) (s s' : TokState)
    (h : loadPkcs11Key mods ksk pol b isPublic tok s = (.ok none, s')) :
    ¬ WindowViolated ksk b ∧
    (getP11Key ksk.label isPublic ksk.hashUsingHsm mods tok s = (.ok none, s') ∨
     ∃ f0 s1 f, getP11Key ksk.label isPublic ksk.hashUsingHsm mods tok s = (.ok (some f0), s1) ∧
      refetchPublic mods ksk isPublic f0 tok s1 = (.ok f, s') ∧ acceptKey ksk pol f = .ok none) :=
  ((loadPkcs11Key_ok_iff mods ksk pol b isPublic tok s s' none).mp h).imp_right (Or.imp_left And.right)

/-- the DS half of `validate_dnskey_matches_ksk` -/
def dsCheck (ext : Externals) (ksk : KskKey) (k : Key) : Res Unit :=
  match ksk.dsSha256 with
  | none => pure ()
  | some ds =>
    if ds.isEmpty then pure () else do
    let inp ← dsInput k
    let digest ← hashOrUnknown ext.hash .sha256 inp
    if ds.toUpper != upperHex digest then err .runtime else pure ()

def tagCheck (ksk : KskKey) (k : Key) : Res Unit :=
  match ksk.keyTag with
  | none => pure ()
  | some t => if k.keyTag != t then err .runtime else pure ()

theorem validateDnskeyMatchesKsk_eq (ext : Externals) (ksk : KskKey) (k : Key) :
    validateDnskeyMatchesKsk ext ksk k = (do dsCheck ext ksk k; tagCheck ksk k) := by
  unfold validateDnskeyMatchesKsk dsCheck tagCheck
  cases ksk.dsSha256 with
  | none => rfl
  | some ds =>
    simp only
    split
    · rfl
    · cases dsInput k with
      | error e => rfl
      | ok inp =>
        cases hh : hashOrUnknown ext.hash .sha256 inp with
        | error e => simp [bind, Except.bind, hh]
        | ok digest =>
          simp only [bind, Except.bind, hh]
          split <;> rfl

theorem tagCheck_ok_iff (ksk : KskKey) (k : Key) :
    tagCheck ksk k = .ok () ↔ ∀ t, ksk.keyTag = some t → k.keyTag = t := by
  unfold tagCheck
  cases ksk.keyTag <;> simp only [res_ok] <;> simp

theorem dsCheck_ok_iff (ext : Externals) (ksk : KskKey) (k : Key) :
    dsCheck ext ksk k = .ok () ↔
      ∀ ds, ksk.dsSha256 = some ds → ds.isEmpty = false →
        ∃ inp digest, dsInput k = .ok inp ∧ ext.hash .sha256 inp = some digest ∧
          ds.toUpper = upperHex digest := by
  unfold dsCheck
  cases ksk.dsSha256 with
  | none => simp [pure, Except.pure]
  | some ds =>
    simp only [Option.some.injEq, forall_eq']
    split
    · simp [*, pure, Except.pure]
    · simp only [res_ok]
      simp [*, hashOrUnknown_ok_iff]

theorem validateDnskeyMatchesKsk_ok_iff (ext : Externals) (ksk : KskKey) (k : Key) :
    validateDnskeyMatchesKsk ext ksk k = .ok () ↔
    (∀ t, ksk.keyTag = some t → k.keyTag = t) ∧
    (∀ ds, ksk.dsSha256 = some ds → ds.isEmpty = false →
      ∃ inp digest, dsInput k = .ok inp ∧ ext.hash .sha256 inp = some digest ∧
        ds.toUpper = upperHex digest) := by
  rw [validateDnskeyMatchesKsk_eq, seq_ok_iff, tagCheck_ok_iff, dsCheck_ok_iff]
  exact And.comm

/-- one name of `_fetch_keys` (a view of the loop body; tied to the model by `fetchKeys_cons`) -/
def fetchOne (ext : Externals) (mods : List P11Module) (cfg : SignerConfig) (bundle : Bundle)
    (isPublic : Bool) (name : String) : TokM CompositeKey :=
  match cfg.kskKeys.lookup name with
  | none => TokM.err .key
  | some ksk => do
    match ← loadPkcs11Key mods ksk cfg.kskPolicy bundle isPublic with
    | none => TokM.err .configuration
    | some ck => do
      TokM.lift (validateDnskeyMatchesKsk ext ksk ck.dns)
      pure ck

theorem fetchKeys_cons (ext : Externals) (mods : List P11Module) (cfg : SignerConfig) (b : Bundle)
    (isPublic : Bool) (name : String) (rest : List String) :
    fetchKeys ext mods cfg b isPublic (name :: rest) =
      fetchOne ext mods cfg b isPublic name >>= fun ck =>
      fetchKeys ext mods cfg b isPublic rest >>= fun more => pure (ck :: more) := by
  rw [fetchKeys, fetchOne]
  cases cfg.kskKeys.lookup name with
  | none => rfl
  | some ksk =>
    simp only [TokM.bind_assoc]
    congr 1
    funext o
    cases o with
    | none => rfl
    | some ck =>
      simp only [TokM.bind_assoc]
      rfl

/-- `_fetch_keys` is `mapM` of its loop body -/
theorem fetchKeys_eq_mapM (ext : Externals) (mods : List P11Module) (cfg : SignerConfig) (b : Bundle)
    (isPublic : Bool) (names : List String) :
    fetchKeys ext mods cfg b isPublic names = names.mapM (fetchOne ext mods cfg b isPublic) := by
  induction names with
  | nil => rw [fetchKeys, List.mapM_nil]
  | cons n r ih => rw [fetchKeys_cons, List.mapM_cons, ih]

/-- the same step with every outcome spelled out -/
theorem fetchKeys_cons_run (ext : Externals) (mods : List P11Module) (cfg : SignerConfig) (b : Bundle)
    (isPublic : Bool) (name : String) (rest : List String) (tok : Token) (s : TokState) :
    fetchKeys ext mods cfg b isPublic (name :: rest) tok s =
      match cfg.kskKeys.lookup name with
      | none => (.error (.error .key), s)
      | some ksk =>
        match loadPkcs11Key mods ksk cfg.kskPolicy b isPublic tok s with
        | (.error e, s1) => (.error e, s1)
        | (.ok none, s1) => (.error (.error .configuration), s1)
        | (.ok (some ck), s1) =>
          match validateDnskeyMatchesKsk ext ksk ck.dns with
          | .error e => (.error e, s1)
          | .ok _ =>
            match fetchKeys ext mods cfg b isPublic rest tok s1 with
            | (.error e, s2) => (.error e, s2)
            | (.ok more, s2) => (.ok (ck :: more), s2) := by
  rw [fetchKeys]
  cases cfg.kskKeys.lookup name with
  | none => rfl
  | some ksk =>
    simp only [bind_run]
    cases loadPkcs11Key mods ksk cfg.kskPolicy b isPublic tok s with
    | mk r s1 =>
      cases r with
      | error e => rfl
      | ok o =>
        cases o with
        | none => rfl
        | some ck =>
          simp only [lift_bind_run]
          cases validateDnskeyMatchesKsk ext ksk ck.dns with
          | error e => rfl
          | ok u =>
            simp only [bind_run]
            cases fetchKeys ext mods cfg b isPublic rest tok s1 with
            | mk r2 s2 => cases r2 <;> rfl

theorem fetchKeys_cons_ok_iff (ext : Externals) (mods : List P11Module) (cfg : SignerConfig) (b : Bundle)
    (isPublic : Bool) (name : String) (rest : List String) (tok : Token) (s s' : TokState)
    (cks : List CompositeKey) :
    fetchKeys ext mods cfg b isPublic (name :: rest) tok s = (.ok cks, s') ↔
      ∃ ck more s1, cks = ck :: more ∧ fetchOne ext mods cfg b isPublic name tok s = (.ok ck, s1) ∧
        fetchKeys ext mods cfg b isPublic rest tok s1 = (.ok more, s') := by
  rw [fetchKeys_cons, TokM.bind_ok_iff]
  constructor
  · rintro ⟨ck, s1, h1, h2⟩
    obtain ⟨more, s2, h3, h4⟩ := TokM.bind_ok_iff.mp h2
    simp only [TokM.pure_run, Prod.mk.injEq, Except.ok.injEq] at h4
    obtain ⟨rfl, rfl⟩ := h4
    exact ⟨ck, more, s1, rfl, h1, h3⟩
  · rintro ⟨ck, more, s1, rfl, h1, h2⟩
    exact ⟨ck, s1, h1, TokM.bind_ok_iff.mpr ⟨more, s', h2, rfl⟩⟩

theorem fetchOne_ok_iff (ext : Externals) (mods : List P11Module) (cfg : SignerConfig) (b : Bundle)
    (isPublic : Bool) (name : String) (tok : Token) (s s' : TokState) (ck : CompositeKey) :
    fetchOne ext mods cfg b isPublic name tok s = (.ok ck, s') ↔
      ∃ ksk, cfg.kskKeys.lookup name = some ksk ∧
        loadPkcs11Key mods ksk cfg.kskPolicy b isPublic tok s = (.ok (some ck), s') ∧
        validateDnskeyMatchesKsk ext ksk ck.dns = .ok () := by
  unfold fetchOne
  cases cfg.kskKeys.lookup name with
  | none => simp
  | some ksk =>
    simp only [Option.some.injEq, exists_eq_left', bind_run]
    rcases loadPkcs11Key mods ksk cfg.kskPolicy b isPublic tok s with ⟨_ | _ | ck', s1⟩
    · simp
    · simp
    · simp only [lift_bind_run, Prod.mk.injEq, Except.ok.injEq, Option.some.injEq]
      cases hv : validateDnskeyMatchesKsk ext ksk ck'.dns with
      | error e =>
        refine ⟨fun h => (by cases h), ?_⟩
        rintro ⟨⟨rfl, _⟩, h⟩
        rw [hv] at h
        cases h
      | ok u =>
        simp only [TokM.pure_run, Prod.mk.injEq, Except.ok.injEq]
        exact ⟨fun h => ⟨h, h.1 ▸ hv⟩, And.left⟩

/-- every key `_fetch_keys` returns was fetched by one `fetchOne`, under a listed name -/
theorem fetchKeys_mem {ext : Externals} {mods : List P11Module} {cfg : SignerConfig} {b : Bundle} {isPublic : Bool}
    {names : List String} {t : Token} {s s' : TokState} {cks : List CompositeKey}
    (h : fetchKeys ext mods cfg b isPublic names t s = (.ok cks, s')) :
    ∀ ck ∈ cks, ∃ name ∈ names, ∃ s1 s2, fetchOne ext mods cfg b isPublic name t s1 = (.ok ck, s2) := by
  induction names generalizing s cks with
  | nil =>
    simp only [fetchKeys, TokM.pure_run, Prod.mk.injEq, Except.ok.injEq] at h
    rw [← h.1]; exact fun _ h => absurd h List.not_mem_nil
  | cons name rest ih =>
    obtain ⟨ck, more, s1, rfl, h1, hmore⟩ := (fetchKeys_cons_ok_iff _ _ _ _ _ _ _ _ _ _ _).mp h
    intro c hc
    rcases List.mem_cons.mp hc with rfl | hc
    · exact ⟨name, List.mem_cons_self, s, s1, h1⟩
    · obtain ⟨n, hn, r⟩ := ih hmore c hc
      exact ⟨n, List.mem_cons_of_mem _ hn, r⟩

end Kskm
