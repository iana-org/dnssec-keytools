/-
  `load_pkcs11_key` reports a policy violation only from its window test: every other failure of
  the lookup / conversion / acceptance path is a non-policy error or `unsupported` (C04).
-/
import KskmProofs.Lemmas.HsmLoad
namespace Kskm

theorem rsaDecodeBytes_noViol (b : Bytes) : NoViol (rsaDecodeBytes b) := by
  unfold rsaDecodeBytes
  split
  · exact NoViol.err _
  · split
    · split
      · exact NoViol.pure _
      · exact NoViol.err _
    · exact NoViol.pure _

theorem rsaDecode_noViol (pk : String) (a : Nat) : NoViol (rsaDecode pk a) := by
  unfold rsaDecode
  split
  · exact NoViol.unsupported
  · refine NoViol.bind (rsaDecodeBytes_noViol _) fun _ => ?_
    split
    · exact NoViol.pure _
    · exact NoViol.err _

theorem keyToRdata_noViol (k : Key) : NoViol (keyToRdata k) := by
  unfold keyToRdata
  split
  · exact NoViol.err _
  · split
    · exact NoViol.unsupported
    · exact NoViol.pure _

theorem calculateKeyTag_noViol (k : Key) : NoViol (calculateKeyTag k) :=
  NoViol.bind (keyToRdata_noViol k) fun _ => NoViol.pure _

theorem expectedEcdsaKeySize_noViol (a : Nat) : NoViol (expectedEcdsaKeySize a) := by
  unfold expectedEcdsaKeySize
  split
  · exact NoViol.pure _
  · split
    · exact NoViol.pure _
    · exact NoViol.err _

theorem ecdsaWithoutPrefix_noViol (pk : Bytes) (a : Nat) : NoViol (ecdsaWithoutPrefix pk a) := by
  refine NoViol.bind (expectedEcdsaKeySize_noViol a) fun _ => ?_
  split
  · split
    · exact NoViol.err _
    · split <;> exact NoViol.pure _
  · exact NoViol.pure _

theorem Key.validate_noViol (k : Key) : NoViol k.validate := by
  unfold Key.validate
  extract_lets flags
  have hf : ∀ u, NoViol (flags u) := fun _ => by
    dsimp only [flags]
    split
    · exact NoViol.pure _
    · exact NoViol.err _
  split
  · split
    · exact NoViol.unsupported
    · refine NoViol.bind (ecdsaWithoutPrefix_noViol _ _) fun _ =>
        NoViol.bind (expectedEcdsaKeySize_noViol _) fun _ => ?_
      split
      · exact NoViol.err _
      · exact hf ()
  · exact hf ()

theorem publicKeyToDnssecKey_noViol (pk id : String) (alg : Nat) (ttl flags : Int) :
    NoViol (publicKeyToDnssecKey pk id alg ttl flags) := by
  unfold publicKeyToDnssecKey
  refine NoViol.bind (Key.validate_noViol _) (fun _ => ?_)
  refine NoViol.bind (calculateKeyTag_noViol _) (fun _ => ?_)
  exact NoViol.pure _

theorem familyCheck_noViol (ksk : KskKey) (kt : KeyType) (pk : String) : NoViol (familyCheck ksk kt pk) := by
  unfold familyCheck
  split
  · split
    · exact NoViol.err _
    · refine NoViol.bind (rsaDecode_noViol pk ksk.algorithm) fun _ => ?_
      split
      · exact NoViol.err _
      · split
        · exact NoViol.err _
        · exact NoViol.pure _
  · split
    · exact NoViol.err _
    · exact NoViol.pure _
  · exact NoViol.pure _

theorem acceptKey_noViol (ksk : KskKey) (pol : KskPolicy) (found : P11Key) :
    NoViol (acceptKey ksk pol found) := by
  have h1 := fun pk => familyCheck_noViol ksk found.keyType pk
  have h2 := fun pk => publicKeyToDnssecKey_noViol pk ksk.label ksk.algorithm pol.ttl 257
  rw [acceptKey_eq]
  split
  · exact NoViol.pure _
  · split
    · exact NoViol.pure _
    · refine NoViol.bind (h1 _) (fun _ => ?_)
      split
      · exact NoViol.pure _
      · exact NoViol.pure _
      · exact NoViol.bind (h2 _) (fun _ => NoViol.pure _)

/-- a token computation that never fails with a policy violation -/
def NeverViol {α} (m : TokM α) : Prop := ∀ tok s, NoViol (m tok s).1

namespace NeverViol
variable {α β : Type}
theorem unsupported : NeverViol (TokM.fail .unsupported : TokM α) := fun _ _ _ h => by cases h
end NeverViol

theorem Plays.neverViol {α} {P : TokOp → Prop} {m : TokM α} (h : Plays P (fun _ => False) m) : NeverViol m :=
  fun t s _ hv => h.violation_of t s hv

/-- inside the window, `load_pkcs11_key` never reports a policy violation -/
theorem loadInside_neverViol (mods : List P11Module) (ksk : KskKey) (pol : KskPolicy) (isPublic : Bool) :
    NeverViol (loadInside mods ksk pol isPublic) :=
  (loadInside_plays mods ksk pol isPublic (acceptKey_noViol ksk pol)).neverViol

end Kskm
