/-
  A healthy token as an oracle: a store of objects per module and slot, answers independent of the
  operation index.  Used as the hypothesis "the token is healthy" in C15 / C04 theorems and in
  their non-vacuity examples; theorems about *every* token do not mention it.
-/
import KskmProofs.Lemmas.Hsm
import KskmProofs.Lemmas.General
namespace Kskm

/-- an object held by a token; absent attributes are `none` -/
structure StoreObj where
  handle : Nat
  cls : Nat
  label : String
  keyType : Option Nat := none
  modulus : Option Bytes := none
  publicExponent : Option Bytes := none
  ecPoint : Option Bytes := none
  ecParams : Option Bytes := none
  deriving DecidableEq, Repr, Inhabited

/-- module path ↦ slot ↦ objects in stored order -/
abbrev Store := String → Nat → List StoreObj

def StoreObj.matches (label : String) (cls : Nat) (o : StoreObj) : Bool :=
  o.label == label && o.cls == cls

def optBytes : Option Bytes → AttrAns
  | some b => .bytes b
  | none => .none

def StoreObj.attr (o : StoreObj) (name : String) : AttrAns :=
  if name = "KEY_TYPE" then (match o.keyType with | some n => .num n | none => .none)
  else if name = "MODULUS" then optBytes o.modulus
  else if name = "PUBLIC_EXPONENT" then optBytes o.publicExponent
  else if name = "EC_POINT" then optBytes o.ecPoint
  else if name = "EC_PARAMS" then optBytes o.ecParams
  else .none

/-- A healthy token over a store: `findObjects` filters on LABEL and CLASS (handles in stored
    order), `getAttr` looks the object up by handle (absent attribute ↦ `.none`), open/login succeed
    exactly on the slots `loginOk` admits.  Answers do not depend on the operation index. -/
def storeToken (st : Store) (loginOk : String → Nat → Bool) : Token := fun _ op =>
  match op with
  | .openSession m s _ => if loginOk m s then .ok else .error
  | .login m s _ _ => if loginOk m s then .ok else .error
  | .findObjects m s [("LABEL", .str l), ("CLASS", .num c)] =>
    .handles (((st m s).filter (·.matches l c)).map (·.handle))
  | .getAttr m s h names =>
    match (st m s).find? (·.handle == h) with
    | some o => .attrs (names.map o.attr)
    | none => .error
  | _ => .other

/-- the objects of slot `sl` of module `m` that carry `label` and have class `cls` -/
def matching (st : Store) (m : P11Module) (label : String) (cls : Nat) (sl : Nat) : List StoreObj :=
  (st m.path sl).filter (·.matches label cls)

theorem storeToken_find (st : Store) (ok : String → Nat → Bool) (i : Nat) (m : P11Module)
    (label : String) (cls sl : Nat) :
    storeToken st ok i (findOp m label cls sl) =
      .handles ((matching st m label cls sl).map (·.handle)) := by
  simp [storeToken, findOp, matching]

theorem storeToken_getAttr (st : Store) (ok : String → Nat → Bool) (i : Nat) (path : String)
    (sl h : Nat) (names : List String) (o : StoreObj)
    (ho : (st path sl).find? (·.handle == h) = some o) :
    storeToken st ok i (.getAttr path sl h names) = .attrs (names.map o.attr) := by
  simp [storeToken, ho]

theorem storeToken_open (st : Store) (ok : String → Nat → Bool) (i : Nat) (m : P11Module) (sl : Nat) :
    storeToken st ok i (openOpOf m sl) = if ok m.path sl then .ok else .error := by
  simp [storeToken, openOpOf]

theorem storeToken_login (st : Store) (ok : String → Nat → Bool) (i : Nat) (m : P11Module) (sl : Nat)
    (p : String) :
    storeToken st ok i (loginOpOf m sl p) = if ok m.path sl then .ok else .error := by
  simp [storeToken, loginOpOf]

theorem StoreObj.attr_keyType (o : StoreObj) (n : Nat) (h : o.keyType = some n) :
    o.attr "KEY_TYPE" = .num n := by simp [StoreObj.attr, h]
theorem StoreObj.attr_modulus (o : StoreObj) : o.attr "MODULUS" = optBytes o.modulus := by
  simp [StoreObj.attr]
theorem StoreObj.attr_publicExponent (o : StoreObj) :
    o.attr "PUBLIC_EXPONENT" = optBytes o.publicExponent := by simp [StoreObj.attr]
theorem StoreObj.attr_ecPoint (o : StoreObj) : o.attr "EC_POINT" = optBytes o.ecPoint := by
  simp [StoreObj.attr]
theorem StoreObj.attr_ecParams (o : StoreObj) : o.attr "EC_PARAMS" = optBytes o.ecParams := by
  simp [StoreObj.attr]

theorem storeToken_answers (st : Store) (ok : String → Nat → Bool) {path : String} {sl : Nat} {o : StoreObj}
    (ho : (st path sl).find? (·.handle == o.handle) = some o) (name : String) :
    Answers (storeToken st ok) path sl o.handle name (o.attr name) :=
  fun i => by rw [storeToken_getAttr st ok i path sl o.handle [name] o ho]; rfl

theorem storeToken_getAttr1 (st : Store) (ok : String → Nat → Bool) (i : Nat) (path : String)
    (sl : Nat) (name : String) (o : StoreObj)
    (ho : (st path sl).find? (·.handle == o.handle) = some o) :
    storeToken st ok i (.getAttr path sl o.handle [name]) = .attrs [o.attr name] :=
  storeToken_answers st ok ho name i

end Kskm
