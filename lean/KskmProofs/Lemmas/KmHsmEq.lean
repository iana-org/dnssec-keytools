/-
  The keymaster's token lookups are the signer's token lookups.

  Kskm/Keymaster.lean writes `_p11_object_to_public_key`, `find_key_by_label` and `get_p11_key` as programs
  of the free monad `Km.Prog`; Kskm/Hsm.lean writes the same repository functions directly in the token
  monad `TokM` (used by C15 / C04 / C01–C03).  Here: the oracle interpretation `Prog.runTok` is a monad
  morphism (`runTok_bind`), it maps the primitive programs to the primitive `TokM` computations, and hence —
  by unfolding both texts side by side — `runTok` of each `…P` program IS the `TokM` function of
  Kskm/Hsm.lean: equal as functions of the token and the state, i.e. same result, same final operation
  count, same log, for every token oracle and every starting state.
-/
import Kskm.Keymaster
import KskmProofs.Lemmas.Hsm
import KskmProofs.Lemmas.C19Prog
namespace Kskm.Km

/-- **`runTok` commutes with sequencing** -/
theorem runTok_bind {α β} (p : Prog α) (f : α → Prog β) :
    (p >>= f).runTok = p.runTok >>= fun a => (f a).runTok := by
  rw [bind_def]
  induction p with
  | ret a => simp only [Prog.bind, runTok_ret, TokM.pure_bind]
  | fail e => simp only [Prog.bind, runTok_fail, TokM.fail_bind]
  | ask op k ih =>
    simp only [Prog.bind, runTok_ask, TokM.bind_assoc]
    exact TokM.bind_congr _ ih

@[simp] theorem runTok_pure {α} (a : α) : (pure a : Prog α).runTok = (pure a : TokM α) := rfl

theorem runTok_askP (op : TokOp) : (askP op).runTok = Kskm.ask op := by
  unfold askP
  rw [runTok_ask]
  exact TokM.bind_pure _

theorem runTok_errP {α} (k : ErrKind) : (errP k : Prog α).runTok = TokM.err k := rfl

theorem runTok_liftP {α} (r : Res α) : (liftP r).runTok = TokM.lift r := by
  cases r <;> rfl

/-- a PyKCS11Error answer propagates — the same way in both texts -/
theorem runTok_askOkP (op : TokOp) : (askOkP op).runTok = Kskm.askOk op := by
  unfold askOkP Kskm.askOk
  rw [runTok_bind, runTok_askP]
  apply TokM.bind_congr
  intro a
  cases a <;> rfl

theorem runTok_attr1P (a : TokAns) : (attr1P a).runTok = attr1 a := by
  cases a with
  | attrs l => rcases l with _ | ⟨x, _ | _⟩ <;> rfl
  | _ => rfl

theorem runTok_attrBytesP (a : AttrAns) : (attrBytesP a).runTok = attrBytes a := by
  cases a <;> rfl

/-- the two texts are compared bind by bind -/
theorem runTok_bind_eq {α β} {p : Prog α} {f : α → Prog β} {m : TokM α} {g : α → TokM β}
    (hp : p.runTok = m) (hf : ∀ a, (f a).runTok = g a) : (p >>= f).runTok = m >>= g := by
  rw [runTok_bind, hp]
  exact TokM.bind_congr m hf

theorem runTok_ite_eq {α} {c : Prop} [Decidable c] {p q : Prog α} {m n : TokM α}
    (hp : p.runTok = m) (hq : q.runTok = n) : (if c then p else q).runTok = if c then m else n := by
  split <;> assumption

/-- `attr1 (← askOk op)` in both texts -/
theorem runTok_askAttr {β} (op : TokOp) {f : AttrAns → Prog β} {g : AttrAns → TokM β}
    (hf : ∀ x, (f x).runTok = g x) :
    (askOkP op >>= fun a => attr1P a >>= f).runTok = Kskm.askOk op >>= fun a => attr1 a >>= g :=
  runTok_bind_eq (runTok_askOkP op) fun a => runTok_bind_eq (runTok_attr1P a) hf

/-- **`_p11_object_to_public_key`**: the keymaster's program, run against a token oracle, is the signer's
    `TokM` function. -/
theorem runTok_p11ObjectToPublicKeyP (path : String) (slot handle : Nat) :
    (p11ObjectToPublicKeyP path slot handle).runTok = p11ObjectToPublicKey path slot handle := by
  unfold p11ObjectToPublicKeyP p11ObjectToPublicKey
  refine runTok_askAttr _ fun kt => ?_
  cases kt with
  | none => rfl
  | bytes b => rfl
  | str x => rfl
  | num n =>
    refine runTok_ite_eq ?_ (runTok_ite_eq ?_ rfl)
    · exact runTok_askAttr _ fun modulus => runTok_askAttr _ fun exp =>
        runTok_bind_eq (runTok_attrBytesP _) fun e => runTok_bind_eq (runTok_attrBytesP _) fun n =>
        runTok_bind_eq (runTok_liftP _) fun _ => rfl
    · refine runTok_askAttr _ fun pt => ?_
      cases pt with
      | none => rfl
      | num n => rfl
      | str x => rfl
      | bytes point =>
        cases point with
        | nil => rfl
        | cons c r =>
          refine runTok_ite_eq rfl (runTok_askAttr _ fun ps => runTok_bind_eq (runTok_attrBytesP _) fun params => ?_)
          exact runTok_ite_eq (runTok_bind_eq rfl fun _ => runTok_ite_eq rfl rfl)
            (runTok_ite_eq (runTok_bind_eq rfl fun _ => runTok_ite_eq rfl rfl) rfl)

/-- the end of `find_key_by_label` -/
theorem runTok_foundKeyTailP (m : P11Module) (label : String) (keyClass : Nat) (hh : Option Bool)
    (slot h : Nat) (pk : Option String) :
    (foundKeyTailP m label keyClass hh slot h pk).runTok = foundKeyTail m label keyClass hh slot h pk := by
  unfold foundKeyTailP foundKeyTail
  refine runTok_askAttr _ fun kt => ?_
  cases kt with
  | none => rfl
  | bytes b => rfl
  | str x => rfl
  | num n =>
    dsimp only
    cases keyTypeOf n <;> rfl

theorem runTok_foundKeyP (m : P11Module) (label : String) (keyClass : Nat) (hh : Option Bool) (slot h : Nat) :
    (foundKeyP m label keyClass hh slot h).runTok = foundKey m label keyClass hh slot h := by
  unfold foundKeyP foundKey
  split
  · exact runTok_bind_eq (runTok_p11ObjectToPublicKeyP m.path slot h) (runTok_foundKeyTailP m label keyClass hh slot h)
  · exact runTok_foundKeyTailP m label keyClass hh slot h none

/-- **`find_key_by_label`** over the sessions of one module -/
theorem runTok_findInSlotsP (m : P11Module) (label : String) (keyClass : Nat) (hh : Option Bool) :
    ∀ slots : List Nat,
      (findInSlotsP m label keyClass hh slots).runTok = findInSlots m label keyClass hh slots := by
  intro slots
  induction slots with
  | nil => rfl
  | cons sl rest ih =>
    rw [findInSlots_cons, findInSlotsP, runTok_bind, runTok_askOkP]
    apply TokM.bind_congr; intro r
    cases r with
    | handles l =>
      rcases l with _ | ⟨h, _ | ⟨h2, r⟩⟩
      · exact ih
      · exact runTok_foundKeyP m label keyClass hh sl h
      · rfl
    | _ => rfl

/-- **`get_p11_key`**: modules in order, the first hit wins -/
theorem runTok_getP11KeyP (label : String) (isPublic : Bool) (hh : Option Bool) :
    ∀ mods : List P11Module,
      (getP11KeyP label isPublic hh mods).runTok = getP11Key label isPublic hh mods := by
  intro mods
  induction mods with
  | nil => rfl
  | cons m rest ih =>
    rw [getP11Key_cons, getP11KeyP, runTok_bind, runTok_findInSlotsP]
    apply TokM.bind_congr; intro r
    cases r with
    | none => exact ih
    | some k => rfl

end Kskm.Km
