/-
  String literals under kernel evaluation.

  `"abc".toList` is definitionally `['a', 'b', 'c']` (a literal is `String.ofList` of its characters), but
  a kernel that is asked to EVALUATE it decodes the UTF-8 bytes one by one, about 30 ms for eight
  characters — more than parsing the text afterwards.  `String.toList_ofList` states the equation, and
  rewriting with it instantiates the character list from the literal at no cost.
-/
namespace Kskm

/-- replace every `"literal".toList` of the goal by its list of characters (before `decide +kernel`) -/
macro "chars" : tactic => `(tactic| repeat rw [String.toList_ofList])

end Kskm
