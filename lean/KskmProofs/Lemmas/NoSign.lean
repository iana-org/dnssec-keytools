/- None of the token work that precedes the signing stage of a ceremony issues a `C_Sign`. -/
import Kskm.Ceremony
import KskmProofs.Lemmas.Hsm
namespace Kskm

/-- not a private-key operation -/
def NotSign (op : TokOp) : Prop := isSignOp op = false

theorem IsSetupOp.notSign {op : TokOp} (h : IsSetupOp op) : NotSign op := by
  cases op <;> first | rfl | exact h.elim

theorem initPkcs11Modules_plays (all : List HsmConfig) (name : Option String) (typed : String) :
    ∀ l, Plays IsSetupOp (fun _ => False) (initPkcs11Modules all name typed l)
  | [] => by
    rw [initPkcs11Modules]
    split
    · exact .err _
    · exact .pure _
  | h :: rest => by
    rw [initPkcs11Modules]
    split
    · exact initPkcs11Modules_plays all name typed rest
    · exact (init_plays _ _ _ _ _ _ _).bind fun _ =>
        (initPkcs11Modules_plays all name typed rest).bind fun _ => .pure _

theorem initPkcs11Modules_emits (all : List HsmConfig) (name : Option String) (typed : String)
    (l : List HsmConfig) : Emits NotSign (initPkcs11Modules all name typed l) :=
  (initPkcs11Modules_plays all name typed l).emits.mono fun _ h => h.notSign

theorem lookupPublic_plays (mods : List P11Module) (label : String) :
    Plays (IsLookupAmong mods label ckoPublic) (fun _ => False) (lookupPublic mods label) := by
  unfold lookupPublic
  refine (getP11Key_plays label true none mods).bind fun r => ?_
  split <;> exact .pure _

/-- `check_last_skr_key_present` only looks keys up; a key that is missing or differs is a policy violation -/
theorem keyPresentGo_plays (mods : List P11Module) (lb : Bundle) :
    ∀ sigs, Plays (IsReadAmong mods) (fun _ => True) (checkLastSkrKeyPresentTok.go mods lb sigs)
  | [] => by rw [checkLastSkrKeyPresentTok.go]; exact .pure _
  | sig :: rest => by
    rw [checkLastSkrKeyPresentTok.go]
    refine ((lookupPublic_plays mods _).mono (fun _ h => h.isReadAmong) fun _ _ => trivial).bind fun r => ?_
    split
    · exact .violation _ trivial
    · exact .violation _ trivial
    · split
      · exact .violation _ trivial
      · refine (Plays.lift fun _ _ => trivial).bind fun hsmkey => ?_
        split
        · exact .err _
        · split
          · exact .violation _ trivial
          · exact keyPresentGo_plays mods lb rest

theorem checkLastSkrKeyPresentTok_plays (last : Response) (pol : RequestPolicy) (mods : List P11Module) :
    Plays (IsReadAmong mods) (fun _ => True) (checkLastSkrKeyPresentTok last pol mods) := by
  unfold checkLastSkrKeyPresentTok
  split
  · exact .pure _
  · split
    · exact .pure _
    · split
      · exact .err _
      · refine (keyPresentGo_plays mods _ _).bind fun _ => ?_
        split
        · exact .violation _ trivial
        · exact .pure _

theorem stageChain_plays (a : CeremonyArgs) (req : Request) (skr : Option Response) (mods : List P11Module) :
    Plays (IsReadAmong mods) (fun _ => True) (stageChain a req skr mods) := by
  unfold stageChain
  split
  · exact .pure _
  · exact (Plays.lift fun _ _ => trivial).bind fun _ => (Plays.lift fun _ _ => trivial).bind fun _ =>
      (Plays.lift fun _ _ => trivial).bind fun _ => (Plays.lift fun _ _ => trivial).bind fun _ =>
      checkLastSkrKeyPresentTok_plays _ _ mods

theorem stageChain_emits (a : CeremonyArgs) (req : Request) (skr : Option Response) (mods : List P11Module) :
    Emits NotSign (stageChain a req skr mods) :=
  (stageChain_plays a req skr mods).emits.mono fun _ h => h.not_sign

end Kskm
