/-
  The characters the signer's own codecs can print — `str(int)`, `format_datetime`, `timedelta_to_duration` —
  for every value whatsoever.  A character class that contains this alphabet (`safeChar`, `inkChar`, …) contains
  every printed text: one `decide` over the alphabet (`Printed.all`).
-/
import KskmProofs.Lemmas.C11Digits
import Kskm.SkrXml
namespace Kskm

/-- decimal digits, the sign, the letters and separators of ISO 8601 instants and durations; 'a' … 'f' and '*' are
    what `Nat.digitChar` yields above 9 (`pad2` never asks for them) -/
def printedChars : List Char :=
  ['0', '1', '2', '3', '4', '5', '6', '7', '8', '9', 'a', 'b', 'c', 'd', 'e', 'f', '*', '-', '+', ':', 'T', 'P', 'D',
   'H', 'M', 'S']

def Printed (l : List Char) : Prop := ∀ c ∈ l, c ∈ printedChars

/-- a class that holds of the alphabet holds of every printed text -/
theorem Printed.all {p : Char → Bool} (hp : ∀ c ∈ printedChars, p c = true) {l : List Char} (h : Printed l) :
    ∀ c ∈ l, p c = true := fun c hc => hp c (h c hc)

/-! `Printed`, like `Safe`, `Ink` and `C18.Gen`, is a `∀ c ∈ l, …`: its closure under `[]`, `::` and `++` is core's
    `List.forall_mem_nil / _cons / _append`, named here for dot notation. -/

theorem Printed.nil : Printed [] := List.forall_mem_nil _

theorem Printed.cons {c : Char} {l : List Char} (hc : c ∈ printedChars) (hl : Printed l) : Printed (c :: l) :=
  List.forall_mem_cons.mpr ⟨hc, hl⟩

theorem Printed.append {a b : List Char} (ha : Printed a) (hb : Printed b) : Printed (a ++ b) :=
  List.forall_mem_append.mpr ⟨ha, hb⟩

theorem Printed.ite {p : Prop} [Decidable p] {a b : List Char} (ha : Printed a) (hb : Printed b) :
    Printed (if p then a else b) := by
  split <;> assumption

theorem digit_cases (c : Char) (h : c.isDigit = true) :
    c = '0' ∨ c = '1' ∨ c = '2' ∨ c = '3' ∨ c = '4' ∨ c = '5' ∨ c = '6' ∨ c = '7' ∨ c = '8' ∨ c = '9' := by
  have h1 := Char.isDigit_iff_toNat.mp h
  have e : ∀ k : Nat, c.toNat = k → c = Char.ofNat k := fun k hk => by rw [← hk, Char.ofNat_toNat]
  have : c.toNat = 48 ∨ c.toNat = 49 ∨ c.toNat = 50 ∨ c.toNat = 51 ∨ c.toNat = 52 ∨ c.toNat = 53 ∨ c.toNat = 54 ∨
      c.toNat = 55 ∨ c.toNat = 56 ∨ c.toNat = 57 := by
    simp only [Char.reduceToNat] at h1; omega
  rcases this with h | h | h | h | h | h | h | h | h | h
  all_goals (have := e _ h; simp only [this]; decide)

theorem printed_toDigits (n : Nat) : Printed (Nat.toDigits 10 n) := fun c hc => by
  rcases digit_cases c (all_digits_toDigits n c hc) with rfl | rfl | rfl | rfl | rfl | rfl | rfl | rfl | rfl | rfl <;>
    decide

theorem printed_natStr (n : Nat) : Printed (natStr n) := printed_toDigits n

/-- `str(i)` for every integer, the sign included; `%Y` likewise -/
theorem printed_signed (i : Int) : Printed (if i < 0 then '-' :: Nat.toDigits 10 i.natAbs else Nat.toDigits 10 i.toNat) :=
  Printed.ite (Printed.cons (by decide) (printed_toDigits _)) (printed_toDigits _)

theorem printed_pyIntStr (i : Int) : Printed (pyIntStr i) := printed_signed i

theorem printed_digitChar : ∀ n : Nat, Nat.digitChar n ∈ printedChars
  | 0 | 1 | 2 | 3 | 4 | 5 | 6 | 7 | 8 | 9 | 10 | 11 | 12 | 13 | 14 | 15 => by decide
  | n + 16 => by
    have : Nat.digitChar (n + 16) = '*' := by simp [Nat.digitChar]
    rw [this]; decide

theorem printed_pad2 (n : Nat) : Printed (pad2 n) :=
  Printed.cons (printed_digitChar _) (Printed.cons (printed_digitChar _) Printed.nil)

/-- `format_datetime(t)` for EVERY instant -/
theorem printed_formatDatetimeChars (t : Int) : Printed (formatDatetimeChars t) := by
  have one : ∀ c ∈ printedChars, Printed [c] := fun c h => Printed.cons h Printed.nil
  have zone : Printed "+00:00".toList := by rw [String.toList_ofList]; unfold Printed; decide
  exact (((((((((((printed_signed _).append (one '-' (by decide))).append (printed_pad2 _)).append
    (one '-' (by decide))).append (printed_pad2 _)).append (one 'T' (by decide))).append (printed_pad2 _)).append
    (one ':' (by decide))).append (printed_pad2 _)).append (one ':' (by decide))).append (printed_pad2 _)).append zone

theorem printed_formatTimePart (s : Nat) : Printed (formatTimePart s) := by
  have unit : ∀ (n : Nat) (c : Char), c ∈ printedChars → Printed (Nat.toDigits 10 n ++ [c]) :=
    fun n c h => (printed_toDigits n).append (Printed.cons h Printed.nil)
  exact Printed.cons (by decide) (((Printed.ite (unit _ _ (by decide)) Printed.nil).append
    (Printed.ite (unit _ _ (by decide)) Printed.nil)).append (Printed.ite (unit _ _ (by decide)) Printed.nil))

/-- `timedelta_to_duration(d)` for EVERY duration (negative ones included) -/
theorem printed_formatDurationChars (d : Int) : Printed (formatDurationChars d) := by
  unfold formatDurationChars
  split
  · rw [String.toList_ofList]; unfold Printed; decide
  · exact (Printed.ite (Printed.cons (by decide) ((printed_pyIntStr _).append (Printed.cons (by decide) Printed.nil)))
      (Printed.cons (by decide) Printed.nil)).append (Printed.ite (printed_formatTimePart _) Printed.nil)

end Kskm
