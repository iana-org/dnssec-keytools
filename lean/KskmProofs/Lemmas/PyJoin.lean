/- Python's `sep.join(parts)` and `s.split(sep)` on lists.  The model spells them several times (`joinNl` / `splitNl`,
   `joinSp`, `Wksr.splitOn`, `Config.splitOn`); what is proved about them is proved here, about `Py.join` / `Py.split`, and a
   spelling that needs it is tied to these two by an equation that stands next to its user. -/
namespace Kskm.Py
variable {α : Type}

/-- `sep.join(parts)` -/
def join (sep : α) : List (List α) → List α
  | [] => []
  | [w] => w
  | w :: r => w ++ sep :: join sep r

theorem join_eq_nil (sep : α) : ∀ ws : List (List α), (∀ w ∈ ws, w ≠ []) → join sep ws = [] → ws = []
  | [], _, _ => rfl
  | [w], hw, h => absurd h (hw w (by simp))
  | w :: w2 :: r, _, h => by simp [join] at h

variable [DecidableEq α]

/-- `s.split(sep)`: always at least one piece -/
def split (sep : α) : List α → List (List α)
  | [] => [[]]
  | c :: r =>
    if c = sep then [] :: split sep r
    else match split sep r with
      | [] => [[c]]
      | w :: ws => (c :: w) :: ws

theorem split_append (sep : α) (w t : List α) (hw : sep ∉ w) :
    split sep (w ++ sep :: t) = w :: split sep t := by
  induction w with
  | nil => simp [split]
  | cons c r ih =>
    have hc : c ≠ sep := fun h => hw (by simp [h])
    simp [split, hc, ih fun h => hw (by simp [h])]

theorem split_word (sep : α) (w : List α) (hw : sep ∉ w) : split sep w = [w] := by
  induction w with
  | nil => rfl
  | cons c r ih =>
    have hc : c ≠ sep := fun h => hw (by simp [h])
    simp [split, hc, ih fun h => hw (by simp [h])]

theorem split_join (sep : α) : ∀ ws : List (List α), ws ≠ [] → (∀ w ∈ ws, sep ∉ w) → split sep (join sep ws) = ws
  | [], h, _ => absurd rfl h
  | [w], _, hw => by simp [join, split_word sep w (hw w (by simp))]
  | w :: w2 :: r, _, hw => by
    show split sep (w ++ sep :: join sep (w2 :: r)) = _
    rw [split_append sep w _ (hw w (by simp)), split_join sep (w2 :: r) (by simp) fun x hx => hw x (by simp [hx])]

/-- `sep.join` is injective on lists of non-empty pieces without the separator -/
theorem join_injective (sep : α) (a b : List (List α))
    (ha : ∀ w ∈ a, w ≠ [] ∧ sep ∉ w) (hb : ∀ w ∈ b, w ≠ [] ∧ sep ∉ w) (h : join sep a = join sep b) : a = b := by
  by_cases ea : a = []
  · subst ea; exact (join_eq_nil sep b (fun w hw => (hb w hw).1) h.symm).symm
  · by_cases eb : b = []
    · subst eb; exact join_eq_nil sep a (fun w hw => (ha w hw).1) h
    · rw [← split_join sep a ea fun w hw => (ha w hw).2, ← split_join sep b eb fun w hw => (hb w hw).2, h]

end Kskm.Py

