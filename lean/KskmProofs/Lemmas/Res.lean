import Kskm.Basic
import KskmProofs.Lemmas.General
import KskmProofs.Lemmas.Attr

/-! What a `do` block of the model returns: the outcome calculus of `Res = Except Fail`.  Every rule of the model
    is made of four step shapes — a bind, a guard, a loop (`forEach`, `List.mapM`), a `match` on an answer — and
    this module says what each contributes to `… = .ok v` and to `… = .error e`.  (Apart from `Lemmas/General`,
    which is about lists alone and is also used where no `Res` occurs.) -/

namespace Kskm

/-! ### one step -/

theorem Res.bind_ok_iff {α β} {x : Res α} {f : α → Res β} {b : β} :
    (x >>= f) = .ok b ↔ ∃ a, x = .ok a ∧ f a = .ok b := by
  cases x <;> simp [bind, Except.bind]

theorem Res.bind_error_iff {α β} {x : Res α} {f : α → Res β} {e : Fail} :
    (x >>= f) = .error e ↔ x = .error e ∨ ∃ a, x = .ok a ∧ f a = .error e := by
  cases x <;> simp [bind, Except.bind]

theorem Res.bind_ok {α β} {x : Res α} {f : α → Res β} {b : β} (h : (x >>= f) = .ok b) :
    ∃ a, x = .ok a ∧ f a = .ok b := Res.bind_ok_iff.mp h

theorem Res.error_bind {α β} (e : Fail) (f : α → Res β) : ((.error e : Res α) >>= f) = .error e := rfl
theorem Res.ok_bind {α β} (a : α) (f : α → Res β) : ((.ok a : Res α) >>= f) = f a := rfl

theorem Res.bind_unit_pure (x : Res Unit) : (x >>= fun _ => (pure () : Res Unit)) = x := by
  rcases x with _ | ⟨⟨⟩⟩ <;> rfl

theorem Res.pure_ok_iff {α} {a b : α} : (pure a : Res α) = .ok b ↔ a = b := by
  simp [pure, Except.pure]

theorem Res.exists_ok_unit {x : Res Unit} : (∃ u, x = .ok u) ↔ x = .ok () :=
  ⟨fun ⟨_, h⟩ => h, fun h => ⟨(), h⟩⟩

/-- `if c then fail else go on` -/
theorem Res.guard_ok_iff {α} {c : Prop} [Decidable c] {e : Fail} {y : Res α} {a : α} :
    (if c then .error e else y) = .ok a ↔ ¬ c ∧ y = .ok a := by
  by_cases h : c <;> simp [h]

/-- `if c then go on else fail` -/
theorem Res.guard_ok_iff' {α} {c : Prop} [Decidable c] {e : Fail} {y : Res α} {a : α} :
    (if c then y else .error e) = .ok a ↔ c ∧ y = .ok a := by
  by_cases h : c <;> simp [h]

/-- a check behind its flag -/
theorem guarded_ok_iff (flag : Bool) (body : Res Unit) :
    (if !flag then pure () else body) = .ok () ↔ (flag = true → body = .ok ()) := by
  cases flag <;> simp [pure, Except.pure]

/-- the one fact behind every "a switched-off check never rejects" -/
theorem guarded_off {flag : Bool} (h : flag = false) (body : Res Unit) :
    (if !flag then pure () else body) = .ok () := by subst h; rfl

theorem bind_answers {α β} {x : Res α} {f : α → Res β} (hx : x ≠ unsupported) (hf : ∀ a, f a ≠ unsupported) :
    (x >>= f) ≠ unsupported := by
  cases x with
  | ok a => exact hf a
  | error e => exact fun h => hx (by simpa [bind, Except.bind, unsupported] using h)

/- The set `res_ok` (declared in `Lemmas/Attr`), used as `unfold f; simp only [res_ok]`.  It reads linear chains:
   an `if` whose two arms both go on needs a `split` first, a `match` on an answer a `cases` on the scrutinee.
   The do-notation copies the continuation into both arms of `if c then err k`, hence `Res.error_bind`; the
   logical lemmas clear the `False` branches away. -/
attribute [res_ok] err violation unsupported Res.error_bind Res.ok_bind Res.bind_ok_iff Res.guard_ok_iff
  Res.guard_ok_iff' Res.pure_ok_iff Res.exists_ok_unit forEach_ok_iff guarded_ok_iff
  Bool.false_eq_true eq_self false_and and_false exists_false exists_const exists_and_right and_true true_and
  not_false_eq_true
attribute [res_ok_proc ↓] reduceIte
attribute [res_ok_proc] reduceCtorEq

/-! The two guards with `violation` / `err` / `pure ()` in the branches, as `rw` can use them (it does not see
    through `violation`): `ite_viol_iff` — refuse if `c`, else go on with `x`; `ite_err_iff` — the same with an
    error; `ite_viol_ok_iff` — refuse if `c`, else accept; `ite_ok_viol_iff` — accept if `c`, else refuse. -/

theorem ite_viol_iff {c : Prop} [Decidable c] (r : Rule) (x : Res Unit) :
    (if c then violation r else x) = .ok () ↔ ¬ c ∧ x = .ok () := Res.guard_ok_iff

theorem ite_err_iff {α} {c : Prop} [Decidable c] (k : ErrKind) (x : Res α) (a : α) :
    (if c then err k else x) = .ok a ↔ ¬ c ∧ x = .ok a := Res.guard_ok_iff

theorem ite_viol_ok_iff {c : Prop} [Decidable c] (r : Rule) :
    (if c then (violation r : Res Unit) else pure ()) = .ok () ↔ ¬ c := Res.guard_ok_iff.trans (and_iff_left rfl)

theorem ite_ok_viol_iff {c : Prop} [Decidable c] (r : Rule) :
    (if c then (pure () : Res Unit) else violation r) = .ok () ↔ c := Res.guard_ok_iff'.trans (and_iff_left rfl)

theorem window_ok_iff (r : Rule) (x lo hi : Int) :
    (if x < lo then violation r else if x > hi then violation r else (pure () : Res Unit)) = .ok () ↔
      lo ≤ x ∧ x ≤ hi := by
  rw [ite_viol_iff, ite_viol_ok_iff]; omega

@[simp] theorem violation_ne_ok (r : Rule) : (violation r : Res Unit) ≠ .ok () := by
  simp [violation]

@[simp] theorem err_ne_ok (k : ErrKind) : (err k : Res Unit) ≠ .ok () := by
  simp [err]

@[simp] theorem pure_eq_ok : (pure () : Res Unit) = .ok () := rfl

/-! ### loops: `forEach` and `List.mapM` stop at the first failure

`forEach_ok_iff` (Kskm/Basic) and `forEach_error_iff` say everything about `forEach`, `mapM_ok_iff` and
`mapM_error_iff` everything about `List.mapM` in `Res`; the rest are their corollaries. -/

theorem forEach_error_iff {α} {f : α → Res Unit} {l : List α} {e : Fail} :
    forEach l f = .error e ↔ FirstSuch (fun a => f a = .ok ()) (fun a => f a = .error e) l := by
  induction l with
  | nil => simp [not_firstSuch_nil, forEach, pure, Except.pure]
  | cons a l ih =>
    rw [firstSuch_cons, ← ih, forEach]
    cases f a <;> simp [bind, Except.bind]

/-- a loop whose steps fail with `e` only passes or ends in `e` -/
theorem forEach_ok_or {α} {f : α → Res Unit} {e : Fail} {l : List α}
    (hall : ∀ a ∈ l, f a = .ok () ∨ f a = .error e) : forEach l f = .ok () ∨ forEach l f = .error e := by
  cases h : forEach l f with
  | ok u => exact Or.inl rfl
  | error e' =>
    obtain ⟨pre, x, post, rfl, _, hx⟩ := forEach_error_iff.mp h
    rcases hall x (by simp) with h' | h' <;> rw [hx] at h'
    · cases h'
    · exact Or.inr h'

theorem forEach_fails_with {α} {f : α → Res Unit} {e : Fail} {l : List α}
    (hall : ∀ a ∈ l, f a = .ok () ∨ f a = .error e) (hex : ∃ a ∈ l, f a ≠ .ok ()) :
    forEach l f = .error e :=
  (forEach_ok_or hall).resolve_left fun h => let ⟨a, ha, hne⟩ := hex; hne ((forEach_ok_iff l f).mp h a ha)

theorem mem_adjacent {α} (l : List α) (p t : α) :
    (p, t) ∈ adjacent l ↔ ∃ i, l[i]? = some p ∧ l[i + 1]? = some t := by
  induction l with
  | nil => simp [adjacent]
  | cons a r ih =>
    cases r with
    | nil => simp [adjacent]
    | cons b r' =>
      simp only [adjacent, List.mem_cons, Prod.mk.injEq]
      constructor
      · rintro (⟨rfl, rfl⟩ | h)
        · exact ⟨0, by simp⟩
        · obtain ⟨i, h1, h2⟩ := ih.mp h
          exact ⟨i + 1, by simpa using h1, by simpa using h2⟩
      · rintro ⟨i, h1, h2⟩
        cases i with
        | zero => left; simp at h1 h2; exact ⟨h1.symm, h2.symm⟩
        | succ j => right; exact ih.mpr ⟨j, by simpa using h1, by simpa using h2⟩

/-- a transitive relation that holds of neighbours holds of all pairs -/
theorem pairwise_of_adjacent {α} (R : α → α → Prop) (htr : ∀ a b c, R a b → R b c → R a c) :
    ∀ (l : List α), (∀ p ∈ adjacent l, R p.1 p.2) → l.Pairwise R
  | [], _ => List.Pairwise.nil
  | [a], _ => by simp
  | a :: b :: r, h => by
    have hab : R a b := h (a, b) (by simp [adjacent])
    have ih := pairwise_of_adjacent R htr (b :: r) (fun p hp => h p (by simp [adjacent, hp]))
    refine List.pairwise_cons.mpr ⟨?_, ih⟩
    intro x hx
    rcases List.mem_cons.mp hx with rfl | hx'
    · exact hab
    · exact htr _ _ _ hab ((List.pairwise_cons.mp ih).1 x hx')

theorem forEach_adjacent_ok_iff {α} (l : List α) (f : α × α → Res Unit) (P : α → α → Prop)
    (h : ∀ p t, f (p, t) = .ok () ↔ P p t) :
    forEach (adjacent l) f = .ok () ↔ ∀ i p t, l[i]? = some p → l[i + 1]? = some t → P p t := by
  rw [forEach_ok_iff]
  constructor
  · intro hall i p t h1 h2
    exact (h p t).mp (hall (p, t) ((mem_adjacent l p t).mpr ⟨i, h1, h2⟩))
  · rintro hall ⟨p, t⟩ hm
    obtain ⟨i, h1, h2⟩ := (mem_adjacent l p t).mp hm
    exact (h p t).mpr (hall i p t h1 h2)

/-- `mapM` succeeds with `r` iff `r` lists the answers -/
theorem mapM_ok_iff {α β} {f : α → Res β} {l : List α} {r : List β} :
    l.mapM f = .ok r ↔ l.map f = r.map .ok := by
  induction l generalizing r with
  | nil => cases r <;> simp [pure, Except.pure]
  | cons a l ih =>
    cases r with
    | nil => simp [List.mapM_cons, Res.bind_ok_iff, pure, Except.pure]
    | cons b r =>
      simp only [List.mapM_cons, Res.bind_ok_iff, pure, Except.pure, Except.ok.injEq, List.cons.injEq,
        List.map_cons, ih]
      constructor
      · rintro ⟨b', hb, r', hr, rfl, rfl⟩; exact ⟨hb, hr⟩
      · rintro ⟨hb, hr⟩; exact ⟨b, hb, r, hr, rfl, rfl⟩

/-- `mapM` fails with `e` iff `e` is the first failure -/
theorem mapM_error_iff {α β} {f : α → Res β} {l : List α} {e : Fail} :
    l.mapM f = .error e ↔ FirstSuch (fun a => ∃ b, f a = .ok b) (fun a => f a = .error e) l := by
  induction l with
  | nil => simp [not_firstSuch_nil, pure, Except.pure]
  | cons a l ih =>
    rw [firstSuch_cons, ← ih, List.mapM_cons]
    cases f a <;> cases l.mapM f <;> simp [bind, Except.bind, pure, Except.pure]

theorem mapM_ok {α β} (f : α → Res β) (g : α → β) (l : List α) (h : ∀ x ∈ l, f x = .ok (g x)) :
    l.mapM f = .ok (l.map g) :=
  mapM_ok_iff.mpr (by rw [List.map_map]; exact List.map_congr_left h)

theorem mapM_map_ok {α β γ} (f : α → γ) (g : γ → Res β) (h : α → β) (l : List α)
    (hl : ∀ x ∈ l, g (f x) = .ok (h x)) : (l.map f).mapM g = .ok (l.map h) := by
  rw [List.mapM_map]
  exact mapM_ok _ _ _ hl

theorem mapM_map_self {α γ} (f : α → γ) (g : γ → Res α) (l : List α) (hl : ∀ x ∈ l, g (f x) = .ok x) :
    (l.map f).mapM g = .ok l := by
  rw [mapM_map_ok f g id l hl, List.map_id]

theorem mapM_ok_mem {α β} (f : α → Res β) (l : List α) (r : List β) (h : l.mapM f = .ok r) :
    (∀ b, b ∈ r ↔ ∃ a ∈ l, f a = .ok b) ∧ r.length = l.length ∧ (∀ a ∈ l, ∃ b, f a = .ok b) := by
  have h := mapM_ok_iff.mp h
  refine ⟨fun b => ?_, by simpa using (congrArg List.length h).symm, fun a ha => ?_⟩
  · have : Except.ok b ∈ r.map (Except.ok (ε := Fail)) ↔ b ∈ r := by simp
    rw [← this, ← h, List.mem_map]
  · have := List.mem_map_of_mem (f := f) ha
    rw [h] at this
    obtain ⟨b, _, hb⟩ := List.mem_map.mp this
    exact ⟨b, hb.symm⟩

theorem mapM_ok_of_forall {α β} (f : α → Res β) (Q : β → Prop) (l : List α)
    (h : ∀ a ∈ l, ∃ b, f a = .ok b ∧ Q b) : ∃ r, l.mapM f = .ok r ∧ ∀ b ∈ r, Q b := by
  cases hm : l.mapM f with
  | ok r =>
    refine ⟨r, rfl, fun b hb => ?_⟩
    obtain ⟨a, ha, hab⟩ := ((mapM_ok_mem f l r hm).1 b).mp hb
    obtain ⟨b', hb', hq⟩ := h a ha
    cases hab.symm.trans hb'; exact hq
  | error e =>
    obtain ⟨pre, a, post, rfl, _, ha⟩ := mapM_error_iff.mp hm
    obtain ⟨b, hb, _⟩ := h a (by simp)
    cases ha.symm.trans hb

theorem mapM_all_error {α β} (f : α → Res β) (e : Fail) (l : List α) (hne : l ≠ [])
    (h : ∀ x ∈ l, f x = .error e) : l.mapM f = .error e := by
  cases l with
  | nil => exact absurd rfl hne
  | cons a t => exact mapM_error_iff.mpr ⟨[], a, t, rfl, by simp, h a (by simp)⟩

/-- `mapM` on a reordered list: the same answers, reordered (a failure may be a different one).  The answers
    are `filterMap Except.toOption` of `l.map f`, and `Perm` passes through `map` and `filterMap`. -/
theorem mapM_perm {α β} (f : α → Res β) {l l' : List α} (h : l.Perm l') {r : List β} (hr : l.mapM f = .ok r) :
    ∃ r', l'.mapM f = .ok r' ∧ r.Perm r' := by
  obtain ⟨r', hr', -⟩ := mapM_ok_of_forall f (fun _ => True) l'
    (fun a ha => (((mapM_ok_mem f l r hr).2.2 a (h.mem_iff.mpr ha)).imp fun _ hb => ⟨hb, trivial⟩))
  refine ⟨r', hr', ?_⟩
  have hok : ∀ r : List β, (r.map (Except.ok (ε := Fail))).filterMap Except.toOption = r := fun r => by
    rw [List.filterMap_map]; exact List.filterMap_some
  have := (h.map f).filterMap Except.toOption
  rwa [mapM_ok_iff.mp hr, mapM_ok_iff.mp hr', hok, hok] at this

end Kskm
