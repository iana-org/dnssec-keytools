/-
  For C01 "completion": a store-level description of a healthy token with RSA keys — `signingToken`, the
  store-backed token of C15 / C04 (`storeToken`) that in addition answers `C_Sign`; `KeyLoc` / `OnToken`,
  where a label lives; `HealthyAction`, what must hold of one schema action and one request bundle —
  `load_pkcs11_key` on such a token, with the explicit composite key (forward direction of C15's lookup
  theorems and C04's `loaded_iff`), and one slot from the fetched keys on, for every token
  (`signBundle_of_ready`).
-/
import KskmProofs.Lemmas.TokRel
import KskmProofs.Lemmas.SignerPerm
import KskmProofs.Lemmas.SignerRun
import KskmProofs.Lemmas.Base64
import KskmProofs.C15
import KskmProofs.C04
import KskmProofs.C02
namespace Kskm

/-- `storeToken st ok` extended by a signing function: `C_Sign(module, slot, handle, mechanism,
    data)` is answered with `sg module slot handle mechanism data`; everything else is answered by
    `storeToken`.  Answers do not depend on the operation index. -/
def signingToken (st : Store) (ok : String → Nat → Bool)
    (sg : String → Nat → Nat → Nat → Bytes → Bytes) : Token := fun i op =>
  match op with
  | .sign m s h mech data => .sig (sg m s h mech data)
  | op => storeToken st ok i op

theorem storeToken_indexFree (st : Store) (ok : String → Nat → Bool) : IndexFree (storeToken st ok) :=
  fun _ _ _ => rfl

theorem signingToken_indexFree (st : Store) (ok : String → Nat → Bool)
    (sg : String → Nat → Nat → Nat → Bytes → Bytes) : IndexFree (signingToken st ok sg) := by
  intro i j op
  cases op <;> rfl

theorem signingToken_reads (st : Store) (ok : String → Nat → Bool)
    (sg : String → Nat → Nat → Nat → Bytes → Bytes) (mods : List P11Module) :
    AnswersAlike (IsReadAmong mods) (signingToken st ok sg) (storeToken st ok) := by
  intro i j op hop
  obtain ⟨m, _, hr⟩ := hop
  cases op <;> first | rfl | exact absurd hr (by simp [IsReadOn])

theorem signingToken_sign (st : Store) (ok : String → Nat → Bool)
    (sg : String → Nat → Nat → Nat → Bytes → Bytes) (i : Nat) (m : String) (s h mech : Nat) (d : Bytes) :
    signingToken st ok sg i (.sign m s h mech d) = .sig (sg m s h mech d) := rfl

/-- module, slot, the public and the private object, modulus, public exponent and the RFC 3110
    encoding of (exponent, modulus) of one RSA key pair -/
structure KeyLoc where
  m : P11Module
  slot : Nat
  pubO : StoreObj
  privO : StoreObj
  n : Bytes
  e : Bytes
  raw : Bytes
  deriving Repr, Inhabited

def KeyLoc.obj (L : KeyLoc) (isPublic : Bool) : StoreObj := if isPublic then L.pubO else L.privO

structure RsaObj (st : Store) (path : String) (slot : Nat) (o : StoreObj) (n e : Bytes) : Prop where
  find : (st path slot).find? (·.handle == o.handle) = some o
  keyType : o.keyType = some ckkRsa
  modulus : o.modulus = some n
  exponent : o.publicExponent = some e

/-- **The label is on the token, once.** In module order and, within the module, session-slot order,
    the first slot that holds any public or private object labelled `label` is slot `L.slot` of module
    `L.m`, and it holds exactly one public and exactly one private object under that label, both RSA
    with modulus `L.n` and public exponent `L.e`; `L.raw` is the RFC 3110 encoding. -/
structure OnToken (st : Store) (mods : List P11Module) (label : String) (L : KeyLoc) : Prop where
  modules : ∃ pre post, mods = pre ++ L.m :: post ∧
    ∀ m' ∈ pre, ∀ sl ∈ m'.sessions, ∀ isPublic, matching st m' label (classOf isPublic) sl = []
  sessions : ∃ spre spost, L.m.sessions = spre ++ L.slot :: spost ∧
    ∀ sl ∈ spre, ∀ isPublic, matching st L.m label (classOf isPublic) sl = []
  one : ∀ isPublic, matching st L.m label (classOf isPublic) L.slot = [L.obj isPublic]
  rsa : ∀ isPublic, RsaObj st L.m.path L.slot (L.obj isPublic) L.n L.e
  encoded : rsaEncodeBytes (beNat L.e) L.n = .ok L.raw
  positive : 1 ≤ beNat L.e
  /-- the DNSKEY RDATA (4 octets + key) fits a 16-bit length -/
  small : L.raw.length + 4 < 65536

/-- the key record `find_key_by_label` builds for that object -/
def p11Of (label : String) (hh : Option Bool) (L : KeyLoc) (isPublic : Bool) : P11Key :=
  { label, keyType := .rsa, keyClass := classOf isPublic, hashUsingHsm := hh,
    publicKey := some (Base64.encode L.raw), module := L.m.path, slot := L.slot,
    privHandle := if classOf isPublic ≠ ckoPublic then some (L.obj isPublic).handle else none,
    pubHandle := if classOf isPublic ≠ ckoSecret then some (L.obj isPublic).handle else none }

theorem getP11Key_onToken (st : Store) (ok : String → Nat → Bool) (mods : List P11Module)
    (label : String) (hh : Option Bool) (L : KeyLoc) (h : OnToken st mods label L) (isPublic : Bool)
    (s : TokState) :
    ∃ s', getP11Key label isPublic hh mods (storeToken st ok) s =
      (.ok (some (p11Of label hh L isPublic)), s') := by
  obtain ⟨pre, post, hm, hpre⟩ := h.modules
  obtain ⟨spre, spost, hs, hspre⟩ := h.sessions
  exact C15.getP11Key_first_conv st ok mods label isPublic hh L.m L.slot (L.obj isPublic) ckkRsa .rsa _
    ⟨pre, post, hm, fun m' hm' sl hsl => hpre m' hm' sl hsl isPublic⟩
    ⟨spre, spost, hs, fun sl hsl => hspre sl hsl isPublic⟩ (h.one isPublic) (h.rsa isPublic).find
    (h.rsa isPublic).keyType rfl (C15.rsa_conv st ok _ _ _ _ _ _ (h.rsa isPublic).find (h.rsa isPublic).keyType
      (h.rsa isPublic).modulus (h.rsa isPublic).exponent h.encoded) s

/-- the DNSKEY record `load_pkcs11_key` builds for a KSK whose public key octets (RFC 3110 for RSA) are `raw` -/
def dnsOf (ksk : KskKey) (ttl : Int) (raw : Bytes) : Key :=
  { keyIdentifier := ksk.label, keyTag := (keyTagOfRdata (rdataOf 257 3 ksk.algorithm raw) : Nat), ttl,
    flags := 257, protocol := 3, algorithm := ksk.algorithm, publicKey := Base64.encode raw }

theorem isAlgorithmRsa_cases {a : Nat} (h : isAlgorithmRsa a = true) : a = 5 ∨ a = 8 ∨ a = 10 := by
  simp only [isAlgorithmRsa, algRSASHA1, algRSASHA256, algRSASHA512, Bool.or_eq_true, beq_iff_eq] at h
  rcases h with (h | h) | h
  · exact Or.inl h
  · exact Or.inr (Or.inl h)
  · exact Or.inr (Or.inr h)

theorem rsa_not_ecdsa {a : Nat} (h : isAlgorithmRsa a = true) : isAlgorithmEcdsa a = false := by
  rcases isAlgorithmRsa_cases h with rfl | rfl | rfl <;> decide

theorem keyToRdata_dnsOf (ksk : KskKey) (ttl : Int) (raw : Bytes) (flags : Nat) (tag : Int)
    (hf : flags < 65536) (ha : ksk.algorithm < 256) :
    keyToRdata { dnsOf ksk ttl raw with flags := (flags : Int), keyTag := tag } =
      .ok (rdataOf flags 3 ksk.algorithm raw) := by
  have h1 : inRange 16 (flags : Int) = true := by
    simp only [inRange, Bool.and_eq_true, decide_eq_true_eq]
    refine ⟨by omega, ?_⟩
    simp only [Int.toNat_natCast]
    omega
  have h2 : inRange 8 (3 : Int) = true := by decide
  simp only [keyToRdata, dnsOf, h1, h2, ha, decide_true, Bool.and_self, Bool.not_true, Bool.false_eq_true,
    ↓reduceIte, Base64.decode_encode, Int.toNat_natCast, pure, Except.pure]
  rfl

theorem rsa_alg_lt {a : Nat} (h : isAlgorithmRsa a = true) : a < 256 := by
  rcases isAlgorithmRsa_cases h with h | h | h <;> omega

theorem publicKeyToDnssecKey_rsa (ksk : KskKey) (ttl : Int) (raw : Bytes)
    (hr : isAlgorithmRsa ksk.algorithm = true) :
    publicKeyToDnssecKey (Base64.encode raw) ksk.label ksk.algorithm ttl 257 = .ok (dnsOf ksk ttl raw) := by
  have hrd := keyToRdata_dnsOf ksk ttl raw 257 0 (by omega) (rsa_alg_lt hr)
  unfold publicKeyToDnssecKey Key.validate calculateKeyTag
  simp only [rsa_not_ecdsa hr, Bool.false_eq_true, ↓reduceIte, true_or, bind, Except.bind, pure, Except.pure]
  have : keyToRdata ⟨ksk.label, 0, ttl, 257, 3, ksk.algorithm, Base64.encode raw⟩ =
      .ok (rdataOf 257 3 ksk.algorithm raw) := hrd
  rw [this]
  rfl

structure RsaConfigured (ksk : KskKey) (L : KeyLoc) : Prop where
  family : isAlgorithmRsa ksk.algorithm = true
  size : ksk.rsaSize = some ((8 * L.n.length : Nat) : Int)
  exponent : ksk.rsaExponent = some ((beNat L.e : Nat) : Int)

theorem rsaDecode_raw {L : KeyLoc} {label : String} {st : Store} {mods : List P11Module}
    (h : OnToken st mods label L) (alg : Nat) (ha : isAlgorithmRsa alg = true) :
    rsaDecode (Base64.encode L.raw) alg = .ok { bits := 8 * L.n.length, exponent := beNat L.e, n := L.n } :=
  C15.rsaDecode_encode_text L.n L.e L.raw h.positive h.encoded alg ha

theorem encode_raw_ne_empty {L : KeyLoc} {label : String} {st : Store} {mods : List P11Module}
    (h : OnToken st mods label L) : Base64.encode L.raw ≠ "" := by
  intro he
  have := rsaDecode_raw h 8 (by decide)
  rw [he] at this
  have h0 : rsaDecode "" 8 = .error (.error .index) := by decide
  rw [h0] at this
  cases this

theorem loadPkcs11Key_onToken (st : Store) (ok : String → Nat → Bool) (mods : List P11Module)
    (ksk : KskKey) (pol : KskPolicy) (b : Bundle) (L : KeyLoc) (hw : C04.InWindow ksk b)
    (h : OnToken st mods ksk.label L) (hc : RsaConfigured ksk L) (isPublic : Bool) (s : TokState) :
    ∃ s', loadPkcs11Key mods ksk pol b isPublic (storeToken st ok) s =
      (.ok (some ⟨p11Of ksk.label ksk.hashUsingHsm L isPublic, dnsOf ksk pol.ttl L.raw⟩), s') := by
  obtain ⟨s1, hg⟩ := getP11Key_onToken st ok mods ksk.label ksk.hashUsingHsm L h isPublic s
  refine ⟨s1, (C04.loaded_iff mods ksk pol b isPublic _ s s1 _).mpr
    ⟨hw, p11Of ksk.label ksk.hashUsingHsm L isPublic, s1, p11Of ksk.label ksk.hashUsingHsm L isPublic, hg, ?_,
      Base64.encode L.raw, rfl, encode_raw_ne_empty h, rfl, publicKeyToDnssecKey_rsa ksk pol.ttl L.raw hc.family,
      Or.inl ⟨rfl, hc.family, _, rsaDecode_raw h ksk.algorithm hc.family, ?_, ?_⟩⟩⟩
  · simp [refetchPublic, p11Of]
  · rw [hc.size]
  · rw [hc.exponent]

structure HealthyName (ext : Externals) (st : Store) (mods : List P11Module) (cfg : SignerConfig)
    (loc : String → KeyLoc) (b : Bundle) (name : String) (ksk : KskKey) : Prop where
  configured : cfg.kskKeys.lookup name = some ksk
  window : C04.InWindow ksk b
  onToken : OnToken st mods ksk.label (loc ksk.label)
  rsa : RsaConfigured ksk (loc ksk.label)
  /-- configured key tag / DS digest (each only where configured) are those of the key -/
  identity : validateDnskeyMatchesKsk ext ksk (dnsOf ksk cfg.kskPolicy.ttl (loc ksk.label).raw) = .ok ()

def revokedOf (ksk : KskKey) (ttl : Int) (raw : Bytes) : Key :=
  { dnsOf ksk ttl raw with flags := 385, keyTag := (keyTagOfRdata (rdataOf 385 3 ksk.algorithm raw) : Nat) }

theorem asRevoked_dnsOf (ksk : KskKey) (ttl : Int) (raw : Bytes) (ha : ksk.algorithm < 256) :
    (dnsOf ksk ttl raw).asRevoked = .ok (revokedOf ksk ttl raw) := by
  have hrd := keyToRdata_dnsOf ksk ttl raw 385 (dnsOf ksk ttl raw).keyTag (by omega) ha
  unfold Key.asRevoked calculateKeyTag
  have hf : ¬ (dnsOf ksk ttl raw).flags < 0 := by simp [dnsOf]
  have h385 : ((setRevokeBit (dnsOf ksk ttl raw).flags.toNat : Nat) : Int) = ((385 : Nat) : Int) := by
    simp [dnsOf, setRevokeBit]
  simp only [hf, ↓reduceIte, bind, Except.bind, pure, Except.pure, h385]
  have : keyToRdata { dnsOf ksk ttl raw with flags := ((385 : Nat) : Int) } =
      .ok (rdataOf 385 3 ksk.algorithm raw) := hrd
  rw [this]
  rfl

def SchemaAction.names (act : SchemaAction) : List String := act.publish ++ act.revoke ++ act.sign

theorem SchemaAction.mem_names {act : SchemaAction} {n : String} :
    n ∈ act.names ↔ n ∈ act.publish ∨ n ∈ act.revoke ∨ n ∈ act.sign := by
  simp [SchemaAction.names]

theorem SchemaAction.publish_names {act : SchemaAction} {n : String} (h : n ∈ act.publish) : n ∈ act.names :=
  mem_names.mpr (.inl h)
theorem SchemaAction.revoke_names {act : SchemaAction} {n : String} (h : n ∈ act.revoke) : n ∈ act.names :=
  mem_names.mpr (.inr (.inl h))
theorem SchemaAction.sign_names {act : SchemaAction} {n : String} (h : n ∈ act.sign) : n ∈ act.names :=
  mem_names.mpr (.inr (.inr h))

/-- **What must hold of one schema action `act` and one request bundle `b`** for the slot to be
    signed, on the token `signingToken st ok sg` (where `loc` says where each label lives). -/
structure HealthyAction (ext : Externals) (st : Store) (sg : String → Nat → Nat → Nat → Bytes → Bytes)
    (mods : List P11Module) (cfg : SignerConfig) (loc : String → KeyLoc) (b : Bundle)
    (act : SchemaAction) : Prop where
  names : ∀ name ∈ act.names, ∃ ksk, HealthyName ext st mods cfg loc b name ksk
  labelAlg : ∀ n₁ ∈ act.names, ∀ n₂ ∈ act.names, ∀ k₁ k₂, cfg.kskKeys.lookup n₁ = some k₁ →
    cfg.kskKeys.lookup n₂ = some k₂ → k₁.label = k₂.label → k₁.algorithm = k₂.algorithm
  /-- different labels are different key material -/
  distinctKeys : ∀ n₁ ∈ act.names, ∀ n₂ ∈ act.names, ∀ k₁ k₂, cfg.kskKeys.lookup n₁ = some k₁ →
    cfg.kskKeys.lookup n₂ = some k₂ → (loc k₁.label).raw = (loc k₂.label).raw → k₁.label = k₂.label
  zsks : b.keys ≠ []
  zskIds : b.keys.Pairwise (fun x y => x.keyIdentifier ≠ y.keyIdentifier)
  zskNotKsk : ∀ z ∈ b.keys, ∀ name ∈ act.names, ∀ k, cfg.kskKeys.lookup name = some k →
    z.keyIdentifier ≠ k.label
  zskRdata : ∀ z ∈ b.keys, ∃ r, keyToRdata z = .ok r ∧ r.length < 65536
  algs : ∀ a, a ∈ b.keys.map (·.algorithm) ↔
    ∃ name ∈ act.sign, ∃ k, cfg.kskKeys.lookup name = some k ∧ k.algorithm = a
  expiration : inRange 32 (tsSeconds b.expiration) = true
  inception : inRange 32 (tsSeconds b.inception) = true
  /-- **the signature scheme is healthy**: what the token answers to `C_Sign` on the private object of
      a signing key, for the data `_format_data_for_signing` hands over, is accepted by the software
      verifier under the key text derived from that object, over the octets that were formatted -/
  signs : ∀ name ∈ act.sign, ∀ k, cfg.kskKeys.lookup name = some k → ∀ raw d,
    formatDataForSigning ext.hash (p11Of k.label k.hashUsingHsm (loc k.label) false) raw k.algorithm = .ok d →
    ext.verify k.algorithm (Base64.encode (loc k.label).raw) raw
      (sg (loc k.label).m.path (loc k.label).slot (loc k.label).privO.handle d.mechanism d.data) = .valid

/-- configuration-level and oracle-level hypotheses shared by all slots -/
structure HealthyBase (ext : Externals) (cfg : SignerConfig) : Prop where
  /-- the signer name is the root (the only one `dn2wire` implements) -/
  root : cfg.kskPolicy.signersName = "."
  ttl : inRange 32 cfg.kskPolicy.ttl = true
  /-- the hash oracle answers (SHA-1/256/384/512 are total functions) -/
  hashes : ∀ h d, ∃ x, ext.hash h d = some x

theorem keyToRdata_ttl (k : Key) (ttl : Int) : keyToRdata { k with ttl := ttl } = keyToRdata k := rfl

theorem rdataOf_length (f p a : Nat) (pk : Bytes) : (rdataOf f p a pk).length = pk.length + 4 := by
  simp [rdataOf, be16, be8]

theorem formatDataForSigning_rsa (hash : Hasher) (key : P11Key) (raw : Bytes) (alg : Nat) (pk : String)
    (pub : RsaPub) (ha : isAlgorithmRsa alg = true) (hpk : key.publicKey = some pk)
    (hne : pk.isEmpty = false) (hdec : rsaDecode pk alg = .ok pub) (htot : ∀ h d, ∃ x, hash h d = some x) :
    ∃ d, formatDataForSigning hash key raw alg = .ok d := by
  have ha' := isAlgorithmRsa_cases ha
  by_cases hk : key.hashUsingHsm = some true
  · obtain ⟨_, _, he⟩ := C15.formatDataForSigning_onToken hash key raw alg hk
      (by rcases ha' with rfl | rfl | rfl <;> decide)
    exact ⟨_, he⟩
  · obtain ⟨hsh, oid, hd⟩ : ∃ hsh oid, rsaDigestFor alg = some (hsh, oid) := by
      rcases ha' with rfl | rfl | rfl <;> exact ⟨_, _, rfl⟩
    obtain ⟨x, hx⟩ := htot hsh raw
    rw [C15.formatDataForSigning_hostRsa hash key raw alg hsh oid hk ha' hd, hx]
    simp only [hpk, hne, hdec]
    exact ⟨_, rfl⟩

theorem base64_encode_inj {a b : Bytes} (h : Base64.encode a = Base64.encode b) : a = b := by
  have := Base64.decode_encode a
  rw [h, Base64.decode_encode] at this
  exact (Option.some.inj this).symm

theorem signBundle_of_ready {ext : Externals} {mods : List P11Module} {cfg : SignerConfig} {slot : Nat}
    {bundle : Bundle} {tok : Token} {s s1 s2 s3 : TokState} {act : SchemaAction}
    {pub rev signing : List CompositeKey} {revoked : List Key}
    (hact : cfg.actions.lookup slot = some act)
    (hpub : fetchKeys ext mods cfg bundle true act.publish tok s = (.ok pub, s1))
    (hrev : fetchKeys ext mods cfg bundle true act.revoke tok s1 = (.ok rev, s2))
    (hrevoked : rev.mapM (fun ck => ck.dns.asRevoked) = .ok revoked)
    (hsign : fetchKeys ext mods cfg bundle false act.sign tok s2 = (.ok signing, s3))
    (hroot : cfg.kskPolicy.signersName = ".")
    (hnd : hasDupIds (slotFold cfg.kskPolicy.ttl (pub.map (·.dns)) revoked (signing.map (·.dns)) bundle.keys) = false)
    (hready : ∀ sk ∈ signing, SignerReady ext bundle cfg.kskPolicy
      (slotFold cfg.kskPolicy.ttl (pub.map (·.dns)) revoked (signing.map (·.dns)) bundle.keys) sk tok s3.count) :
    ∃ sigs s4, signBundle ext mods cfg slot bundle tok s = (finishBundle ext cfg bundle
        (slotFold cfg.kskPolicy.ttl (pub.map (·.dns)) revoked (signing.map (·.dns)) bundle.keys) sigs, s4) ∧
      ((∀ a ∈ signing, ∀ b ∈ signing, a.dns.keyIdentifier = b.dns.keyIdentifier →
          a.dns.algorithm = b.dns.algorithm) →
        ∀ a, a ∈ sigs.map (·.algorithm) ↔ a ∈ signing.map (·.dns.algorithm)) ∧
      (signing ≠ [] → checkValidSignatures ext.verify ⟨bundle.id, bundle.inception, bundle.expiration,
        slotFold cfg.kskPolicy.ttl (pub.map (·.dns)) revoked (signing.map (·.dns)) bundle.keys, sigs, none⟩
        cfg.responsePolicy = .ok ()) := by
  obtain ⟨sigs, s4, hsigs, hval, halgs, hne⟩ := signAll_completes ext bundle cfg.kskPolicy _ signing tok s3 hroot
    (C02.slotFold_spec cfg.kskPolicy.ttl (pub.map (·.dns)) revoked (signing.map (·.dns)) bundle.keys).ttl hnd hready
  refine ⟨sigs, s4, signBundle_run hact hpub hrev hrevoked hsign hsigs, halgs, fun hsig => ?_⟩
  -- a signing key is published, so the key set is not empty
  have hkeys : slotFold cfg.kskPolicy.ttl (pub.map (·.dns)) revoked (signing.map (·.dns)) bundle.keys ≠ [] := by
    obtain ⟨sk, hsk⟩ := List.exists_mem_of_ne_nil _ hsig
    obtain ⟨dnsKey, _, _, _, _, h⟩ := hready sk hsk
    exact List.ne_nil_of_mem h.mem
  have hvalid := (validateSignatures_ok_iff_reValid ext.verify
    { id := bundle.id, inception := bundle.inception, expiration := bundle.expiration,
      keys := slotFold cfg.kskPolicy.ttl (pub.map (·.dns)) revoked (signing.map (·.dns)) bundle.keys,
      signatures := sigs }).mpr ⟨hkeys, hne hsig, hnd, hval⟩
  unfold checkValidSignatures
  rw [hvalid]
  split <;> rfl

theorem finishBundle_of {ext : Externals} {cfg : SignerConfig} {bundle : Bundle} {keys : List Key}
    {sigs : List Signature}
    (hsame : ∀ a, a ∈ bundle.keys.map (·.algorithm) ↔ a ∈ sigs.map (·.algorithm))
    (hcv : checkValidSignatures ext.verify ⟨bundle.id, bundle.inception, bundle.expiration, keys, sigs, none⟩
      cfg.responsePolicy = .ok ()) :
    finishBundle ext cfg bundle keys sigs =
      .ok ⟨bundle.id, bundle.inception, bundle.expiration, keys, sigs, none⟩ := by
  simp only [finishBundle, (sameSet_iff _ _).mpr hsame, Bool.not_true, Bool.false_eq_true, ↓reduceIte, hcv]

end Kskm
