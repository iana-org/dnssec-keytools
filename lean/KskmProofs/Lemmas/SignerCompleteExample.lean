/-
  A concrete healthy world for the non-vacuity examples of C01 §4 / §5 (`HealthyWorld`, `C01_completes`):
  two modules (the first holds nothing), the second with three session slots; slot 0 holds a foreign
  key, slot 1 the RSA key pairs "KA" and "KB", slot 2 another object labelled "KA" that is never
  reached.  Two configured KSKs, a schema with two slots (publish a b / sign a / revoke b; publish a /
  sign a a), a request with two bundles.
-/
import KskmProofs.Lemmas.SignerComplete
namespace Kskm.HealthyExample

def obj (h cls : Nat) (label : String) (n : Bytes) : StoreObj :=
  { handle := h, cls := cls, label := label, keyType := some ckkRsa, modulus := some n,
    publicExponent := some [1, 0, 1] }

def store : Store := fun p sl =>
  if p = "mod" ∧ sl = 0 then [obj 3 ckoPublic "other" [0x80, 5]]
  else if p = "mod" ∧ sl = 1 then
    [obj 7 ckoPublic "KA" [0x80, 1], obj 8 ckoPrivate "KA" [0x80, 1],
     obj 9 ckoPublic "KB" [0x80, 3], obj 10 ckoPrivate "KB" [0x80, 3]]
  else if p = "mod" ∧ sl = 2 then [obj 11 ckoPublic "KA" [0x80, 7]]
  else []

def mod0 : P11Module := { label := "empty", path := "mod0", slots := [0], sessions := [0] }
def mod1 : P11Module := { label := "hsm", path := "mod", slots := [0, 1, 2], sessions := [0, 1, 2] }
def mods : List P11Module := [mod0, mod1]

def locA : KeyLoc :=
  { m := mod1, slot := 1, pubO := obj 7 ckoPublic "KA" [0x80, 1], privO := obj 8 ckoPrivate "KA" [0x80, 1],
    n := [0x80, 1], e := [1, 0, 1], raw := [3, 1, 0, 1, 0x80, 1] }
def locB : KeyLoc :=
  { m := mod1, slot := 1, pubO := obj 9 ckoPublic "KB" [0x80, 3], privO := obj 10 ckoPrivate "KB" [0x80, 3],
    n := [0x80, 3], e := [1, 0, 1], raw := [3, 1, 0, 1, 0x80, 3] }
def loc (label : String) : KeyLoc := if label = "KA" then locA else locB

def kA : KskKey :=
  { label := "KA", algorithm := 8, validFrom := 1000000, validUntil := some 9000000000000000,
    rsaSize := some 16, rsaExponent := some 65537, keyTag := some 34572, hashUsingHsm := some true }
/-- "KB": hashing on the host -/
def kB : KskKey :=
  { label := "KB", algorithm := 8, validFrom := 0, rsaSize := some 16, rsaExponent := some 65537 }

def act1 : SchemaAction := { publish := ["a", "b"], sign := ["a"], revoke := ["b"] }
def act2 : SchemaAction := { publish := ["a"], sign := ["a", "a"] }
def cfg : SignerConfig := { kskKeys := [("a", kA), ("b", kB)], actions := [(1, act1), (2, act2)] }

def ext : Externals :=
  { hash := fun _ d => some d, verify := fun _ _ _ sg => if sg = [1, 2, 3] then .valid else .invalid }
def sg : String → Nat → Nat → Nat → Bytes → Bytes := fun _ _ _ _ _ => [1, 2, 3]

def z1 : Key := ⟨"zsk1", 2, 3600, 256, 3, 8, "AwEAAg=="⟩
def z2 : Key := ⟨"zsk2", 3, 3600, 256, 3, 8, "AwEAAw=="⟩
def b1 : Bundle := ⟨"b1", 1700000000000000, 1701000000000000, [z1, z2], [], none⟩
def b2 : Bundle := ⟨"b2", 1701000000000000, 1702000000000000, [z2], [], none⟩
def req : Request := { id := "r", serial := 1, domain := ".", zskPolicy := {}, bundles := [b1, b2] }

theorem onToken_loc {label : String} (h : label = "KA" ∨ label = "KB") : OnToken store mods label (loc label) := by
  rcases h with rfl | rfl <;> exact {
    modules := ⟨[mod0], [], rfl, by
      intro m' hm' sl hsl isPublic
      simp only [List.mem_singleton] at hm'
      subst hm'
      simp only [mod0, List.mem_singleton] at hsl
      subst hsl
      cases isPublic <;> decide⟩
    sessions := ⟨[0], [2], rfl, by
      intro sl hsl isPublic
      simp only [List.mem_singleton] at hsl
      subst hsl
      cases isPublic <;> decide⟩
    one := by intro isPublic; cases isPublic <;> decide
    rsa := by intro isPublic; cases isPublic <;> exact ⟨by decide, by decide, by decide, by decide⟩
    encoded := by decide +kernel
    positive := by decide
    small := by decide }

theorem lookup_a : cfg.kskKeys.lookup "a" = some kA := by decide
theorem lookup_b : cfg.kskKeys.lookup "b" = some kB := by decide

theorem healthyA (b : Bundle) (h1 : 1000000 ≤ b.inception) (h2 : b.expiration ≤ 9000000000000000) :
    HealthyName ext store mods cfg loc b "a" kA where
  configured := lookup_a
  window := ⟨h1, by intro u hu; cases hu; exact h2⟩
  onToken := onToken_loc (.inl rfl)
  rsa := ⟨by decide, by decide, by decide⟩
  identity := by decide +kernel

theorem healthyB (b : Bundle) (h1 : 0 ≤ b.inception) : HealthyName ext store mods cfg loc b "b" kB where
  configured := lookup_b
  window := ⟨h1, by intro u hu; cases hu⟩
  onToken := onToken_loc (.inr rfl)
  rsa := ⟨by decide, by decide, by decide⟩
  identity := by decide +kernel

theorem lookup_cases {n : String} {k : KskKey} (hn : n = "a" ∨ n = "b") (h : cfg.kskKeys.lookup n = some k) :
    (n = "a" ∧ k = kA) ∨ (n = "b" ∧ k = kB) := by
  rcases hn with rfl | rfl
  · rw [lookup_a] at h; exact Or.inl ⟨rfl, (Option.some.inj h).symm⟩
  · rw [lookup_b] at h; exact Or.inr ⟨rfl, (Option.some.inj h).symm⟩

theorem signs_ok (_name : String) (k : KskKey) (raw : Bytes) (d : DataToSign) :
    ext.verify k.algorithm (Base64.encode (loc k.label).raw) raw
      (sg (loc k.label).m.path (loc k.label).slot (loc k.label).privO.handle d.mechanism d.data) = .valid := rfl

theorem names1 {n : String} (h : n ∈ act1.names) : n = "a" ∨ n = "b" := by
  simp only [SchemaAction.names, act1, List.cons_append, List.nil_append, List.mem_cons,
    List.not_mem_nil, or_false] at h
  rcases h with h | h | h | h <;> simp [h]

theorem names2 {n : String} (h : n ∈ act2.names) : n = "a" ∨ n = "b" := by
  simp only [SchemaAction.names, act2, List.cons_append, List.nil_append, List.append_nil, List.mem_cons,
    List.not_mem_nil, or_false] at h
  rcases h with h | h | h <;> simp [h]

theorem labelAlg_ok {n₁ n₂ : String} {k₁ k₂ : KskKey} (h1 : n₁ = "a" ∨ n₁ = "b") (h2 : n₂ = "a" ∨ n₂ = "b")
    (l1 : cfg.kskKeys.lookup n₁ = some k₁) (l2 : cfg.kskKeys.lookup n₂ = some k₂) :
    (k₁.label = k₂.label → k₁.algorithm = k₂.algorithm) ∧
    ((loc k₁.label).raw = (loc k₂.label).raw → k₁.label = k₂.label) := by
  rcases lookup_cases h1 l1 with ⟨_, rfl⟩ | ⟨_, rfl⟩ <;> rcases lookup_cases h2 l2 with ⟨_, rfl⟩ | ⟨_, rfl⟩ <;>
    decide

theorem zskNotKsk_ok {z : Key} {n : String} {k : KskKey} (hz : z = z1 ∨ z = z2) (h1 : n = "a" ∨ n = "b")
    (l1 : cfg.kskKeys.lookup n = some k) : z.keyIdentifier ≠ k.label := by
  rcases lookup_cases h1 l1 with ⟨_, rfl⟩ | ⟨_, rfl⟩ <;> rcases hz with rfl | rfl <;> decide

theorem zskRdata_ok {z : Key} (hz : z = z1 ∨ z = z2) : ∃ r, keyToRdata z = .ok r ∧ r.length < 65536 := by
  rcases hz with rfl | rfl
  · exact ⟨_, eq_okOr [] (by decide +kernel), by decide +kernel⟩
  · exact ⟨_, eq_okOr [] (by decide +kernel), by decide +kernel⟩

theorem healthyAction1 : HealthyAction ext store sg mods cfg loc b1 act1 where
  names := by
    intro n hn
    rcases names1 hn with rfl | rfl
    · exact ⟨kA, healthyA b1 (by decide) (by decide)⟩
    · exact ⟨kB, healthyB b1 (by decide)⟩
  labelAlg := fun n₁ h1 n₂ h2 k₁ k₂ l1 l2 => (labelAlg_ok (names1 h1) (names1 h2) l1 l2).1
  distinctKeys := fun n₁ h1 n₂ h2 k₁ k₂ l1 l2 => (labelAlg_ok (names1 h1) (names1 h2) l1 l2).2
  zsks := by decide
  zskIds := by decide
  zskNotKsk := fun z hz n hn k l => zskNotKsk_ok (by simpa [b1] using hz) (names1 hn) l
  zskRdata := fun z hz => zskRdata_ok (by simpa [b1] using hz)
  algs := by
    intro a
    constructor
    · intro h
      have : a = 8 := by simpa [b1, z1, z2] using h
      exact ⟨"a", by simp [act1], kA, lookup_a, this.symm⟩
    · rintro ⟨n, hn, k, l, rfl⟩
      have : n = "a" := by simpa [act1] using hn
      subst this
      rw [lookup_a] at l
      cases l
      decide
  expiration := by decide
  inception := by decide
  signs := fun name _ k _ raw d _ => signs_ok name k raw d

theorem healthyAction2 : HealthyAction ext store sg mods cfg loc b2 act2 where
  names := by
    intro n hn
    have : n = "a" := by
      simp only [SchemaAction.names, act2, List.cons_append, List.nil_append, List.append_nil,
        List.mem_cons, List.not_mem_nil, or_false] at hn
      rcases hn with h | h | h <;> exact h
    subst this
    exact ⟨kA, healthyA b2 (by decide) (by decide)⟩
  labelAlg := fun n₁ h1 n₂ h2 k₁ k₂ l1 l2 => (labelAlg_ok (names2 h1) (names2 h2) l1 l2).1
  distinctKeys := fun n₁ h1 n₂ h2 k₁ k₂ l1 l2 => (labelAlg_ok (names2 h1) (names2 h2) l1 l2).2
  zsks := by decide
  zskIds := by decide
  zskNotKsk := fun z hz n hn k l => zskNotKsk_ok (by right; simpa [b2] using hz) (names2 hn) l
  zskRdata := fun z hz => zskRdata_ok (by right; simpa [b2] using hz)
  algs := by
    intro a
    constructor
    · intro h
      have : a = 8 := by simpa [b2, z2] using h
      exact ⟨"a", by simp [act2], kA, lookup_a, this.symm⟩
    · rintro ⟨n, hn, k, l, rfl⟩
      have : n = "a" := by simpa [act2] using hn
      subst this
      rw [lookup_a] at l
      cases l
      decide
  expiration := by decide
  inception := by decide
  signs := fun name _ k _ raw d _ => signs_ok name k raw d

theorem base : HealthyBase ext cfg := ⟨rfl, by decide, fun _ d => ⟨d, rfl⟩⟩

end Kskm.HealthyExample
