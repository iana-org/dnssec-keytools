/-
  What `_p11_object_to_public_key` returns for an EC object, for every token: inversion of the EC branch
  of `p11ObjectToPublicKey` (the published key text is the base64 of the point WITH its `0x04` octet: finding F4).
-/
import KskmProofs.Lemmas.SignerInv
import KskmProofs.Lemmas.Base64
namespace Kskm

theorem attr1_ok {a : TokAns} {t : Token} {s s' : TokState} {x : AttrAns}
    (h : attr1 a t s = (.ok x, s')) : a = .attrs [x] ∧ s' = s := by
  unfold attr1 at h
  split at h
  · simp only [TokM.pure_run, Prod.mk.injEq, Except.ok.injEq] at h
    obtain ⟨rfl, rfl⟩ := h
    exact ⟨rfl, rfl⟩
  · simp at h

theorem ec_published_text {path : String} {slot handle : Nat} {tok : Token} {s s' : TokState}
    {txt : String}
    (h : p11ObjectToPublicKey path slot handle tok s = (.ok (some txt), s'))
    (hkt : tok s.count (.getAttr path slot handle ["KEY_TYPE"]) = .attrs [.num ckkEc]) :
    ∃ point, txt = Base64.encode point ∧ (point.length = 65 ∨ point.length = 97) := by
  unfold p11ObjectToPublicKey at h
  obtain ⟨a, s1, h1, h⟩ := TokM.bind_ok h
  obtain ⟨ha, _, rfl⟩ := askOk_ok h1
  rw [hkt] at ha
  subst ha
  obtain ⟨kt, s2, h2, h⟩ := TokM.bind_ok h
  obtain ⟨hx, rfl⟩ := attr1_ok h2
  simp only [TokAns.attrs.injEq, List.cons.injEq, and_true] at hx
  subst hx
  have hne : ¬ ckkEc = ckkRsa := by decide
  simp only [hne, ↓reduceIte] at h
  obtain ⟨a2, s3, h3, h⟩ := TokM.bind_ok h
  obtain ⟨pt, s4, h4, h⟩ := TokM.bind_ok h
  cases pt with
  | none => simp at h
  | num n => simp at h
  | str x => simp at h
  | bytes point =>
    cases point with
    | nil => simp at h
    | cons b r =>
      simp only at h
      split at h
      · simp at h
      · obtain ⟨a5, s5, h5, h⟩ := TokM.bind_ok h
        obtain ⟨a6, s6, h6, h⟩ := TokM.bind_ok h
        obtain ⟨params, s7, h7, h⟩ := TokM.bind_ok h
        have fin : ∀ (P : Bytes) (want : Nat) (st : TokState), (want = 256 ∨ want = 384) →
            ((pure want : TokM Nat) >>= fun want =>
              if (P.length - 1) * 8 / 2 ≠ want then TokM.err ErrKind.runtime
              else pure (some (Base64.encode P))) tok st = (.ok (some txt), s') →
            ∃ point, txt = Base64.encode point ∧ (point.length = 65 ∨ point.length = 97) := by
          intro P want st hw hj
          obtain ⟨w, st', hw', hj⟩ := TokM.bind_ok hj
          simp only [TokM.pure_run, Prod.mk.injEq, Except.ok.injEq] at hw'
          obtain ⟨rfl, rfl⟩ := hw'
          split at hj
          · simp at hj
          · rename_i hlen
            simp only [TokM.pure_run, Prod.mk.injEq, Except.ok.injEq, Option.some.injEq] at hj
            refine ⟨P, hj.1.symm, ?_⟩
            simp only [ne_eq, Decidable.not_not] at hlen
            rcases hw with rfl | rfl
            · left; omega
            · right; omega
        split at h
        · exact fin _ 256 _ (Or.inl rfl) h
        · split at h
          · exact fin _ 384 _ (Or.inr rfl) h
          · simp at h
end Kskm
