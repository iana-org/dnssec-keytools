/-
  The `KeysToSign` algebra (`ktsAdd`, `ktsUpdate`, `ktsGet` and the folds
  `signBundle` builds the published key set with).  Pure list facts, no monad.

  The folds are characterised through the *lookup by public key text*: `lookupPk l p` is the first
  record of `l` whose public key text is `p`.  A list without two records of one public key is
  determined (up to order) by that function, which is what `mem_iff_lookupPk` says.
-/
import Kskm.Signer
namespace Kskm

def UniquePk (l : List Key) : Prop := l.Pairwise (fun a b => a.publicKey ≠ b.publicKey)

def lookupPk (l : List Key) (p : String) : Option Key := l.find? (fun y => y.publicKey = p)

/-- the TTL override of `_add_unique`, as the code writes it, is `{k with ttl := ttl}` -/
theorem ttlNorm_eq (ttl : Int) (k : Key) :
    (if k.ttl != ttl then { k with ttl := ttl } else k) = { k with ttl := ttl } := by
  by_cases h : k.ttl = ttl
  · cases k; simp_all
  · simp [h]

theorem withTtl_self (ttl : Int) (k : Key) (h : k.ttl = ttl) : { k with ttl := ttl } = k := by
  cases k; simp_all

@[simp] theorem lookupPk_nil (p : String) : lookupPk [] p = none := rfl

theorem lookupPk_cons (a : Key) (l : List Key) (p : String) :
    lookupPk (a :: l) p = if a.publicKey = p then some a else lookupPk l p := by
  simp only [lookupPk, List.find?_cons]
  by_cases h : a.publicKey = p <;> simp [h]

theorem lookupPk_append (l₁ l₂ : List Key) (p : String) :
    lookupPk (l₁ ++ l₂) p = (lookupPk l₁ p).or (lookupPk l₂ p) := by
  simp [lookupPk, List.find?_append]

theorem lookupPk_single (a : Key) (p : String) :
    lookupPk [a] p = if a.publicKey = p then some a else none := by
  simp [lookupPk_cons]

theorem lookupPk_some_pk {l : List Key} {p : String} {k : Key} (h : lookupPk l p = some k) :
    k.publicKey = p := by
  have := List.find?_some h
  simpa using this

theorem lookupPk_some_mem {l : List Key} {p : String} {k : Key} (h : lookupPk l p = some k) :
    k ∈ l := List.mem_of_find?_eq_some h

theorem lookupPk_eq_none {l : List Key} {p : String} :
    lookupPk l p = none ↔ ∀ y ∈ l, y.publicKey ≠ p := by
  simp [lookupPk, List.find?_eq_none]

theorem lookupPk_isSome_of_mem {l : List Key} {k : Key} (h : k ∈ l) :
    ∃ k', lookupPk l k.publicKey = some k' := by
  cases hl : lookupPk l k.publicKey with
  | some k' => exact ⟨k', rfl⟩
  | none => exact absurd rfl (lookupPk_eq_none.mp hl k h)

theorem mem_iff_lookupPk {l : List Key} (hu : UniquePk l) (x : Key) :
    x ∈ l ↔ lookupPk l x.publicKey = some x := by
  constructor
  · intro hx
    induction l with
    | nil => cases hx
    | cons a r ih =>
      rw [lookupPk_cons]
      have hu' := List.pairwise_cons.mp hu
      rcases List.mem_cons.mp hx with rfl | hxr
      · simp
      · have : a.publicKey ≠ x.publicKey := hu'.1 x hxr
        simp only [this, ↓reduceIte]
        exact ih hu'.2 hxr
  · exact lookupPk_some_mem

theorem ktsAdd_eq (ttl : Int) (keys : List Key) (k : Key) :
    ktsAdd ttl keys k =
      if keys.any (fun x => x.publicKey = k.publicKey) then keys else keys ++ [{ k with ttl := ttl }] := by
  unfold ktsAdd
  rw [ttlNorm_eq]

theorem any_pk_iff (keys : List Key) (p : String) :
    keys.any (fun x => decide (x.publicKey = p)) = true ↔ ∃ y ∈ keys, y.publicKey = p := by
  simp

theorem mem_ktsAdd (ttl : Int) (keys : List Key) (k x : Key) :
    x ∈ ktsAdd ttl keys k ↔
      x ∈ keys ∨ ((∀ y ∈ keys, y.publicKey ≠ k.publicKey) ∧ x = { k with ttl := ttl }) := by
  rw [ktsAdd_eq]
  by_cases h : keys.any (fun x => decide (x.publicKey = k.publicKey)) = true
  · simp only [h, ↓reduceIte]
    constructor
    · exact Or.inl
    · rintro (h1 | ⟨h2, _⟩)
      · exact h1
      · obtain ⟨y, hy, hpk⟩ := (any_pk_iff keys _).mp h
        exact absurd hpk (h2 y hy)
  · simp only [h, Bool.false_eq_true, ↓reduceIte, List.mem_append, List.mem_singleton]
    have h' : ∀ y ∈ keys, y.publicKey ≠ k.publicKey := by
      intro y hy hpk
      exact h ((any_pk_iff keys _).mpr ⟨y, hy, hpk⟩)
    constructor
    · rintro (h1 | h1)
      · exact Or.inl h1
      · exact Or.inr ⟨h', h1⟩
    · rintro (h1 | ⟨_, h1⟩)
      · exact Or.inl h1
      · exact Or.inr h1

theorem ktsAdd_unique (ttl : Int) (keys : List Key) (k : Key) (h : UniquePk keys) :
    UniquePk (ktsAdd ttl keys k) := by
  rw [ktsAdd_eq]
  unfold UniquePk at *
  split
  · exact h
  · rename_i hn
    rw [List.pairwise_append]
    refine ⟨h, by simp, ?_⟩
    intro a ha b hb
    simp only [List.mem_singleton] at hb
    subst hb
    intro hpk
    exact hn ((any_pk_iff keys _).mpr ⟨a, ha, hpk⟩)

theorem ktsAdd_ttl (ttl : Int) (keys : List Key) (k : Key) (h : ∀ x ∈ keys, x.ttl = ttl) :
    ∀ x ∈ ktsAdd ttl keys k, x.ttl = ttl := by
  intro x hx
  rcases (mem_ktsAdd ttl keys k x).mp hx with h1 | ⟨_, rfl⟩
  · exact h x h1
  · rfl

theorem lookupPk_ktsAdd (ttl : Int) (keys : List Key) (k : Key) (p : String) :
    lookupPk (ktsAdd ttl keys k) p
      = (lookupPk keys p).or ((lookupPk [k] p).map fun k => { k with ttl := ttl }) := by
  rw [ktsAdd_eq]
  by_cases h : keys.any (fun x => decide (x.publicKey = k.publicKey)) = true
  · simp only [h, ↓reduceIte]
    by_cases hp : k.publicKey = p
    · subst hp
      obtain ⟨y, hy, hpk⟩ := (any_pk_iff keys _).mp h
      cases hl : lookupPk keys k.publicKey with
      | none => exact absurd hpk (lookupPk_eq_none.mp hl y hy)
      | some z => simp
    · simp [lookupPk_single, hp]
  · simp only [h, Bool.false_eq_true, ↓reduceIte, lookupPk_append, lookupPk_single]
    by_cases hp : k.publicKey = p <;> simp [hp]

theorem eraseP_no_pk {keys : List Key} (hu : UniquePk keys) (q : String) :
    ∀ y ∈ keys.eraseP (fun x => x.publicKey = q), y.publicKey ≠ q := by
  induction keys with
  | nil => intro y hy; cases hy
  | cons a r ih =>
    have hu' := List.pairwise_cons.mp hu
    intro y hy
    rw [List.eraseP_cons] at hy
    by_cases ha : a.publicKey = q
    · simp only [ha, decide_true, cond_true] at hy
      intro hyq
      exact hu'.1 y hy (ha.trans hyq.symm)
    · simp only [ha, decide_false, cond_false, List.mem_cons] at hy
      rcases hy with rfl | hy
      · exact ha
      · exact ih hu'.2 y hy

theorem lookupPk_eraseP_ne (keys : List Key) (q p : String) (h : q ≠ p) :
    lookupPk (keys.eraseP (fun x => x.publicKey = q)) p = lookupPk keys p := by
  induction keys with
  | nil => rfl
  | cons a r ih =>
    rw [List.eraseP_cons]
    by_cases ha : a.publicKey = q
    · subst ha
      simp [lookupPk_cons, h]
    · simp only [ha, decide_false, cond_false, lookupPk_cons, ih]

theorem ktsUpdate_unique (ttl : Int) (keys : List Key) (k : Key) (h : UniquePk keys) :
    UniquePk (ktsUpdate ttl keys k) :=
  ktsAdd_unique ttl _ k (List.Pairwise.sublist List.eraseP_sublist h)

theorem ktsUpdate_ttl (ttl : Int) (keys : List Key) (k : Key) (h : ∀ x ∈ keys, x.ttl = ttl) :
    ∀ x ∈ ktsUpdate ttl keys k, x.ttl = ttl :=
  ktsAdd_ttl ttl _ k (fun x hx => h x (List.mem_of_mem_eraseP hx))

theorem lookupPk_ktsUpdate (ttl : Int) (keys : List Key) (k : Key) (p : String) (hu : UniquePk keys) :
    lookupPk (ktsUpdate ttl keys k) p
      = if k.publicKey = p then some { k with ttl := ttl } else lookupPk keys p := by
  unfold ktsUpdate
  rw [lookupPk_ktsAdd]
  by_cases hp : k.publicKey = p
  · subst hp
    have : lookupPk (keys.eraseP fun x => x.publicKey = k.publicKey) k.publicKey = none :=
      lookupPk_eq_none.mpr (eraseP_no_pk hu _)
    simp [this, lookupPk_single]
  · simp [lookupPk_eraseP_ne keys _ p hp, lookupPk_single, hp]

theorem mem_ktsUpdate (ttl : Int) (keys : List Key) (k x : Key) (hu : UniquePk keys) :
    x ∈ ktsUpdate ttl keys k ↔
      (x ∈ keys ∧ x.publicKey ≠ k.publicKey) ∨ x = { k with ttl := ttl } := by
  rw [mem_iff_lookupPk (ktsUpdate_unique ttl keys k hu), lookupPk_ktsUpdate ttl keys k _ hu]
  by_cases hp : k.publicKey = x.publicKey
  · simp only [hp, ↓reduceIte, Option.some.injEq]
    constructor
    · intro h; exact Or.inr h.symm
    · rintro (⟨_, h⟩ | h)
      · exact absurd rfl h
      · exact h.symm
  · simp only [hp, ↓reduceIte]
    rw [← mem_iff_lookupPk hu]
    constructor
    · intro h; exact Or.inl ⟨h, fun e => hp e.symm⟩
    · rintro (⟨h, _⟩ | h)
      · exact h
      · subst h; exact absurd rfl hp

theorem foldl_ktsAdd_unique (ttl : Int) (l : List Key) (acc : List Key) (h : UniquePk acc) :
    UniquePk (l.foldl (fun acc k => ktsAdd ttl acc k) acc) :=
  List.foldlRecOn l _ h (fun acc hacc a _ => ktsAdd_unique ttl acc a hacc)

theorem foldl_ktsAdd_ttl (ttl : Int) (l : List Key) (acc : List Key) (h : ∀ x ∈ acc, x.ttl = ttl) :
    ∀ x ∈ l.foldl (fun acc k => ktsAdd ttl acc k) acc, x.ttl = ttl :=
  List.foldlRecOn l _ h (fun acc hacc a _ => ktsAdd_ttl ttl acc a hacc)

theorem foldl_ktsUpdate_unique (ttl : Int) (l : List Key) (acc : List Key) (h : UniquePk acc) :
    UniquePk (l.foldl (fun acc k => ktsUpdate ttl acc k) acc) :=
  List.foldlRecOn l _ h (fun acc hacc a _ => ktsUpdate_unique ttl acc a hacc)

theorem foldl_ktsUpdate_ttl (ttl : Int) (l : List Key) (acc : List Key) (h : ∀ x ∈ acc, x.ttl = ttl) :
    ∀ x ∈ l.foldl (fun acc k => ktsUpdate ttl acc k) acc, x.ttl = ttl :=
  List.foldlRecOn l _ h (fun acc hacc a _ => ktsUpdate_ttl ttl acc a hacc)

theorem lookupPk_foldl_ktsAdd (ttl : Int) (l : List Key) (acc : List Key) (p : String) :
    lookupPk (l.foldl (fun acc k => ktsAdd ttl acc k) acc) p
      = (lookupPk acc p).or ((lookupPk l p).map fun k => { k with ttl := ttl }) := by
  induction l generalizing acc with
  | nil => simp
  | cons a r ih =>
    rw [List.foldl_cons, ih, lookupPk_ktsAdd, Option.or_assoc]
    congr 1
    rw [lookupPk_cons a r, lookupPk_single]
    by_cases hp : a.publicKey = p <;> simp [hp]

theorem lookupPk_foldl_ktsUpdate (ttl : Int) (l : List Key) (acc : List Key) (p : String)
    (hu : UniquePk acc) :
    lookupPk (l.foldl (fun acc k => ktsUpdate ttl acc k) acc) p
      = ((lookupPk l.reverse p).map fun k => { k with ttl := ttl }).or (lookupPk acc p) := by
  induction l generalizing acc with
  | nil => simp
  | cons a r ih =>
    rw [List.foldl_cons, ih _ (ktsUpdate_unique ttl acc a hu), lookupPk_ktsUpdate ttl acc a p hu,
      List.reverse_cons, lookupPk_append, lookupPk_single]
    by_cases hp : a.publicKey = p
    · cases lookupPk r.reverse p <;> simp [hp]
    · simp [hp]

theorem ktsGet_some {keys : List Key} {id : String} {k : Key} (h : ktsGet keys id = .ok (some k)) :
    keys.filter (fun k => k.keyIdentifier = id) = [k] := by
  unfold ktsGet at h
  split at h
  · simp [pure, Except.pure] at h
  · simp only [pure, Except.pure, Except.ok.injEq, Option.some.injEq] at h
    subst h; assumption
  · simp [unsupported] at h

theorem ktsGet_some_mem {keys : List Key} {id : String} {k : Key} (h : ktsGet keys id = .ok (some k)) :
    k ∈ keys ∧ k.keyIdentifier = id ∧ ∀ k' ∈ keys, k'.keyIdentifier = id → k' = k := by
  have hf := ktsGet_some h
  have hk : k ∈ keys.filter (fun k => k.keyIdentifier = id) := by rw [hf]; simp
  have := List.mem_filter.mp hk
  refine ⟨this.1, by simpa using this.2, ?_⟩
  intro k' hk' hid
  have : k' ∈ keys.filter (fun k => k.keyIdentifier = id) := List.mem_filter.mpr ⟨hk', by simpa using hid⟩
  rw [hf] at this
  simpa using this

end Kskm
