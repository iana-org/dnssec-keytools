/-
  Helper lemmas for C02 "order independence": Python iterates `set[Key]`, the signature set and the
  schema lists in some order; nothing observable may depend on it.  `SameElems` covers permutation AND
  repetition.  On a token whose answers do not depend on the operation index (`IndexFree`,
  Lemmas/TokRel.lean) `_fetch_keys` is `mapM` of a per-name function and the signing loop a pure fold of
  a per-key function; that fold does not depend on the order (nor on repetition) of the signing keys.
-/
import KskmProofs.Lemmas.TokRel
import KskmProofs.Lemmas.SignerKeys
import KskmProofs.Lemmas.SignerInv
import KskmProofs.Lemmas.SignerRun
import KskmProofs.C07
namespace Kskm

/-- `l` and `l'` have the same elements (as sets): permutations of each other, or differing only in
    order and in how often an element is repeated -/
def SameElems {α} (l l' : List α) : Prop := ∀ x, x ∈ l ↔ x ∈ l'

theorem SameElems.refl {α} (l : List α) : SameElems l l := fun _ => Iff.rfl
theorem SameElems.symm {α} {l l' : List α} (h : SameElems l l') : SameElems l' l := fun x => (h x).symm
theorem SameElems.trans {α} {a b c : List α} (h1 : SameElems a b) (h2 : SameElems b c) : SameElems a c :=
  fun x => (h1 x).trans (h2 x)
theorem SameElems.of_perm {α} {l l' : List α} (h : l.Perm l') : SameElems l l' := fun _ => h.mem_iff

theorem SameElems.of_subsets {α} {l l' : List α} (h1 : ∀ x ∈ l, x ∈ l') (h2 : ∀ x ∈ l', x ∈ l) :
    SameElems l l' := fun x => ⟨h1 x, h2 x⟩

theorem SameElems.map {α β} {l l' : List α} (h : SameElems l l') (f : α → β) :
    SameElems (l.map f) (l'.map f) := by
  intro y
  simp only [List.mem_map]
  constructor
  · rintro ⟨x, hx, rfl⟩; exact ⟨x, (h x).mp hx, rfl⟩
  · rintro ⟨x, hx, rfl⟩; exact ⟨x, (h x).mpr hx, rfl⟩

theorem SameElems.reverse {α} {l l' : List α} (h : SameElems l l') : SameElems l.reverse l'.reverse := by
  intro x; simp only [List.mem_reverse]; exact h x

theorem SameElems.append {α} {a a' b b' : List α} (h1 : SameElems a a') (h2 : SameElems b b') :
    SameElems (a ++ b) (a' ++ b') := by
  intro x; simp only [List.mem_append, h1 x, h2 x]

theorem SameElems.nil_iff {α} {l : List α} : SameElems l [] ↔ l = [] := by
  constructor
  · intro h
    cases l with
    | nil => rfl
    | cons a r => exact absurd ((h a).mp List.mem_cons_self) (by simp)
  · rintro rfl; exact SameElems.refl _

theorem SameElems.perm_of_nodup {α} {l l' : List α} (h : SameElems l l') (h1 : l.Nodup) (h2 : l'.Nodup) :
    l.Perm l' := (List.perm_ext_iff_of_nodup h1 h2).mpr h

/-- records with one public key text are one record -/
def PkFun (l : List Key) : Prop := ∀ a ∈ l, ∀ b ∈ l, a.publicKey = b.publicKey → a = b

theorem PkFun.of_same {l l' : List Key} (h : SameElems l l') (hf : PkFun l) : PkFun l' :=
  fun a ha b hb e => hf a ((h a).mpr ha) b ((h b).mpr hb) e

theorem lookupPk_same {l l' : List Key} (h : SameElems l l') (hf : PkFun l) (p : String) :
    lookupPk l p = lookupPk l' p := by
  cases h1 : lookupPk l p with
  | none =>
    symm
    rw [lookupPk_eq_none] at h1 ⊢
    exact fun y hy => h1 y ((h y).mpr hy)
  | some k =>
    have hk := lookupPk_some_mem h1
    have hp := lookupPk_some_pk h1
    cases h2 : lookupPk l' p with
    | none => exact absurd hp (lookupPk_eq_none.mp h2 k ((h k).mp hk))
    | some k' =>
      have hk' := (h k').mpr (lookupPk_some_mem h2)
      rw [hf k hk k' hk' (hp.trans (lookupPk_some_pk h2).symm)]

theorem uniquePk_nodup {l : List Key} (h : UniquePk l) : l.Nodup := by
  rw [List.nodup_iff_pairwise_ne]
  exact h.imp (fun hne e => hne (by rw [e]))

theorem mapM_same {α β} (f : α → Res β) {l l' : List α} {r : List β} (h : SameElems l l')
    (hr : l.mapM f = .ok r) : ∃ r', l'.mapM f = .ok r' ∧ SameElems r r' := by
  obtain ⟨hm, _, hall⟩ := mapM_ok_mem f l r hr
  obtain ⟨r', hr', _⟩ := mapM_ok_of_forall f (fun _ => True) l' (fun a ha =>
    let ⟨b, hb⟩ := hall a ((h a).mpr ha); ⟨b, hb, trivial⟩)
  obtain ⟨hm', _, _⟩ := mapM_ok_mem f l' r' hr'
  refine ⟨r', hr', ?_⟩
  intro b
  rw [hm b, hm' b]
  constructor
  · rintro ⟨a, ha, hb⟩; exact ⟨a, (h a).mp ha, hb⟩
  · rintro ⟨a, ha, hb⟩; exact ⟨a, (h a).mpr ha, hb⟩

theorem noDupIds_iff (keys : List Key) :
    hasDupIds keys = false ↔ keys.Pairwise (fun a b => a.keyIdentifier ≠ b.keyIdentifier) := by
  rw [C07L.hasDupIds_eq_false_iff, List.Nodup, List.pairwise_map]

theorem hasDupIds_perm {keys keys' : List Key} (h : keys.Perm keys') : hasDupIds keys = hasDupIds keys' := by
  have : hasDupIds keys = false ↔ hasDupIds keys' = false := by
    rw [C07L.hasDupIds_eq_false_iff, C07L.hasDupIds_eq_false_iff]
    exact (h.map _).nodup_iff
  cases h1 : hasDupIds keys <;> cases h2 : hasDupIds keys' <;> simp_all

theorem ktsGet_perm {keys keys' : List Key} (h : keys.Perm keys') (id : String) :
    ktsGet keys id = ktsGet keys' id := by
  have hf := h.filter (fun k => decide (k.keyIdentifier = id))
  unfold ktsGet
  generalize keys.filter (fun k => decide (k.keyIdentifier = id)) = a at hf
  generalize keys'.filter (fun k => decide (k.keyIdentifier = id)) = b at hf
  match a, b, hf with
  | [], b, hf => rw [hf.symm.eq_nil]
  | [k], b, hf => rw [List.singleton_perm.mp hf]
  | k1 :: k2 :: r, [], hf => exact absurd hf.eq_nil (by simp)
  | k1 :: k2 :: r, [x], hf => exact absurd (List.perm_singleton.mp hf) (by simp)
  | k1 :: k2 :: r, x1 :: x2 :: r', _ => rfl

theorem lookupKey_perm {keys keys' : List Key} (h : keys.Perm keys') (hnd : hasDupIds keys = false)
    (id : String) : lookupKey keys id = lookupKey keys' id := by
  have hnd' : hasDupIds keys' = false := by rw [← hasDupIds_perm h]; exact hnd
  cases h1 : lookupKey keys id with
  | none =>
    symm
    unfold lookupKey at h1 ⊢
    rw [List.find?_eq_none] at h1 ⊢
    exact fun x hx => h1 x (h.mem_iff.mpr hx)
  | some k =>
    have hk : k ∈ keys := List.mem_of_find?_eq_some h1
    have hid : k.keyIdentifier = id := by simpa using List.find?_some h1
    rw [← hid]
    exact (lookupKey_of_noDup hnd' (h.mem_iff.mp hk)).symm

/-- the to-be-signed octets do not depend on the order of the key set -/
theorem makeRawRrsig_perm {keys keys' : List Key} (h : keys.Perm keys') (sig : Signature) {raw : Bytes}
    (hr : makeRawRrsig sig keys = .ok raw) : makeRawRrsig sig keys' = .ok raw :=
  C07.makeRawRrsig_perm sig keys keys' h raw hr

theorem signKeys_perm {ext : Externals} {bundle : Bundle} {keys keys' : List Key} {sk : CompositeKey}
    {pol : KskPolicy} {t : Token} {s s' : TokState} {σ : Signature} (hp : keys.Perm keys')
    (h : signKeys ext bundle keys sk pol t s = (.ok σ, s')) :
    signKeys ext bundle keys' sk pol t s = (.ok σ, s') := by
  obtain ⟨httl, dnsKey, labels, raw, sigBytes, pk, hget, hl, hraw, hsign, hpk, hu, hv, rfl⟩ := signKeys_ok h
  exact signKeys_of (fun k hk => httl k (hp.mem_iff.mpr hk)) (by rw [← ktsGet_perm hp]; exact hget) hl
    (makeRawRrsig_perm hp _ hraw) hsign hpk hu hv

theorem reValid_perm {verify : Verifier} {keys keys' : List Key} {σ : Signature} (hp : keys.Perm keys')
    (hnd : hasDupIds keys = false) (h : ReValid verify keys σ) : ReValid verify keys' σ := by
  obtain ⟨key, sigBytes, raw, hl, hpk, hd, hr, hv⟩ := h
  exact ⟨key, sigBytes, raw, by rw [← lookupKey_perm hp hnd]; exact hl, hpk, hd,
    makeRawRrsig_perm hp _ hr, hv⟩

theorem validateSignatures_same (verify : Verifier) (b b' : Bundle) (hk : b.keys.Perm b'.keys)
    (hs : SameElems b.signatures b'.signatures) (h : validateSignatures verify b = .ok ()) :
    validateSignatures verify b' = .ok () := by
  rw [validateSignatures_ok_iff_reValid] at h ⊢
  obtain ⟨h1, h2, h3, h4⟩ := h
  refine ⟨?_, ?_, by rw [← hasDupIds_perm hk]; exact h3, ?_⟩
  · intro e; rw [e] at hk; exact h1 hk.eq_nil
  · intro e; rw [e] at hs; exact h2 (SameElems.nil_iff.mp hs)
  · intro σ hσ
    exact reValid_perm hk h3 (h4 σ ((hs σ).mpr hσ))

theorem checkValidSignatures_same (verify : Verifier) (b b' : Bundle) (pol : ResponsePolicy)
    (hk : b.keys.Perm b'.keys) (hs : SameElems b.signatures b'.signatures)
    (h : checkValidSignatures verify b pol = .ok ()) : checkValidSignatures verify b' pol = .ok () := by
  unfold checkValidSignatures at h ⊢
  cases hv : pol.validateSignatures with
  | false => simp [pure, Except.pure]
  | true =>
    simp only [hv, Bool.not_true, Bool.false_eq_true, ↓reduceIte] at h ⊢
    have : validateSignatures verify b = .ok () := by
      split at h
      · simp [violation] at h
      · simp at h
      · assumption
    rw [validateSignatures_same verify b b' hk hs this]
    rfl

theorem finishBundle_same {ext : Externals} {cfg cfg' : SignerConfig} {bundle bundle' : Bundle}
    {keys keys' : List Key} {sigs sigs' : List Signature} {rb : Bundle}
    (hrp : cfg'.responsePolicy = cfg.responsePolicy)
    (hid : bundle'.id = bundle.id) (hinc : bundle'.inception = bundle.inception)
    (hexp : bundle'.expiration = bundle.expiration) (hz : SameElems bundle.keys bundle'.keys)
    (hk : keys.Perm keys') (hs : SameElems sigs sigs')
    (h : finishBundle ext cfg bundle keys sigs = .ok rb) :
    finishBundle ext cfg' bundle' keys' sigs' =
      .ok { id := bundle.id, inception := bundle.inception, expiration := bundle.expiration,
            keys := keys', signatures := sigs' } := by
  obtain ⟨hsame, hrb, hcv⟩ := finishBundle_ok h
  have hsame' : sameSet (bundle'.keys.map (·.algorithm)) (sigs'.map (·.algorithm)) = true := by
    rw [sameSet_iff] at hsame ⊢
    intro a
    rw [← (hz.map (·.algorithm)) a, ← (hs.map (·.algorithm)) a]
    exact hsame a
  subst hrb
  have := checkValidSignatures_same ext.verify _
    { id := bundle.id, inception := bundle.inception, expiration := bundle.expiration,
      keys := keys', signatures := sigs' } cfg.responsePolicy hk hs hcv
  simp only [finishBundle, hsame', Bool.not_true, Bool.false_eq_true, ↓reduceIte, hid, hinc, hexp, hrp,
    this]

theorem fetchOne_via (ext : Externals) (mods : List P11Module) (cfg : SignerConfig) (b : Bundle)
    (isPublic : Bool) (name : String) :
    ResultVia (IsReadAmong mods) (fetchOne ext mods cfg b isPublic name) := by
  unfold fetchOne
  split
  · exact ResultVia.err _
  · refine ResultVia.bind (loadPkcs11Key_plays mods _ cfg.kskPolicy b isPublic).via (fun o => ?_)
    split
    · exact ResultVia.err _
    · exact ResultVia.bind (ResultVia.lift _) (fun _ => ResultVia.pure _)

/-- the key `_fetch_keys` obtains for one name on the token `tok`, as a function of the name -/
def fetchedOf (ext : Externals) (mods : List P11Module) (cfg : SignerConfig) (b : Bundle)
    (isPublic : Bool) (tok : Token) (name : String) : Res CompositeKey :=
  (fetchOne ext mods cfg b isPublic name tok {}).1

/-- **On an index-free token `_fetch_keys` is `mapM` of a function of the name**: what is fetched for
    a name does not depend on what was fetched before. -/
theorem fetchKeys_indexFree (ext : Externals) (mods : List P11Module) (cfg : SignerConfig) (b : Bundle)
    (isPublic : Bool) {tok : Token} (ht : IndexFree tok) (names : List String) (s : TokState) :
    (fetchKeys ext mods cfg b isPublic names tok s).1 =
      names.mapM (fetchedOf ext mods cfg b isPublic tok) := by
  induction names generalizing s with
  | nil => rfl
  | cons name rest ih =>
    rw [fetchKeys_cons, bind_run, List.mapM_cons]
    have h1 := (fetchOne_via ext mods cfg b isPublic name).indep ht s {}
    unfold fetchedOf
    cases hr : fetchOne ext mods cfg b isPublic name tok s with
    | mk r s1 =>
      rw [hr] at h1
      simp only at h1
      rw [← h1]
      cases r with
      | error e => rfl
      | ok ck =>
        have h2 := ih s1
        simp only [bind_run]
        cases hr2 : fetchKeys ext mods cfg b isPublic rest tok s1 with
        | mk r2 s2 =>
          rw [hr2] at h2
          simp only at h2
          unfold fetchedOf at h2
          rw [← h2]
          cases r2 <;> rfl

/-- **`_fetch_keys` on an index-free token, names in any order / repeated**: if the fetch succeeds
    for `names` it succeeds for every list with the same names — from any state — and returns the same
    keys (as a set). -/
theorem fetchKeys_same (ext : Externals) (mods : List P11Module) (cfg : SignerConfig) (b : Bundle)
    (isPublic : Bool) {tok : Token} (ht : IndexFree tok) {names names' : List String}
    (hn : SameElems names names') {s s1 : TokState} {cks : List CompositeKey}
    (h : fetchKeys ext mods cfg b isPublic names tok s = (.ok cks, s1)) (s' : TokState) :
    ∃ cks' s1', fetchKeys ext mods cfg b isPublic names' tok s' = (.ok cks', s1') ∧
      SameElems cks cks' := by
  have h1 := fetchKeys_indexFree ext mods cfg b isPublic ht names s
  rw [h] at h1
  obtain ⟨cks', h2, hs⟩ := mapM_same _ hn h1.symm
  rw [← fetchKeys_indexFree ext mods cfg b isPublic ht names' s'] at h2
  exact ⟨cks', (fetchKeys ext mods cfg b isPublic names' tok s').2, Prod.ext h2 rfl, hs⟩

theorem fetchKeys_perm (ext : Externals) (mods : List P11Module) (cfg : SignerConfig) (b : Bundle)
    (isPublic : Bool) {tok : Token} (ht : IndexFree tok) {names names' : List String}
    (hn : names.Perm names') {s s1 : TokState} {cks : List CompositeKey}
    (h : fetchKeys ext mods cfg b isPublic names tok s = (.ok cks, s1)) (s' : TokState) :
    ∃ cks' s1', fetchKeys ext mods cfg b isPublic names' tok s' = (.ok cks', s1') ∧ cks.Perm cks' := by
  have h1 := fetchKeys_indexFree ext mods cfg b isPublic ht names s
  rw [h] at h1
  obtain ⟨cks', h2, hs⟩ := mapM_perm _ hn h1.symm
  rw [← fetchKeys_indexFree ext mods cfg b isPublic ht names' s'] at h2
  exact ⟨cks', (fetchKeys ext mods cfg b isPublic names' tok s').2, Prod.ext h2 rfl, hs⟩

theorem fetchedOf_congr (ext : Externals) (mods : List P11Module) (cfg : SignerConfig) (b : Bundle)
    (isPublic : Bool) (tok : Token) {n₁ n₂ : String} (h : cfg.kskKeys.lookup n₁ = cfg.kskKeys.lookup n₂) :
    fetchedOf ext mods cfg b isPublic tok n₁ = fetchedOf ext mods cfg b isPublic tok n₂ := by
  unfold fetchedOf fetchOne
  rw [h]

theorem fetchedOf_ok {ext : Externals} {mods : List P11Module} {cfg : SignerConfig} {b : Bundle}
    {isPublic : Bool} {tok : Token} {n : String} {ck : CompositeKey}
    (h : fetchedOf ext mods cfg b isPublic tok n = .ok ck) :
    ∃ ksk, cfg.kskKeys.lookup n = some ksk ∧ ck.dns.keyIdentifier = ksk.label := by
  have h' : fetchOne ext mods cfg b isPublic n tok {} = (.ok ck, (fetchOne ext mods cfg b isPublic n tok {}).2) :=
    Prod.ext h rfl
  obtain ⟨ksk, hl, hload, _⟩ := (fetchOne_ok_iff _ _ _ _ _ _ _ _ _ _).mp h'
  obtain ⟨pk, _, hd⟩ := (loadPkcs11Key_good mods ksk cfg.kskPolicy b isPublic).out _ _ _ _ hload
  exact ⟨ksk, hl, (publicKeyToDnssecKey_ok hd).1⟩

/-- the loop of `sign_bundles` over a per-key signing function -/
def signAllPure (f : CompositeKey → Res Signature) : List CompositeKey → List Signature → Res (List Signature)
  | [], acc => pure acc
  | sk :: rest, acc =>
    if acc.any (fun s => s.keyIdentifier = sk.dns.keyIdentifier) then signAllPure f rest acc
    else do
      let s ← f sk
      signAllPure f rest (acc ++ [s])

/-- the signature `_sign_keys` obtains with one key on the token `tok`, as a function of the key -/
def signedBy (ext : Externals) (bundle : Bundle) (keys : List Key) (pol : KskPolicy) (tok : Token)
    (sk : CompositeKey) : Res Signature := (signKeys ext bundle keys sk pol tok {}).1

theorem signAll_indexFree (ext : Externals) (bundle : Bundle) (keys : List Key) (pol : KskPolicy)
    {tok : Token} (ht : IndexFree tok) (sks : List CompositeKey) (acc : List Signature) (s : TokState) :
    (signAll ext bundle keys pol sks acc tok s).1 =
      signAllPure (signedBy ext bundle keys pol tok) sks acc := by
  induction sks generalizing acc s with
  | nil => rfl
  | cons sk rest ih =>
    rw [signAll_cons, signAllPure]
    split
    · exact ih acc s
    · rw [bind_run]
      have h1 := (signKeys_plays ext bundle keys sk pol).via.indep ht s {}
      unfold signedBy
      cases hr : signKeys ext bundle keys sk pol tok s with
      | mk r s1 =>
        rw [hr] at h1
        simp only at h1
        rw [← h1]
        cases r with
        | error e => rfl
        | ok σ => exact ih (acc ++ [σ]) s1

/-- same identifier ⇒ same signing key -/
def IdFun (sks : List CompositeKey) : Prop :=
  ∀ a ∈ sks, ∀ b ∈ sks, a.dns.keyIdentifier = b.dns.keyIdentifier → a = b

theorem IdFun.of_same {l l' : List CompositeKey} (h : SameElems l l') (hf : IdFun l) : IdFun l' :=
  fun a ha b hb e => hf a ((h a).mpr ha) b ((h b).mpr hb) e

theorem signAllPure_ok (f : CompositeKey → Res Signature) (all : List CompositeKey) (hall : IdFun all)
    (hid : ∀ sk ∈ all, ∀ σ, f sk = .ok σ → σ.keyIdentifier = sk.dns.keyIdentifier) :
    ∀ (sks : List CompositeKey) (acc sigs : List Signature), (∀ sk ∈ sks, sk ∈ all) →
      (∀ σ ∈ acc, ∃ sk ∈ all, f sk = .ok σ) → signAllPure f sks acc = .ok sigs →
      (∀ σ, σ ∈ sigs ↔ σ ∈ acc ∨ ∃ sk ∈ sks, f sk = .ok σ) ∧ ∀ sk ∈ sks, ∃ σ, f sk = .ok σ := by
  intro sks
  induction sks with
  | nil =>
    intro acc sigs _ _ h
    simp only [signAllPure, pure, Except.pure, Except.ok.injEq] at h
    subst h
    simp
  | cons sk rest ih =>
    intro acc sigs hsub hacc h
    have hsk : sk ∈ all := hsub sk List.mem_cons_self
    have hrest : ∀ x ∈ rest, x ∈ all := fun x hx => hsub x (List.mem_cons_of_mem _ hx)
    rw [signAllPure] at h
    by_cases hany : acc.any (fun s => s.keyIdentifier = sk.dns.keyIdentifier) = true
    · -- skipped: the signature under that identifier in `acc` is this key's
      simp only [hany, ↓reduceIte] at h
      obtain ⟨ih1, ih2⟩ := ih acc sigs hrest hacc h
      simp only [List.any_eq_true, decide_eq_true_eq] at hany
      obtain ⟨σ0, hσ0, hid0⟩ := hany
      obtain ⟨sk0, hsk0, hf0⟩ := hacc σ0 hσ0
      obtain rfl : sk0 = sk := hall sk0 hsk0 sk hsk ((hid sk0 hsk0 σ0 hf0).symm.trans hid0)
      refine ⟨fun σ => ?_, fun x hx => ?_⟩
      · rw [ih1 σ]
        simp only [List.mem_cons, exists_eq_or_imp, hf0, Except.ok.injEq]
        exact ⟨Or.imp_right Or.inr, fun h => h.elim Or.inl (Or.elim · (fun e => Or.inl (e ▸ hσ0)) Or.inr)⟩
      · rcases List.mem_cons.mp hx with rfl | hx
        · exact ⟨σ0, hf0⟩
        · exact ih2 x hx
    · simp only [hany, Bool.false_eq_true, ↓reduceIte] at h
      cases hf : f sk with
      | error e => simp [hf, bind, Except.bind] at h
      | ok s0 =>
        simp only [hf, bind, Except.bind] at h
        have hacc' : ∀ σ ∈ acc ++ [s0], ∃ sk ∈ all, f sk = .ok σ := by
          intro x hx
          rcases List.mem_append.mp hx with hx | hx
          · exact hacc x hx
          · simp only [List.mem_singleton] at hx
            subst hx
            exact ⟨sk, hsk, hf⟩
        obtain ⟨ih1, ih2⟩ := ih (acc ++ [s0]) sigs hrest hacc' h
        refine ⟨fun σ => ?_, fun x hx => ?_⟩
        · rw [ih1 σ]
          simp only [List.mem_append, List.mem_cons, List.not_mem_nil, or_false, exists_eq_or_imp, hf,
            Except.ok.injEq, or_assoc, eq_comm (a := s0)]
        · rcases List.mem_cons.mp hx with rfl | hx
          · exact ⟨s0, hf⟩
          · exact ih2 x hx

theorem signAllPure_total (f : CompositeKey → Res Signature) :
    ∀ (sks : List CompositeKey) (acc : List Signature), (∀ sk ∈ sks, ∃ σ, f sk = .ok σ) →
      ∃ sigs, signAllPure f sks acc = .ok sigs := by
  intro sks
  induction sks with
  | nil => intro acc _; exact ⟨acc, rfl⟩
  | cons sk rest ih =>
    intro acc h
    rw [signAllPure]
    split
    · exact ih acc (fun x hx => h x (List.mem_cons_of_mem _ hx))
    · obtain ⟨σ, hσ⟩ := h sk List.mem_cons_self
      simp only [hσ, bind, Except.bind]
      exact ih _ (fun x hx => h x (List.mem_cons_of_mem _ hx))

/-- **the signing fold does not depend on the order (or repetition) of the signing keys**, nor on
    which of two equal-on-these-keys signing functions is used -/
theorem signAllPure_same (f f' : CompositeKey → Res Signature) {sks sks' : List CompositeKey}
    (hs : SameElems sks sks') (hfun : IdFun sks)
    (hid : ∀ sk σ, f sk = .ok σ → σ.keyIdentifier = sk.dns.keyIdentifier)
    (hff : ∀ sk ∈ sks, ∀ σ, f sk = .ok σ → f' sk = .ok σ)
    {sigs : List Signature} (h : signAllPure f sks [] = .ok sigs) :
    ∃ sigs', signAllPure f' sks' [] = .ok sigs' ∧ SameElems sigs sigs' := by
  obtain ⟨hmem, heach⟩ := signAllPure_ok f sks hfun (fun sk _ => hid sk) sks [] sigs (fun _ h => h) (by simp) h
  -- on the listed keys `f'` answers what `f` answers
  have hff' : ∀ sk ∈ sks', ∀ σ, f' sk = .ok σ ↔ f sk = .ok σ := by
    intro sk hsk σ
    obtain ⟨σ0, h0⟩ := heach sk ((hs sk).mpr hsk)
    rw [hff sk ((hs sk).mpr hsk) σ0 h0, h0]
  obtain ⟨sigs', h'⟩ := signAllPure_total f' sks' [] (fun sk hsk =>
    let ⟨σ0, h0⟩ := heach sk ((hs sk).mpr hsk); ⟨σ0, (hff' sk hsk σ0).mpr h0⟩)
  have hmem' := (signAllPure_ok f' sks' (hfun.of_same hs)
    (fun sk hsk σ hσ => hid sk σ ((hff' sk hsk σ).mp hσ)) sks' [] sigs' (fun _ h => h) (by simp) h').1
  refine ⟨sigs', h', fun σ => ?_⟩
  rw [hmem σ, hmem' σ]
  simp only [List.not_mem_nil, false_or]
  constructor
  · rintro ⟨sk, hsk, hf⟩; exact ⟨sk, (hs sk).mp hsk, (hff' sk ((hs sk).mp hsk) σ).mpr hf⟩
  · rintro ⟨sk, hsk, hf⟩; exact ⟨sk, (hs sk).mpr hsk, (hff' sk hsk σ).mp hf⟩

theorem key_ext {a b : Key} (h1 : a.keyIdentifier = b.keyIdentifier) (h2 : a.keyTag = b.keyTag)
    (h3 : a.ttl = b.ttl) (h4 : a.flags = b.flags) (h5 : a.protocol = b.protocol)
    (h6 : a.algorithm = b.algorithm) (h7 : a.publicKey = b.publicKey) : a = b := by
  cases a; cases b; simp_all

theorem loadPkcs11Key_bundle_congr (mods : List P11Module) (ksk : KskKey) (pol : KskPolicy) (b b' : Bundle)
    (isPublic : Bool) (h1 : b'.inception = b.inception) (h2 : b'.expiration = b.expiration) :
    loadPkcs11Key mods ksk pol b' isPublic = loadPkcs11Key mods ksk pol b isPublic := by
  unfold loadPkcs11Key
  rw [h1, h2]

/-- `_fetch_keys` reads the configured keys, the KSK policy and the bundle's two times, nothing else -/
theorem fetchKeys_congr (ext : Externals) (mods : List P11Module) (cfg cfg' : SignerConfig) (b b' : Bundle)
    (isPublic : Bool) (hk : cfg'.kskKeys = cfg.kskKeys) (hp : cfg'.kskPolicy = cfg.kskPolicy)
    (h1 : b'.inception = b.inception) (h2 : b'.expiration = b.expiration) (names : List String) :
    fetchKeys ext mods cfg' b' isPublic names = fetchKeys ext mods cfg b isPublic names := by
  induction names with
  | nil => simp [fetchKeys]
  | cons name rest ih =>
    rw [fetchKeys, fetchKeys, hk, hp]
    simp only [loadPkcs11Key_bundle_congr mods _ _ b b' isPublic h1 h2, ih]

theorem signKeys_bundle_congr (ext : Externals) (b b' : Bundle) (keys : List Key) (sk : CompositeKey)
    (pol : KskPolicy) (h1 : b'.inception = b.inception) (h2 : b'.expiration = b.expiration) :
    signKeys ext b' keys sk pol = signKeys ext b keys sk pol := by
  unfold signKeys
  rw [h1, h2]

/-- the value of a successful result (with a default) -/
def okOr {α} (d : α) : Res α → α
  | .ok a => a
  | _ => d

theorem eq_okOr {α} {r : Res α} (d : α) (h : r.toOption.isSome = true) : r = .ok (okOr d r) := by
  cases r with
  | error e => simp [Except.toOption] at h
  | ok a => rfl

end Kskm
