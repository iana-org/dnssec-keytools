/-
  Forward (success) lemmas for the signer model, used by the completion theorems of C01: under explicit
  readiness conditions `_sign_keys`, the signing loop, `validate_signatures` (characterised by
  `validateSignatures_ok_iff_reValid`) and the loop over the bundles go through.
-/
import KskmProofs.Lemmas.SignerInv
import KskmProofs.Lemmas.Base64
namespace Kskm

/-- everything `_sign_keys` needs of one signing key `sk` and the key set `keys`, for a token that
    from operation `from_` on answers the `C_Sign` request with a signature the verifier accepts: the record
    `dnsKey` published under its identifier, with key text `pk`; the to-be-signed octets `tbs`; what
    `_format_data_for_signing` makes of them; the private handle -/
structure SignerReadyAt (ext : Externals) (bundle : Bundle) (pol : KskPolicy) (keys : List Key)
    (sk : CompositeKey) (tok : Token) (from_ : Nat) (dnsKey : Key) (pk : String) (tbs : Bytes)
    (d : DataToSign) (hdl : Nat) : Prop where
  mem : dnsKey ∈ keys
  id : dnsKey.keyIdentifier = sk.dns.keyIdentifier
  keyText : dnsKey.publicKey = pk
  alg : dnsKey.algorithm = sk.dns.algorithm
  text : sk.p11.publicKey = some pk
  fromKey : publicKeyFromKey { sk.dns with publicKey := pk } = .ok ()
  octets : makeRawRrsig (sigTemplate bundle sk pol 0 dnsKey.keyTag) keys = .ok tbs
  notAes : sk.p11.keyType ≠ .aes
  notDes3 : sk.p11.keyType ≠ .des3
  formats : formatDataForSigning ext.hash sk.p11 tbs sk.dns.algorithm = .ok d
  handle : sk.p11.privHandle = some hdl
  signs : ∀ n, from_ ≤ n → ∃ b, tok n (.sign sk.p11.module sk.p11.slot hdl d.mechanism d.data) = .sig b ∧
    ext.verify sk.dns.algorithm pk tbs b = .valid

def SignerReady (ext : Externals) (bundle : Bundle) (pol : KskPolicy) (keys : List Key)
    (sk : CompositeKey) (tok : Token) (from_ : Nat) : Prop :=
  ∃ dnsKey pk tbs d hdl, SignerReadyAt ext bundle pol keys sk tok from_ dnsKey pk tbs d hdl

theorem SignerReady.mono {ext : Externals} {bundle : Bundle} {pol : KskPolicy} {keys : List Key}
    {sk : CompositeKey} {tok : Token} {a b : Nat} (hab : a ≤ b)
    (h : SignerReady ext bundle pol keys sk tok a) : SignerReady ext bundle pol keys sk tok b := by
  obtain ⟨dnsKey, pk, tbs, d, hdl, h⟩ := h
  exact ⟨dnsKey, pk, tbs, d, hdl, { h with signs := fun n hn => h.signs n (Nat.le_trans hab hn) }⟩

/-- what `validate_signatures` checks of one signature against the key set: `VerifierSays … .valid`
    with the key set in place of the bundle that carries it -/
def ReValid (verify : Verifier) (keys : List Key) (σ : Signature) : Prop :=
  ∃ key sigBytes raw, lookupKey keys σ.keyIdentifier = some key ∧ publicKeyFromKey key = .ok () ∧
    Base64.decode σ.signatureData = some sigBytes ∧ makeRawRrsig σ keys = .ok raw ∧
    verify key.algorithm key.publicKey raw sigBytes = .valid

theorem hasDupIds_cons (a : Key) (r : List Key) :
    hasDupIds (a :: r) = false ↔ (∀ x ∈ r, x.keyIdentifier ≠ a.keyIdentifier) ∧ hasDupIds r = false := by
  simp [hasDupIds]

theorem filter_id_of_noDup {keys : List Key} (hnd : hasDupIds keys = false) {k : Key} (hk : k ∈ keys) :
    keys.filter (fun x => x.keyIdentifier = k.keyIdentifier) = [k] := by
  induction keys with
  | nil => cases hk
  | cons a r ih =>
    obtain ⟨h1, h2⟩ := (hasDupIds_cons a r).mp hnd
    rcases List.mem_cons.mp hk with rfl | hk
    · rw [List.filter_cons]
      simp only [decide_true, ↓reduceIte, List.cons.injEq, true_and, List.filter_eq_nil_iff,
        decide_eq_true_eq]
      exact h1
    · have : a.keyIdentifier ≠ k.keyIdentifier := fun e => h1 k hk e.symm
      rw [List.filter_cons]
      simp only [this, decide_false, Bool.false_eq_true, ↓reduceIte]
      exact ih h2 hk

theorem ktsGet_of_noDup {keys : List Key} (hnd : hasDupIds keys = false) {k : Key} (hk : k ∈ keys) :
    ktsGet keys k.keyIdentifier = .ok (some k) := by
  unfold ktsGet
  rw [filter_id_of_noDup hnd hk]
  rfl

theorem lookupKey_of_noDup {keys : List Key} (hnd : hasDupIds keys = false) {k : Key} (hk : k ∈ keys) :
    lookupKey keys k.keyIdentifier = some k :=
  C07L.lookupKey_of_mem ((C07L.hasDupIds_eq_false_iff _).mp hnd) hk

theorem signKeys_of {ext : Externals} {bundle : Bundle} {keys : List Key} {sk : CompositeKey}
    {pol : KskPolicy} {t : Token} {s s' : TokState} {dnsKey : Key} {labels : Int} {raw sigBytes : Bytes}
    {pk : String}
    (httl : ∀ k ∈ keys, k.ttl = pol.ttl)
    (hget : ktsGet keys sk.dns.keyIdentifier = .ok (some dnsKey))
    (hl : dndepth pol.signersName = .ok labels)
    (hraw : makeRawRrsig (sigTemplate bundle sk pol labels dnsKey.keyTag) keys = .ok raw)
    (hsign : signUsingP11 ext.hash sk.p11 raw sk.dns.algorithm t s = (.ok sigBytes, s'))
    (hpk : sk.p11.publicKey = some pk)
    (hu : publicKeyFromKey { sk.dns with publicKey := pk } = .ok ())
    (hv : ext.verify sk.dns.algorithm pk raw sigBytes = .valid) :
    signKeys ext bundle keys sk pol t s =
      (.ok { sigTemplate bundle sk pol labels dnsKey.keyTag with signatureData := Base64.encode sigBytes }, s') := by
  have hany : (keys.any fun k => k.ttl != pol.ttl) = false := by
    rw [Bool.eq_false_iff]
    intro h
    simp only [List.any_eq_true, bne_iff_ne, ne_eq] at h
    obtain ⟨k, hk, hne⟩ := h
    exact hne (httl k hk)
  unfold signKeys
  simp only [hany, Bool.false_eq_true, ↓reduceIte, bind_run, TokM.lift_run, hget, hl]
  unfold sigTemplate at hraw
  simp only [hraw, hsign, hpk, hu, hv]
  rfl

theorem signKeys_run {ext : Externals} {bundle : Bundle} {pol : KskPolicy} {keys : List Key}
    {sk : CompositeKey} {tok : Token} {from_ : Nat} (s : TokState)
    (hroot : pol.signersName = ".") (httl : ∀ x ∈ keys, x.ttl = pol.ttl)
    (hnd : hasDupIds keys = false) (hr : SignerReady ext bundle pol keys sk tok from_)
    (hs : from_ ≤ s.count) :
    ∃ σ s', signKeys ext bundle keys sk pol tok s = (.ok σ, s') ∧ s'.count = s.count + 1 := by
  obtain ⟨dnsKey, pk, raw, d, hdl, h⟩ := hr
  obtain ⟨b, hb, hv⟩ := h.signs s.count hs
  have hget : ktsGet keys sk.dns.keyIdentifier = .ok (some dnsKey) := by
    rw [← h.id]; exact ktsGet_of_noDup hnd h.mem
  have hdepth : dndepth pol.signersName = .ok 0 := by simp [dndepth, hroot, pure, Except.pure]
  have hsign : signUsingP11 ext.hash sk.p11 raw sk.dns.algorithm tok s =
      (.ok b, ⟨s.count + 1, (.sign sk.p11.module sk.p11.slot hdl d.mechanism d.data, .sig b) :: s.log⟩) := by
    have hask : askOk (.sign sk.p11.module sk.p11.slot hdl d.mechanism d.data) tok s =
        (.ok (.sig b), ⟨s.count + 1, (.sign sk.p11.module sk.p11.slot hdl d.mechanism d.data, .sig b) :: s.log⟩) := by
      unfold askOk
      rw [bind_run, ask_run', hb]
      rfl
    unfold signUsingP11
    cases hk : sk.p11.keyType
    · simp only [bind_run, TokM.lift_run, h.formats, h.handle, hask, TokM.pure_run]
    · simp only [bind_run, TokM.lift_run, h.formats, h.handle, hask, TokM.pure_run]
    · exact absurd hk h.notAes
    · exact absurd hk h.notDes3
  exact ⟨_, _, signKeys_of httl hget hdepth h.octets hsign h.text h.fromKey hv, rfl⟩

theorem signAll_run {ext : Externals} {bundle : Bundle} {pol : KskPolicy} {keys : List Key}
    {tok : Token} {from_ : Nat}
    (hroot : pol.signersName = ".") (httl : ∀ x ∈ keys, x.ttl = pol.ttl)
    (hnd : hasDupIds keys = false) (sks : List CompositeKey) (acc : List Signature) (s : TokState)
    (hs : from_ ≤ s.count) (hr : ∀ sk ∈ sks, SignerReady ext bundle pol keys sk tok from_) :
    ∃ sigs s4, signAll ext bundle keys pol sks acc tok s = (.ok sigs, s4) := by
  induction sks generalizing acc s with
  | nil => exact ⟨acc, s, by simp [signAll_nil]⟩
  | cons sk rest ih =>
    rw [signAll_cons]
    by_cases hany : acc.any (fun s => s.keyIdentifier = sk.dns.keyIdentifier) = true
    · simp only [hany, ↓reduceIte]
      exact ih acc s hs (fun k hk => hr k (List.mem_cons_of_mem _ hk))
    · simp only [hany, Bool.false_eq_true, ↓reduceIte]
      obtain ⟨σ, s', hrun, hc⟩ := signKeys_run s hroot httl hnd (hr sk (by simp)) hs
      rw [bind_run, hrun]
      exact ih (acc ++ [σ]) s' (by omega) (fun k hk => hr k (List.mem_cons_of_mem _ hk))

theorem reValid_of_signKeys {ext : Externals} {bundle : Bundle} {pol : KskPolicy} {keys : List Key}
    {sk : CompositeKey} {tok : Token} {from_ : Nat} {s s' : TokState} {σ : Signature}
    (hnd : hasDupIds keys = false) (hr : SignerReady ext bundle pol keys sk tok from_)
    (hrun : signKeys ext bundle keys sk pol tok s = (.ok σ, s')) : ReValid ext.verify keys σ := by
  obtain ⟨dnsKey, pk, raw, d, hdl, h⟩ := hr
  obtain ⟨_, dnsKey', labels, raw', sigBytes, pk', hget, _, hraw, _, hpk, _, hv, rfl⟩ := signKeys_ok hrun
  have e1 : dnsKey = dnsKey' := (ktsGet_some_mem hget).2.2 dnsKey h.mem h.id
  subst e1
  have e2 : pk' = pk := by rw [h.text] at hpk; exact (Option.some.inj hpk).symm
  subst e2
  refine ⟨dnsKey, sigBytes, raw', ?_, ?_, Base64.decode_encode sigBytes, hraw, ?_⟩
  · show lookupKey keys sk.dns.keyIdentifier = some dnsKey
    rw [← h.id]; exact lookupKey_of_noDup hnd h.mem
  · rw [← h.fromKey]; unfold publicKeyFromKey; rw [h.alg, h.keyText]
  · rw [h.alg, h.keyText]; exact hv

theorem signAll_completes (ext : Externals) (bundle : Bundle) (pol : KskPolicy) (keys : List Key)
    (signing : List CompositeKey) (tok : Token) (s : TokState)
    (hroot : pol.signersName = ".") (httl : ∀ x ∈ keys, x.ttl = pol.ttl)
    (hnd : hasDupIds keys = false)
    (hr : ∀ sk ∈ signing, SignerReady ext bundle pol keys sk tok s.count) :
    ∃ sigs s4, signAll ext bundle keys pol signing [] tok s = (.ok sigs, s4) ∧
      (∀ σ ∈ sigs, ReValid ext.verify keys σ) ∧
      ((∀ a ∈ signing, ∀ b ∈ signing, a.dns.keyIdentifier = b.dns.keyIdentifier →
          a.dns.algorithm = b.dns.algorithm) →
        ∀ a, a ∈ sigs.map (·.algorithm) ↔ a ∈ signing.map (·.dns.algorithm)) ∧
      (signing ≠ [] → sigs ≠ []) := by
  obtain ⟨sigs, s4, hrun⟩ := signAll_run hroot httl hnd signing [] s (Nat.le_refl _) hr
  obtain ⟨new, e, h1, h2, _, _⟩ := signAll_ok hrun
  simp only [List.nil_append] at e
  subst e
  refine ⟨sigs, s4, hrun, ?_, ?_, ?_⟩
  · intro σ hσ
    obtain ⟨sk, hsk, sa, sb, hk⟩ := h1 σ hσ
    exact reValid_of_signKeys hnd (hr sk hsk) hk
  · intro hid a
    simp only [List.mem_map]
    constructor
    · rintro ⟨σ, hσ, rfl⟩
      obtain ⟨sk, hsk, sa, sb, hk⟩ := h1 σ hσ
      exact ⟨sk, hsk, (signKeys_ok_id hk).2.1.symm⟩
    · rintro ⟨sk, hsk, rfl⟩
      obtain ⟨σ, hσ, hid'⟩ := h2 sk hsk
      obtain ⟨sk', hsk', sa, sb, hk⟩ := h1 σ hσ
      obtain ⟨i1, i2, _⟩ := signKeys_ok_id hk
      exact ⟨σ, hσ, by rw [i2]; exact hid sk' hsk' sk hsk (i1.symm.trans hid')⟩
  · intro hne he
    cases hs : signing with
    | nil => exact hne hs
    | cons sk r =>
      obtain ⟨σ, hσ, _⟩ := h2 sk (by simp [hs])
      rw [he] at hσ
      cases hσ

theorem validateSignatures_ok_iff_reValid (verify : Verifier) (b : Bundle) :
    validateSignatures verify b = .ok () ↔
      b.keys ≠ [] ∧ b.signatures ≠ [] ∧ hasDupIds b.keys = false ∧
      ∀ σ ∈ b.signatures, ReValid verify b.keys σ :=
  C07L.validateSignatures_says_iff verify b

theorem signBundlesFrom_of_each {ext : Externals} {mods : List P11Module} {cfg : SignerConfig} {t : Token} :
    ∀ (bs : List Bundle) (n : Nat),
      (∀ i b, bs[i]? = some b → ∀ s, ∃ rb s', signBundle ext mods cfg (n + i) b t s = (.ok rb, s')) →
      ∀ s, ∃ rbs s', signBundlesFrom ext mods cfg n bs t s = (.ok rbs, s')
  | [], _, _, s => ⟨[], s, by simp [signBundlesFrom_nil]⟩
  | b :: rest, n, h, s => by
    obtain ⟨rb, s1, hrb⟩ : ∃ rb s', signBundle ext mods cfg n b t s = (.ok rb, s') := h 0 b rfl s
    obtain ⟨more, s2, hmore⟩ := signBundlesFrom_of_each rest (n + 1) (fun i b' hb' => by
      rw [show n + 1 + i = n + (i + 1) by omega]
      exact h (i + 1) b' (by simpa using hb')) s1
    refine ⟨rb :: more, s2, ?_⟩
    rw [signBundlesFrom_cons]
    simp only [bind_run, hrb, hmore, TokM.pure_run]

theorem signBundles_of_each {ext : Externals} {mods : List P11Module} {cfg : SignerConfig} {req : Request}
    {t : Token}
    (h : ∀ i b, req.bundles[i]? = some b → ∀ s, ∃ rb s', signBundle ext mods cfg (i + 1) b t s = (.ok rb, s'))
    (s : TokState) : ∃ rbs s', signBundles ext mods cfg req t s = (.ok rbs, s') :=
  signBundlesFrom_of_each req.bundles 1 (fun i b hb => by rw [Nat.add_comm]; exact h i b hb) s

theorem makeRawRrsig_of {sig : Signature} {keys : List Key} {rdatas : List Bytes}
    (h1 : sig.typeCovered < 65536) (h2 : sig.algorithm < 256) (h3 : inRange 8 sig.labels = true)
    (h4 : inRange 32 sig.originalTtl = true) (h5 : inRange 32 (tsSeconds sig.expiration) = true)
    (h6 : inRange 32 (tsSeconds sig.inception) = true) (h7 : inRange 16 sig.keyTag = true)
    (hroot : sig.signersName = ".") (hrd : keys.mapM keyToRdata = .ok rdatas)
    (hlen : ∀ r ∈ rdatas, r.length < 65536) :
    makeRawRrsig sig keys = .ok (rawRrsigOf sig.typeCovered sig.algorithm sig.labels.toNat
      sig.originalTtl.toNat (tsSeconds sig.expiration).toNat (tsSeconds sig.inception).toNat
      sig.keyTag.toNat rdatas) :=
  (C07L.makeRawRrsig_ok_iff _ _ _).mpr ⟨⟨h1, h2, h3, h4, h5, h6, h7⟩, hroot, rdatas, hrd, hlen, rfl⟩

end Kskm
