/-
  The glue on the standard reading of the writer's tree (composition of C11 with C12: the glue).

  `valT (toP pre t)` is what C12's reader theorem says the repository's reader returns for the element
  `t` of the writer's text.  Here the dict → data-class glue of kskm/skr/load.py and
  kskm/common/parse_utils.py (lean/Kskm/XmlGlue.lean) is run on that value, element by element:

      keyOf       (value of keyTree k)      = k          signatureOf   (value of sigTree s)      = s
      algPolicyOf (value of algTree a)      = a          signaturePolicyOf (value of policyTree p) = p  (algorithms de-duplicated)
      responseBundleOf (value of bundleTree b) = b with keys in key-tag order, keys / signatures de-duplicated

  The glue is run on the tree itself: what it looks up by name, `v["attrs"][k]` and `v["value"][k]`, is read off
  the attributes and the children of the element (`getItem_attr`, `getItem_children`).  The repeated elements go
  through C12's `storeElement_repetition` / `C12_glue_*` theorems (one occurrence is stored as the value itself,
  several as a list; the glue copes with both).
  Hypotheses beyond `WriterDomain`: the invariants pydantic enforces on every `Key` / `Signature` object
  (`keyConstructible` below): the algorithm number is a member of the `AlgorithmDNSSEC` enum and `Key.validate`
  (flags ∈ {256, 257, 385}, ECDSA key length) accepts — the reader constructs the objects anew and so
  re-runs those validators.
-/
import KskmProofs.Lemmas.SkrTree
import KskmProofs.Lemmas.C11Extract
import KskmProofs.Lemmas.Attr
import KskmProofs.C12
namespace Kskm.ReadBack
open Kskm Kskm.Xml Kskm.C12

def sv (s : String) : XVal := .str s.toList

theorem sv_str (cs : List Char) : sv (str cs) = .str cs := by rw [sv, str, String.toList_ofList]

theorem name_toP (pre : List Char) (t : XTree) : (toP pre t).name = t.name.toList := by
  cases t with
  | leaf n a t => simp [toP, PTree.name, XTree.name]
  | empty n a => simp [toP, PTree.name, XTree.name]
  | node n a cs => cases cs <;> simp [toP, PTree.name, XTree.name]

/-- the children `ts`, written at indentation `pre`, stored one after the other into `res` -/
def storeXL (pre : List Char) (res : Dict) (ts : List XTree) : Dict := storeF res (toPF pre ts)

theorem storeXL_nil (pre : List Char) (res : Dict) : storeXL pre res [] = res := by
  simp [storeXL, toPF, storeF]

theorem storeXL_cons (pre : List Char) (res : Dict) (t : XTree) (ts : List XTree) :
    storeXL pre res (t :: ts) = storeXL pre (storeElement res t.name.toList (valT (toP pre t))) ts := by
  simp [storeXL, toPF, storeF, name_toP]

theorem val_node (pre : List Char) (n : String) (a : List (String × String)) (c : XTree) (cs : List XTree) :
    valT (toP pre (.node n a (c :: cs))) =
      elementValue (attrsOpt (attrsP a)) (.dict (storeXL (pre ++ sp4) [] (c :: cs))) := by
  simp [toP, valT, storeXL, toPF, storeF, name_toP]

/-- an element without attributes is the dict of its children -/
@[glue_reads] theorem val_node_plain (pre : List Char) (n : String) (c : XTree) (cs : List XTree) :
    valT (toP pre (.node n [] (c :: cs))) = .dict (storeXL (pre ++ sp4) [] (c :: cs)) := by
  rw [val_node]; rfl

@[glue_reads] theorem val_leaf (pre : List Char) (n : String) (t : String) : valT (toP pre (.leaf n [] t)) = sv t := rfl

theorem val_empty (pre : List Char) (n : String) (a : List (String × String)) :
    valT (toP pre (.empty n a)) = elementValue (attrsOpt (attrsP a)) (.str []) := rfl

theorem valT_map_not_list (pre : List Char) (ts : List XTree) :
    ∀ v ∈ ts.map (fun c => valT (toP pre c)), v.isList = false := fun v hv => by
  obtain ⟨c, -, rfl⟩ := List.mem_map.mp hv; exact valT_not_list _

/-! ### `v[k]` on the value of an element

  The glue looks everything up by name.  An element with attributes is the two-entry dict `{"attrs": …, "value": …}`;
  under "attrs" stand the attributes by name (`getItem_attr`); under "value" stands, for a node, the dict of its
  children, and `v[k]` on it is what `_store_element` leaves of the values of the children NAMED `k`
  (`getItem_children`, a statement in variables on C12's `storeElement_repetition`).  The literal names meet only
  as `String`s, in `List.filter (isNamed k)` and `List.lookup k` (`String.reduceBEq` decides two literals from the
  first character in which they differ), never as character lists: decoding a literal into its characters is slow
  for the kernel. -/

theorem getItem_of_lookup {d : Dict} {k : String} {v : XVal} (h : d.lookup k.toList = some v) :
    XVal.getItem (.dict d) k = .ok v := by
  simp only [XVal.getItem, h]; rfl

/-- the dict of the document: the root element under its name -/
@[glue_reads] theorem getItem_root (k : String) (v : XVal) : XVal.getItem (.dict [(k.toList, v)]) k = .ok v :=
  getItem_of_lookup List.lookup_cons_self

@[glue_reads] theorem getItem_attrs_entry (A v : XVal) : XVal.getItem (.dict [(kAttrs, A), (kValue, v)]) "attrs" = .ok A :=
  getItem_of_lookup (show List.lookup kAttrs _ = _ by rw [lookup_attrs_value, if_pos rfl])

@[glue_reads] theorem getItem_value_entry (A v : XVal) : XVal.getItem (.dict [(kAttrs, A), (kValue, v)]) "value" = .ok v :=
  getItem_of_lookup (show List.lookup kValue _ = _ by
    rw [lookup_attrs_value, if_neg (beq_eq_false_iff_ne.mp kValue_ne_kAttrs), if_pos rfl])

/-- what stands under `name` after further values have been stored there depends only on what stood there before -/
theorem storeAll_lookup_congr (name : List Char) : ∀ (vs : List XVal) (res res' : Dict),
    res.lookup name = res'.lookup name → (storeAll res name vs).lookup name = (storeAll res' name vs).lookup name
  | [], _, _, h => h
  | v :: vs, res, res', h =>
    storeAll_lookup_congr name vs (storeElement res name v) (storeElement res' name v)
      (by rw [storeElement_self, storeElement_self, h])

/-- the dict of an element's children, looked up at `k`: `_store_element` applied to the values of the children
    NAMED `k`, in document order -/
theorem lookup_storeXL (pre : List Char) (k : String) : ∀ (cs : List XTree) (res : Dict),
    (storeXL pre res cs).lookup k.toList =
      (storeAll res k.toList ((cs.filter (isNamed k)).map fun c => valT (toP pre c))).lookup k.toList
  | [], res => by rw [storeXL_nil]; rfl
  | c :: cs, res => by
    rw [storeXL_cons, lookup_storeXL pre k cs]
    by_cases h : c.name = k
    · rw [List.filter_cons_of_pos (by simp [isNamed, h]), h]; rfl
    · rw [List.filter_cons_of_neg (by simp [isNamed, h])]
      exact storeAll_lookup_congr _ _ _ _ (storeElement_other (mt String.toList_inj.mp (Ne.symm h)))

/-- **`v[k]` on the children of an element**: `KeyError` when no child is named `k`; else what `_store_element`
    leaves of the values of the children named `k` — the value itself for one, the list of all for several -/
@[glue_reads] theorem getItem_children (pre : List Char) (cs : List XTree) (k : String) :
    XVal.getItem (.dict (storeXL pre [] cs)) k =
      if (cs.filter (isNamed k)).map (fun c => valT (toP pre c)) = [] then err .key
      else .ok (repeated ((cs.filter (isNamed k)).map fun c => valT (toP pre c))) := by
  have h := (storeElement_repetition [] k.toList rfl _ (valT_map_not_list pre (cs.filter (isNamed k)))).1
  rw [← lookup_storeXL] at h
  rw [XVal.getItem, h]
  by_cases e : (cs.filter (isNamed k)).map (fun c => valT (toP pre c)) = []
  · rw [if_pos e, if_pos e]
  · rw [if_neg e, if_neg e]; rfl

/-- the glue's loop over the occurrences of a repeated element, each read back -/
theorem mapM_children {α β} (pre : List Char) (f : α → XTree) (g : XVal → Res β) (r : α → β) (l : List α)
    (h : ∀ x ∈ l, g (valT (toP pre (f x))) = .ok (r x)) :
    ((l.map f).map fun c => valT (toP pre c)).mapM g = .ok (l.map r) := by
  rw [List.map_map]; exact mapM_map_ok _ g r l h

@[glue_reads] theorem repeated_one (v : XVal) : repeated [v] = v := rfl

/-! `isNamed` on each shape of element (`policyTree` has its name in a variable) -/
@[glue_reads] theorem isNamed_node (k n : String) (a : List (String × String)) (cs : List XTree) :
    isNamed k (.node n a cs) = (n == k) := rfl
@[glue_reads] theorem isNamed_leaf (k n : String) (a : List (String × String)) (t : String) :
    isNamed k (.leaf n a t) = (n == k) := rfl
@[glue_reads] theorem isNamed_empty (k n : String) (a : List (String × String)) : isNamed k (.empty n a) = (n == k) := rfl
@[glue_reads] theorem isNamed_policyTree (k n : String) (p : SigPolicy) : isNamed k (policyTree n p) = (n == k) := rfl

/-! #### attributes -/

theorem foldl_dictSet_fresh : ∀ (l acc : Attrs), (l.map (·.1)).Nodup → (∀ p ∈ l, ∀ q ∈ acc, q.1 ≠ p.1) →
    l.foldl (fun acc p => dictSet acc p.1 p.2) acc = acc ++ l
  | [], acc, _, _ => by simp
  | p :: l, acc, hnd, hd => by
    rw [List.map_cons, List.nodup_cons] at hnd
    have hfresh : acc.any (fun q => q.1 = p.1) = false := by
      simpa using fun q hq => hd p (by simp) q hq
    rw [List.foldl_cons, dictSet, hfresh, foldl_dictSet_fresh l _ hnd.2]
    · simp
    · intro p' hp' q hq
      rcases List.mem_append.mp hq with hq | hq
      · exact hd p' (by simp [hp']) q hq
      · simp only [List.mem_singleton] at hq; subst hq
        exact fun e => hnd.1 (List.mem_map.mpr ⟨p', hp', e.symm⟩)

/-- the `attrs` dict of an element whose attribute names are distinct -/
def attrsVal (a : List (String × String)) : XVal := .dict (a.map fun p => (p.1.toList, sv p.2))

theorem elementValue_attrs (a : List (String × String)) (hne : a ≠ []) (hnd : (a.map (·.1)).Nodup) (v : XVal) :
    elementValue (attrsOpt (attrsP a)) v = .dict [(kAttrs, attrsVal a), (kValue, v)] := by
  have h1 : (attrsP a).isEmpty = false := by cases a <;> simp_all [attrsP]
  have h2 : ((attrsP a).map (·.1)).Nodup := by
    have : ((a.map (·.1)).map String.toList).Nodup :=
      List.Pairwise.map String.toList (fun _ _ h => mt String.toList_inj.mp h) hnd
    simpa [attrsP, List.map_map, Function.comp_def] using this
  rw [attrsOpt, h1, attrsDict, foldl_dictSet_fresh _ [] h2 (fun _ _ _ hq => nomatch hq)]
  simp [elementValue, attrsVal, attrsP, sv]

theorem lookup_attrsVal (a : List (String × String)) (k : String) :
    (a.map fun p => (p.1.toList, sv p.2)).lookup k.toList = (a.lookup k).map sv := by
  induction a with
  | nil => rfl
  | cons p a ih =>
    by_cases h : k = p.1
    · subst h; simp [List.lookup]
    · have : (k.toList == p.1.toList) = false := beq_eq_false_iff_ne.mpr (mt String.toList_inj.mp h)
      simp only [List.map_cons, List.lookup, this, beq_eq_false_iff_ne.mpr h, ih]

/-- **`v[k]` on the attributes of an element** -/
@[glue_reads] theorem getItem_attr (a : List (String × String)) (k : String) :
    (attrsVal a).getItem k = match a.lookup k with | some v => .ok (sv v) | none => err .key := by
  rw [attrsVal, XVal.getItem, lookup_attrsVal]; cases a.lookup k <;> rfl

@[glue_reads] theorem get?_attr (a : List (String × String)) (k : String) :
    (attrsVal a).get? k = .ok ((a.lookup k).map sv) := by
  simp only [attrsVal, XVal.get?, lookup_attrsVal]; rfl

theorem contains_attr (a : List (String × String)) (k : String) :
    (attrsVal a).contains k = a.any (fun p => p.1 = k) := by
  simp only [attrsVal, XVal.contains, List.any_map, Function.comp_def, String.toList_inj]

attribute [glue_reads] List.lookup List.filter_cons_of_pos List.filter_cons_of_neg List.filter_nil List.map
  beq_self_eq_true Bool.false_eq_true not_false_eq_true Option.map List.cons_ne_nil Res.ok_bind
attribute [glue_reads_proc] String.reduceBEq
attribute [glue_reads_proc ↓] reduceIte

/-! ### what each field codec returns on a printed value -/

theorem storeElement_nil (name : List Char) (v : XVal) : storeElement [] name v = [(name, v)] := rfl

/-- the number is a member of the `AlgorithmDNSSEC` enum (regenerated table) -/
def algMember (n : Nat) : Bool := KskmGen.algorithmDNSSEC.any (fun p => p.2 = n)

theorem intOf_int (i : Int) (h0 : 0 ≤ i) (hp : printable i = true) : intOf (sv (str (pyIntStr i))) = .ok i := by
  rw [sv_str]; simp only [intOf, pyInt_pyIntStr i h0 hp, Res.ok_bind]; rfl

theorem intOf_nat (n : Nat) (hp : printable (n : Int) = true) : intOf (sv (str (natStr n))) = .ok (n : Int) := by
  rw [sv_str]; simp only [intOf, natStr, pyInt_toDigits n (by simpa [printable] using hp), Res.ok_bind]; rfl

theorem algorithmOf_nat (n : Nat) (hp : printable (n : Int) = true) (hm : algMember n = true) :
    algorithmOf (sv (str (natStr n))) = .ok n := by
  unfold algMember at hm
  simp only [algorithmOf, intOf_nat n hp, Res.ok_bind, Int.natCast_nonneg, Int.toNat_natCast, hm, and_self, ↓reduceIte]; rfl

theorem strictStr_sv (s : String) : strictStr (sv s) = .ok s := by
  simp [strictStr, sv, pure, Except.pure]

theorem bytesOf_sv (s : String) : bytesOf (sv s) = .ok s := by
  simp [bytesOf, sv, pure, Except.pure]

theorem datetimeOf_format (t : Int) (h : instantOk t = true) : datetimeOf (sv (formatDatetime t)) = .ok t := by
  have := datetimeOfStr_format t h
  simpa [datetimeOf, sv, datetimeOfStr] using this

theorem formatDurationChars_ne_nil (d : Int) : formatDurationChars d ≠ [] := by
  unfold formatDurationChars
  split
  · decide
  · simp only
    split <;> simp

theorem durationOf_format (d : Int) (h : durationOk d = true) : durationOf (sv (formatDuration d)) = .ok d := by
  have h1 := durationOfStr_format d h
  have h2 := formatDurationChars_ne_nil d
  simp only [durationOfStr] at h1
  simp [durationOf, sv, XVal.truthy, formatDuration, h2] at h1 ⊢
  exact h1

theorem typeCoveredOf_dnskey : typeCoveredOf (sv "DNSKEY") = .ok 48 := by decide

/-! ### the elements without repeated children -/

theorem algMember_rsa (n : Nat) (h : n = 5 ∨ n = 8 ∨ n = 10) : algMember n = true ∧ isAlgorithmRsa n = true := by
  rcases h with rfl | rfl | rfl <;> decide

theorem algPolicyOf_algTree (pre : List Char) (a : AlgPolicy) (h : algOk a = true) :
    algPolicyOf (valT (toP pre (algTree a))) = .ok a := by
  have ap := algOk_parts a h
  obtain ⟨e, he⟩ := Option.isSome_iff_exists.mp ap.exp
  obtain ⟨hm, hr⟩ := algMember_rsa a.algorithm ap.alg
  have hk := ap.kind
  -- first the algorithm number, which selects the RSA branch; then that branch alone
  rw [algTree, val_node, elementValue_attrs _ (by simp) (by simp), algPolicyOf]
  simp only [glue_reads, algorithmOf_nat _ ap.palg hm, hr]
  rw [val_empty, elementValue_attrs _ (by simp) (by simp)]
  simp only [glue_reads, intOf_int _ ap.bits0 ap.pbits, intOf_int _ ap.exp0 ap.pexp]
  cases a
  simp only at hk he
  subst hk he
  rfl

/-- what pydantic guarantees of every `Key` object, and re-checks when the reader builds it anew -/
def keyConstructible (k : Key) : Bool := decide (k.validate = .ok ()) && algMember k.algorithm

theorem keyOf_keyTree (pre : List Char) (k : Key) (h : keyOk k = true) (hc : keyConstructible k = true) :
    keyOf (valT (toP pre (keyTree k))) = .ok k := by
  simp only [keyConstructible, Bool.and_eq_true, decide_eq_true_eq] at hc
  have kp := keyOk_parts k h
  rw [keyTree, val_node, elementValue_attrs _ (by simp) (by simp), keyOf]
  simp only [glue_reads, intOf_int _ kp.tag0 kp.ptag, intOf_int _ kp.ttl kp.pttl, intOf_int _ kp.flags0 kp.pflags,
    intOf_int _ kp.protocol0 kp.pprotocol, algorithmOf_nat _ kp.palg hc.2, strictStr_sv, bytesOf_sv, hc.1]
  rfl

theorem signatureOf_sigTree (pre : List Char) (s : Signature) (h : sigOk s = true) (hm : algMember s.algorithm = true) :
    signatureOf (valT (toP pre (sigTree s))) = .ok s := by
  have sp := sigOk_parts s h
  rw [sigTree, val_node, elementValue_attrs _ (by simp) (by simp), signatureOf]
  simp only [glue_reads, intOf_int _ sp.tag0 sp.ptag, intOf_int _ sp.ttl sp.pttl, intOf_int _ sp.labels0 sp.plabels,
    intOf_int _ sp.ottl sp.pottl, algorithmOf_nat _ sp.palg hm, strictStr_sv, bytesOf_sv, datetimeOf_format _ sp.exp,
    datetimeOf_format _ sp.inc, typeCoveredOf_dnskey]
  have := sp.tc
  cases s
  subst this
  rfl

/-! ### the value of an algorithm element, written out -/

def algVal (a : AlgPolicy) : XVal :=
  .dict [(kAttrs, .dict [("algorithm".toList, .str (natStr a.algorithm))]),
    (kValue, .dict [("RSA".toList, .dict [(kAttrs, .dict [("size".toList, .str (pyIntStr a.bits)),
      ("exponent".toList, .str (pyIntStr (a.exponent.getD 0)))]), (kValue, .str [])])])]

theorem val_algTree (pre : List Char) (a : AlgPolicy) : valT (toP pre (algTree a)) = algVal a := by
  rw [algTree, val_node, elementValue_attrs _ (by simp) (by simp), storeXL_cons, storeXL_nil, storeElement_nil, val_empty,
    elementValue_attrs _ (by simp) (by simp)]
  simp only [attrsVal, List.map, sv_str, XTree.name, algVal]

end Kskm.ReadBack
