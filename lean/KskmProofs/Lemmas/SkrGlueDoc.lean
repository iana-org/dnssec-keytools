/-
  The glue on the standard reading of the writer's tree, continued: policy blocks, bundles, the document.

      signaturePolicyOf (value of policyTree p)  = p with the algorithm set de-duplicated
      responseBundleOf  (value of bundleTree b)  = readBackBundle b
      responseFromDict  (dict of treeOf r)       = readBackWith gs r

  `readBackWith gs r` is what the repository's reader really makes of a response: `timestamp` absent,
  set-valued fields (keys, signatures, algorithms) as sets — duplicate-free lists here —, keys in the
  writer's key-tag order, bundles sorted by (expiration, inception, id) when the glue sorts them.
  Proved for EITHER value of the two glue switches tabulated from the code: with
  `wrapsSingleResponseBundle = false` (the pinned tree, finding F12) the statement needs two bundles.
  `constructible r`: the pydantic invariants of every key and signature object, as a Boolean.
-/
import KskmProofs.Lemmas.SkrGlue
namespace Kskm.ReadBack
open Kskm Kskm.Xml Kskm.C12

theorem isList_algVal (a : AlgPolicy) : (algVal a).isList = false := rfl

theorem name_policyTree (name : String) (p : SigPolicy) : (policyTree name p).name = name := rfl
theorem name_node (n : String) (a : List (String × String)) (cs : List XTree) : (XTree.node n a cs).name = n := rfl

theorem signaturePolicyOf_policyTree (pre : List Char) (name : String) (p : SigPolicy) (h : policyOk p = true) :
    signaturePolicyOf (valT (toP pre (policyTree name p))) = .ok { p with algorithms := dedup p.algorithms } := by
  have hp := policyOk_parts p h
  have halgs : signatureAlgorithmsOf (repeated ((p.algorithms.map algTree).map fun c => valT (toP (pre ++ sp4) c)))
      = .ok (dedup p.algorithms) := by
    rw [C12_glue_algorithms _ (by simpa using hp.algsNe) (valT_map_not_list _ _),
      mapM_children _ algTree algPolicyOf id _ (fun a ha => algPolicyOf_algTree _ a (hp.algs a ha)), List.map_id]
    rfl
  rw [policyTree, List.cons_append, val_node_plain, signaturePolicyOf]
  simp only [List.cons_append, List.nil_append]
  simp only [glue_reads, filter_other_map algTree "SignatureAlgorithm" _ (fun _ => rfl),
    filter_named_map algTree "SignatureAlgorithm" (fun _ => rfl), ne_eq, String.reduceEq, List.map_eq_nil_iff, hp.algsNe,
    durationOf_format _ hp.d1, durationOf_format _ hp.d2, durationOf_format _ hp.d3, durationOf_format _ hp.d4,
    durationOf_format _ hp.d5, durationOf_format _ hp.d6, halgs]
  rfl

/-- the reader's view of a bundle: keys in the writer's key-tag order; keys and signatures are sets -/
def readBackBundle (b : Bundle) : Bundle :=
  { b with keys := dedup (sortKeys b.keys), signatures := dedup b.signatures, signers := none }

def bundleConstructible (b : Bundle) : Bool :=
  b.keys.all keyConstructible && b.signatures.all (fun s => algMember s.algorithm)

theorem responseBundleOf_bundleTree (pre : List Char) (b : Bundle) (h : bundleOk b = true)
    (hc : bundleConstructible b = true) : responseBundleOf (valT (toP pre (bundleTree b))) = .ok (readBackBundle b) := by
  have bp := bundleOk_parts b h
  simp only [bundleConstructible, Bool.and_eq_true, List.all_eq_true] at hc
  have hkne := sortKeys_ne_nil bp.keysNe
  have hkeys : keysOf (repeated (((sortKeys b.keys).map keyTree).map fun c => valT (toP (pre ++ sp4) c)))
      = .ok (dedup (sortKeys b.keys)) := by
    rw [C12_glue_keys _ (by simpa using hkne) (valT_map_not_list _ _), mapM_children _ keyTree keyOf id _
      (fun k hk' => keyOf_keyTree _ k (bp.keys k (mem_sortKeys.mp hk')) (hc.1 k (mem_sortKeys.mp hk'))), List.map_id]
    rfl
  have hsigs : signaturesOf (repeated ((b.signatures.map sigTree).map fun c => valT (toP (pre ++ sp4) c)))
      = .ok (dedup b.signatures) := by
    rw [C12_glue_signatures _ (by simpa using bp.sigsNe) (valT_map_not_list _ _), mapM_children _ sigTree signatureOf id _
      (fun s hs' => signatureOf_sigTree _ s (bp.sigs s hs') (hc.2 s hs')), List.map_id]
    rfl
  rw [bundleTree, List.cons_append, List.cons_append, val_node, elementValue_attrs _ (by simp) (by simp), responseBundleOf]
  simp only [List.cons_append, List.nil_append]
  simp only [glue_reads, List.filter_append, filter_other_map keyTree "Key" _ (fun _ => rfl),
    filter_named_map keyTree "Key" (fun _ => rfl), filter_other_map sigTree "Signature" _ (fun _ => rfl),
    filter_named_map sigTree "Signature" (fun _ => rfl), ne_eq, String.reduceEq, List.append_nil, List.nil_append,
    List.map_eq_nil_iff, hkne, bp.sigsNe, datetimeOf_format _ bp.inc, datetimeOf_format _ bp.exp, hkeys, hsigs, strictStr_sv]
  rfl

def readBackPolicy (p : SigPolicy) : SigPolicy := { p with algorithms := dedup p.algorithms }

/-- what the repository's reader makes of a response (per glue switch): set-valued fields
    de-duplicated, keys in key-tag order, bundles sorted by (expiration, inception, id) -/
def readBackWith (gs : GlueSwitches) (r : Response) : Response :=
  { r with
    timestamp := none
    zskPolicy := readBackPolicy r.zskPolicy
    kskPolicy := readBackPolicy r.kskPolicy
    bundles := if gs.sortsResponseBundles then sortByKey (r.bundles.map readBackBundle) else r.bundles.map readBackBundle }

def constructible (r : Response) : Bool := r.bundles.all bundleConstructible

/-- **the glue on the reader's dict of the writer's text**, read off `treeOf r` -/
theorem responseFromDict_treeOf (gs : GlueSwitches) (r : Response) (h : WriterDomain r) (hc : constructible r = true)
    (hsw : gs.wrapsSingleResponseBundle = true ∨ 2 ≤ r.bundles.length) :
    responseFromDict gs (.dict (dictOf (toP [] (treeOf r)))) = .ok (readBackWith gs r) := by
  have hp := domain_parts r h
  simp only [constructible, List.all_eq_true] at hc
  generalize hpre : ([] ++ sp4 ++ sp4 : List Char) = pre
  have hbne : (r.bundles.map bundleTree).map (fun c => valT (toP pre c)) ≠ [] := by simpa using hp.bundlesNe
  have hbnl := valT_map_not_list pre (r.bundles.map bundleTree)
  have hbundles : responseBundlesOf gs (repeated ((r.bundles.map bundleTree).map fun c => valT (toP pre c)))
      = .ok (readBackWith gs r).bundles := by
    unfold responseBundlesOf
    have hl : (if gs.wrapsSingleResponseBundle then (repeated ((r.bundles.map bundleTree).map fun c => valT (toP pre c))).asList
        else (repeated ((r.bundles.map bundleTree).map fun c => valT (toP pre c))).iter)
          = (r.bundles.map bundleTree).map fun c => valT (toP pre c) := by
      rcases hsw with hw | hlen
      · rw [if_pos hw, asList_repeated _ hbne hbnl]
      · split
        · exact asList_repeated _ hbne hbnl
        · match hbs : r.bundles, hlen with
          | b1 :: b2 :: rest, _ => simp [repeated, XVal.iter]
    rw [hl, mapM_children _ bundleTree responseBundleOf readBackBundle _
      (fun b hb' => responseBundleOf_bundleTree _ b (hp.bundles b hb') (hc b hb'))]
    rfl
  rw [treeOf, dictOf, name_toP, name_node, val_node, elementValue_attrs _ (by simp) (by simp), responseFromDict]
  simp only [glue_reads, hpre, filter_other_map bundleTree "ResponseBundle" _ (fun _ => rfl),
    filter_named_map bundleTree "ResponseBundle" (fun _ => rfl), ne_eq, String.reduceEq, List.map_eq_nil_iff,
    hp.bundlesNe, hbundles, signaturePolicyOf_policyTree _ _ _ hp.ksk, signaturePolicyOf_policyTree _ _ _ hp.zsk, timestampOf,
    contains_attr, List.any, String.reduceEq, decide_false, Bool.or_self, intOf_int _ hp.serial hp.pserial, strictStr_sv]
  rfl

/-- **F12 seen from the writer's side.**  With the pinned glue (`wrapsSingleResponseBundle = false`) the
    dict of an emitted SKR with exactly ONE bundle makes `response_from_xml` raise TypeError — whatever
    the bundle contains.  (The switch is tabulated from the code.) -/
theorem responseFromDict_treeOf_pinned (gs : GlueSwitches) (hgs : gs.wrapsSingleResponseBundle = false)
    (r : Response) (b : Bundle) (hb : r.bundles = [b]) :
    responseFromDict gs (.dict (dictOf (toP [] (treeOf r)))) = err .type := by
  have hbad : ∀ pre, responseBundlesOf gs (valT (toP pre (bundleTree b))) = err .type := fun pre => by
    rw [bundleTree, List.cons_append, List.cons_append, val_node, elementValue_attrs _ (by simp) (by simp)]
    exact C12_glue_response_bundles_counterexample gs hgs _ _
  have hn : ∀ k, isNamed k (bundleTree b) = ("ResponseBundle" == k) := fun _ => rfl
  rw [treeOf, hb, dictOf, name_toP, name_node, val_node, elementValue_attrs _ (by simp) (by simp), responseFromDict]
  simp only [glue_reads, hn, hbad]
  rfl

end Kskm.ReadBack
