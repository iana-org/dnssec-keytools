/-
  "Ink": text made of visible, markup-free characters only — no white space (`str.isspace()`), no
  `"`, `<`, `>`, `&`, no control character.  Such a text is carried verbatim by an XML document, is
  left alone by `str.strip()`, and cannot be mistaken for a tag.

  Everything the signer ITSELF prints into an SKR is ink, for every value whatsoever (no domain
  hypothesis): decimal integers (`str(int)`), timestamps (`format_datetime`), durations
  (`timedelta_to_duration`), canonical base64 (`base64.b64encode`, and every text `Base64.decode`
  accepts).  What remains — the identifiers and the domain name the signer copies from the KSR and from
  its configuration — is the hypothesis `TextSafe` of KskmProofs/Lemmas/C11Render.lean.
-/
import KskmProofs.Lemmas.PrintedChars
import KskmProofs.Lemmas.Base64
namespace Kskm.ReadBack
open Kskm

/-- a visible plain character -/
def inkChar (c : Char) : Bool := plainChar c && !pyIsSpace c

def Ink (l : List Char) : Prop := ∀ c ∈ l, inkChar c = true

theorem Ink.nil : Ink [] := List.forall_mem_nil _

theorem Ink.cons {c : Char} {l : List Char} (hc : inkChar c = true) (hl : Ink l) : Ink (c :: l) :=
  List.forall_mem_cons.mpr ⟨hc, hl⟩

theorem Ink.append {a b : List Char} (ha : Ink a) (hb : Ink b) : Ink (a ++ b) :=
  List.forall_mem_append.mpr ⟨ha, hb⟩

theorem _root_.Kskm.Printed.ink {l : List Char} (h : Printed l) : Ink l := h.all (by decide)

theorem ink_natStr (n : Nat) : Ink (natStr n) := (printed_natStr n).ink

/-- `str(i)` for EVERY integer (the sign included) -/
theorem ink_pyIntStr (i : Int) : Ink (pyIntStr i) := (printed_pyIntStr i).ink

theorem ink_formatDuration (d : Int) : Ink (formatDuration d).toList := by
  simpa [formatDuration] using (printed_formatDurationChars d).ink

theorem ink_formatDatetime (t : Int) : Ink (formatDatetime t).toList := by
  simpa [formatDatetime] using (printed_formatDatetimeChars t).ink

theorem ink_str (cs : List Char) (h : Ink cs) : Ink (str cs).toList := by
  simpa [str] using h

theorem ink_plain {l : List Char} (h : Ink l) : l.all plainChar = true := by
  rw [List.all_eq_true]
  intro c hc
  have := h c hc
  simp only [inkChar, Bool.and_eq_true] at this
  exact this.1

theorem ink_no_space {l : List Char} (h : Ink l) : ∀ c ∈ l, pyIsSpace c = false := by
  intro c hc
  have := h c hc
  simp only [inkChar, Bool.and_eq_true, Bool.not_eq_true'] at this
  exact this.2

theorem elemTextOk_of_ink (s : String) (h : Ink s.toList) : elemTextOk s = true := by
  have hs := ink_no_space h
  simp only [elemTextOk, Bool.and_eq_true, Bool.not_eq_true', ink_plain h, true_and]
  constructor
  · cases hh : s.toList.head? with
    | none => rfl
    | some c => simpa using hs c (List.mem_of_mem_head? hh)
  · cases hh : s.toList.getLast? with
    | none => rfl
    | some c => simpa using hs c (List.mem_of_mem_getLast? hh)

theorem attrTextOk_of_ink (s : String) (h : Ink s.toList) (hne : s.toList ≠ []) : attrTextOk s = true := by
  simp only [attrTextOk, Bool.and_eq_true, Bool.not_eq_true', List.isEmpty_eq_false_iff]
  exact ⟨hne, ink_plain h⟩

/-! ### base64 -/

theorem ink_of_decChar (c : Char) (n : Nat) (h : Base64.decChar c = some n) : inkChar c = true := by
  have hv := c.valid
  have e : c = Char.ofNat c.toNat := (Char.ofNat_toNat c).symm
  unfold Base64.decChar at h
  simp only at h
  have hr : (65 ≤ c.toNat ∧ c.toNat ≤ 90) ∨ (97 ≤ c.toNat ∧ c.toNat ≤ 122) ∨ (48 ≤ c.toNat ∧ c.toNat ≤ 57)
      ∨ c.toNat = 43 ∨ c.toNat = 47 := by
    repeat' split at h
    all_goals first | omega | (exfalso; simp at h; done) | skip
    all_goals omega
  have hlt : c.toNat < 123 := by omega
  have hall : ∀ k : Nat, k < 123 →
      ((65 ≤ k ∧ k ≤ 90) ∨ (97 ≤ k ∧ k ≤ 122) ∨ (48 ≤ k ∧ k ≤ 57) ∨ k = 43 ∨ k = 47) →
      inkChar (Char.ofNat k) = true := by decide +kernel
  rw [e]
  exact hall _ hlt hr

/-- every text the canonical decoder accepts is ink -/
theorem ink_of_decodeChars : ∀ (s : List Char) (b : Bytes), Base64.decodeChars s = some b → Ink s := by
  intro s
  induction s using Base64.decodeChars.induct with
  | case1 => intro _ _; exact Ink.nil
  | case2 a b =>
    intro out h
    simp only [Base64.decodeChars, bind, Option.bind] at h
    cases ha : Base64.decChar a with
    | none => simp [ha] at h
    | some x =>
      cases hb : Base64.decChar b with
      | none => simp [ha, hb] at h
      | some y =>
        exact Ink.cons (ink_of_decChar a x ha) (Ink.cons (ink_of_decChar b y hb)
          (Ink.cons (by decide) (Ink.cons (by decide) Ink.nil)))
  | case3 a b c hne =>
    intro out h
    rw [Base64.decodeChars] at h
    · simp only [bind, Option.bind] at h
      cases ha : Base64.decChar a with
      | none => simp [ha] at h
      | some x =>
        cases hb : Base64.decChar b with
        | none => simp [ha, hb] at h
        | some y =>
          cases hc : Base64.decChar c with
          | none => simp [ha, hb, hc] at h
          | some z =>
            exact Ink.cons (ink_of_decChar a x ha) (Ink.cons (ink_of_decChar b y hb)
              (Ink.cons (ink_of_decChar c z hc) (Ink.cons (by decide) Ink.nil)))
    · exact hne
  | case4 a b c d r h1 h2 ih =>
    intro out h
    rw [Base64.decodeChars] at h
    · simp only [bind, Option.bind] at h
      cases ha : Base64.decChar a with
      | none => simp [ha] at h
      | some x =>
        cases hb : Base64.decChar b with
        | none => simp [ha, hb] at h
        | some y =>
          cases hc : Base64.decChar c with
          | none => simp [ha, hb, hc] at h
          | some z =>
            cases hd : Base64.decChar d with
            | none => simp [ha, hb, hc, hd] at h
            | some w =>
              cases hr : Base64.decodeChars r with
              | none => simp [ha, hb, hc, hd, hr] at h
              | some t =>
                exact Ink.cons (ink_of_decChar a x ha) (Ink.cons (ink_of_decChar b y hb)
                  (Ink.cons (ink_of_decChar c z hc) (Ink.cons (ink_of_decChar d w hd) (ih t hr))))
    · exact h1
    · exact h2
  | case5 s h1 h2 h3 h4 =>
    intro out h
    rw [Base64.decodeChars] at h
    · cases h
    all_goals assumption

/-- canonical base64 text (`xsd:base64Binary` as the signer writes it) is ink -/
theorem ink_of_base64 (s : String) (h : (Base64.decode s).isSome = true) : Ink s.toList := by
  obtain ⟨b, hb⟩ := Option.isSome_iff_exists.mp h
  exact ink_of_decodeChars s.toList b hb

/-- what `base64.b64encode` produces is ink, whatever the octets -/
theorem ink_encode (b : Bytes) : Ink (Base64.encode b).toList :=
  ink_of_base64 _ (by rw [Base64.decode_encode]; rfl)

end Kskm.ReadBack
