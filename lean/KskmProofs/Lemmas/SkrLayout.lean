/-
  The writer's text as a PlainXml rendering (composition of C11 with C12: the layout).

  `Kskm.SkrXml.renderDoc t` lays an element tree out the way `skr_to_xml` does: XML declaration, one line
  per tag / leaf element, four blanks per nesting level, explicit end tags, `<n a="v"/>` for an empty
  element, one blank before each attribute, a final newline.  `toP pre t` is the SAME tree in the
  vocabulary of C12's specification (`PTree`, lean/KskmProofs/Lemmas/XmlRender.lean), carrying exactly
  that layout: no gap inside start tags, `"\n" ++ indentation` before every child and before the end tag
  of a node.  `renderDoc_eq_renderT`: the two texts are equal, character for character:

      renderDoc t = xmlDecl ++ "\n" ++ renderT (toP [] t) ++ "\n"
-/
import Kskm.SkrXml
import KskmProofs.Lemmas.XmlRender
namespace Kskm.ReadBack
open Kskm Kskm.Xml

def attrsP (a : List (String × String)) : Attrs := a.map (fun p => (p.1.toList, p.2.toList))

mutual
/-- the element `t`, written at indentation `pre`, as a `PTree` with the writer's layout.  (A node
    without children — `treeOf` never produces one — is written `<n>\n</n>` by `renderLines`; as a
    `PTree` that is a leaf whose text is the line break, and it is not plain.) -/
def toP (pre : List Char) : XTree → PTree
  | .leaf n a t => .leaf n.toList (attrsP a) [] t.toList
  | .empty n a => .empty n.toList (attrsP a) []
  | .node n a [] => .leaf n.toList (attrsP a) [] ('\n' :: pre)
  | .node n a (c :: cs) =>
    .node n.toList (attrsP a) [] ('\n' :: (pre ++ sp4)) (toP (pre ++ sp4) c) (toPF (pre ++ sp4) cs) ('\n' :: pre)
/-- further siblings at indentation `pre`: each on its own line -/
def toPF (pre : List Char) : List XTree → PForest
  | [] => .nil
  | t :: ts => .cons ('\n' :: pre) (toP pre t) (toPF pre ts)
end

/-- every line preceded by a line break -/
def nlCat : List (List Char) → List Char
  | [] => []
  | l :: ls => '\n' :: (l ++ nlCat ls)

theorem joinNl_cons (l : List Char) (ls : List (List Char)) : joinNl (l :: ls) = l ++ nlCat ls := by
  induction ls generalizing l with
  | nil => simp [joinNl, nlCat]
  | cons l' t ih => simp [joinNl, nlCat, ih l']

theorem nlCat_append (a b : List (List Char)) : nlCat (a ++ b) = nlCat a ++ nlCat b := by
  induction a with
  | nil => rfl
  | cons l t ih => simp [nlCat, ih]

theorem attrsText_attrsP (a : List (String × String)) : attrsText (attrsP a) = renderAttrs a := by
  induction a with
  | nil => rfl
  | cons p t ih =>
    obtain ⟨n, v⟩ := p
    have ih' : attrsText (List.map (fun p => (p.1.toList, p.2.toList)) t) = renderAttrs t := ih
    simp [attrsP, attrsText, attrText, renderAttrs, ih']

theorem startTag_eq_openTag (n : String) (a : List (String × String)) :
    startTag n.toList (attrsP a) [] = openTag n a := by
  simp [startTag, startBody, openTag, attrsText_attrsP]

theorem selfTag_eq_emptyTag (n : String) (a : List (String × String)) :
    selfTag n.toList (attrsP a) [] = emptyTag n a := by
  simp [selfTag, selfBody, emptyTag, attrsText_attrsP]

theorem endTag_eq_closeTag (n : String) : endTag n.toList = closeTag n := by
  simp [endTag, closeTag]

theorem map_map_ind (pre : List Char) (ls : List (List Char)) :
    (ls.map ind).map (fun l => pre ++ l) = ls.map (fun l => (pre ++ sp4) ++ l) := by
  simp [ind, List.append_assoc]

mutual
/-- the lines of an element, each behind the indentation `pre` and a line break, are the layout text -/
theorem nlCat_renderLines : ∀ (t : XTree) (pre : List Char),
    nlCat ((renderLines t).map (fun l => pre ++ l)) = '\n' :: (pre ++ renderT (toP pre t))
  | .leaf n a t, pre => by
    simp [renderLines, nlCat, toP, renderT, startTag_eq_openTag, endTag_eq_closeTag]
  | .empty n a, pre => by
    simp [renderLines, nlCat, toP, renderT, selfTag_eq_emptyTag]
  | .node n a [], pre => by
    simp [renderLines, renderLinesList, nlCat, toP, renderT, startTag_eq_openTag, endTag_eq_closeTag]
  | .node n a (c :: cs), pre => by
    have h := nlCat_renderLinesList (c :: cs) (pre ++ sp4)
    rw [toPF, renderF] at h
    simp only [renderLines, List.map_cons, List.map_append, nlCat, nlCat_append, map_map_ind, List.map_nil]
    rw [h]
    simp [toP, renderT, startTag_eq_openTag, endTag_eq_closeTag]
theorem nlCat_renderLinesList : ∀ (ts : List XTree) (pre : List Char),
    nlCat ((renderLinesList ts).map (fun l => pre ++ l)) = renderF (toPF pre ts)
  | [], pre => by simp [renderLinesList, nlCat, toPF, renderF]
  | t :: ts, pre => by
    simp only [renderLinesList, List.map_append, nlCat_append, nlCat_renderLines t pre, nlCat_renderLinesList ts pre,
      toPF, renderF, List.cons_append, List.append_assoc]
end

/-- **The writer's text is a PlainXml rendering**: the XML declaration and a line break, the root element
    in the writer's layout, a final line break. -/
theorem renderDoc_eq_renderT (t : XTree) :
    renderDoc t = (xmlDecl ++ ['\n']) ++ renderT (toP [] t) ++ ['\n'] := by
  have h := nlCat_renderLines t []
  simp only [List.nil_append, List.map_id'] at h
  simp only [renderDoc, joinNl_cons, nlCat_append, h, nlCat, List.append_nil, List.append_assoc, List.cons_append,
    List.nil_append]

end Kskm.ReadBack
