/-
  The tree the writer renders is PlainXml (composition of C11 with C12: plainness).

  `PlainX` states plainness in the writer's vocabulary (`XTree`); `plainT_toP` carries it over to the
  layout tree `toP pre t` of KskmProofs/Lemmas/SkrLayout.lean under the character classes of the running
  Python (`pyClasses`, regenerated tables); `treeOf_plain` (Lemmas/SkrTree.lean) shows that on the writer's domain the tree
  `treeOf r` is plain and at most five levels deep — the domain of `C12_reader_ksr`.

  What is needed of the response's strings is exactly `TextSafe`:
    * attribute values copied from the KSR / the configuration (`KSR@id`, `KSR@domain`,
      `ResponseBundle@id`, `Key@keyIdentifier`, `Signature@keyIdentifier`): not empty, no `"` `<` `>` `&`,
      no control character (in particular no line break);
    * element text copied from the configuration (`SignersName`) or produced by the base64 encoder
      (`PublicKey`, `SignatureData`): no markup character and `strip()`-stable.
  Everything else in the file is printed by the writer's own codecs and is ink
  (KskmProofs/Lemmas/SkrInk.lean) for every value.  `WriterDomain` contains `TextSafe`
  (`textSafe_of_domain`); canonical base64 needs no hypothesis at all (`textSafe_of_ids`).
-/
import KskmProofs.Lemmas.C11Render
import KskmProofs.Lemmas.SkrLayout
import KskmProofs.Lemmas.XmlStrings
namespace Kskm.ReadBack
open Kskm Kskm.Xml

/-! ### `str.strip()` of the running Python is `str.isspace()` as the writer model has it -/

theorem pyStrip_eq (c : Char) : pyClasses.isStrip c = pyIsSpace c := by
  -- the table's ranges are `pyIsSpace`'s disjuncts, one by one: a one-point range is an equation, 8232–8233 two
  have one : ∀ a n : Nat, (decide (a ≤ n) && decide (n ≤ a)) = decide (n = a) := fun a n => by
    rw [Bool.eq_iff_iff]; simp only [Bool.and_eq_true, decide_eq_true_eq]; omega
  have two : ∀ n : Nat, (decide (8232 ≤ n) && decide (n ≤ 8233)) = (decide (n = 8232) || decide (n = 8233)) :=
    fun n => by rw [Bool.eq_iff_iff]; simp only [Bool.and_eq_true, Bool.or_eq_true, decide_eq_true_eq]; omega
  simp only [pyClasses, inRanges, KskmGen.stripRanges, List.any, pyIsSpace, one, two, Bool.or_false, Bool.or_assoc]

theorem strip_eq_self (p : Char → Bool) (s : List Char) (hh : ∀ c, s.head? = some c → p c = false)
    (hl : ∀ c, s.getLast? = some c → p c = false) : Xml.strip p s = s := by
  cases s with
  | nil => simp [Xml.strip, Xml.lstrip, Xml.rstrip]
  | cons c t =>
    obtain ⟨d, hd⟩ : ∃ d, (c :: t).getLast? = some d :=
      ⟨(c :: t).getLast (by simp), List.getLast?_eq_some_getLast (by simp)⟩
    have he : EndsWith d (c :: t) := List.getLast?_eq_some_iff.mp hd
    exact strip_self p c d t (hh c rfl) (hl d hd) he

/-- an attribute value the reader returns unchanged (the value part of `PlainAttr`) -/
def PlainVal (v : String) : Prop := v.toList ≠ [] ∧ ∀ c ∈ v.toList, c ≠ '"' ∧ c ≠ '\n' ∧ c ≠ '<' ∧ c ≠ '>'

theorem plainVal_of_ok (v : String) (h : attrTextOk v = true) : PlainVal v := by
  simp only [attrTextOk, Bool.and_eq_true, Bool.not_eq_true', List.isEmpty_eq_false_iff] at h
  refine ⟨h.1, ?_⟩
  intro c hc
  have := List.all_eq_true.mp h.2 c hc
  simp only [plainChar, Bool.and_eq_true, bne_iff_ne, ne_eq, decide_eq_true_eq] at this
  refine ⟨this.1.1.1.1.1.1.1, ?_, this.1.1.1.1.1.1.2, this.1.1.1.1.1.2⟩
  intro e
  subst e
  have := this.1.1.1.2
  revert this; decide

/-- an element text the reader returns unchanged -/
theorem plainText_of_ok (s : String) (h : elemTextOk s = true) : PlainText pyClasses s.toList := by
  simp only [elemTextOk, Bool.and_eq_true, Bool.not_eq_true'] at h
  constructor
  · intro hc
    have := List.all_eq_true.mp h.1.1 _ hc
    revert this; decide
  · apply strip_eq_self
    · intro c hc
      rw [pyStrip_eq]
      simpa [hc] using h.1.2
    · intro c hc
      rw [pyStrip_eq]
      simpa [hc] using h.2

/-- the part that is a genuine hypothesis: identifiers, domain, signer's name (copied from the KSR and
    the configuration) -/
def idsSafe (r : Response) : Bool :=
  attrTextOk r.id && attrTextOk r.domain &&
    r.bundles.all (fun b =>
      attrTextOk b.id && b.keys.all (fun k => attrTextOk k.keyIdentifier)
        && b.signatures.all (fun s => attrTextOk s.keyIdentifier && elemTextOk s.signersName))

/-- … the base64 texts need none: whatever decodes canonically is safe (and `Base64.encode` always is,
    `ink_encode`) -/
theorem textSafe_of_ids (r : Response) (h : idsSafe r = true)
    (hk : ∀ b ∈ r.bundles, ∀ k ∈ b.keys, (Base64.decode k.publicKey).isSome = true)
    (hs : ∀ b ∈ r.bundles, ∀ s ∈ b.signatures, (Base64.decode s.signatureData).isSome = true) : TextSafe r := by
  simp only [idsSafe, Bool.and_eq_true, List.all_eq_true, and_assoc] at h
  obtain ⟨h1, h2, h3⟩ := h
  exact (textSafe_iff r).mpr ⟨h1, h2, fun b hb =>
    have ⟨hid, hks, hss⟩ := h3 b hb
    ⟨hid, fun k hk' => ⟨hks k hk', elemTextOk_of_ink _ (ink_of_base64 _ (hk b hb k hk'))⟩,
      fun s hs' => ⟨(hss s hs').1, (hss s hs').2, elemTextOk_of_ink _ (ink_of_base64 _ (hs b hb s hs'))⟩⟩⟩

mutual
/-- `m` is the name of some element of the subtree -/
def occursX (m : String) : XTree → Prop
  | .node n _ cs => n = m ∨ occursXL m cs
  | .leaf n _ _ => n = m
  | .empty n _ => n = m
def occursXL (m : String) : List XTree → Prop
  | [] => False
  | t :: ts => occursX m t ∨ occursXL m ts
end

def attrsPlain (a : List (String × String)) : Prop := ∀ p ∈ a, PlainAttr pyClasses (p.1.toList, p.2.toList)

mutual
/-- PlainXml, for the writer's trees: plain names, attributes and texts; an empty element has
    attributes; a node has children, none of which (at any depth) carries the node's own name -/
def PlainX : XTree → Prop
  | .node n a cs => PlainName pyClasses n.toList ∧ attrsPlain a ∧ cs ≠ [] ∧ PlainXL cs ∧ ¬ occursXL n cs
  | .leaf n a t => PlainName pyClasses n.toList ∧ attrsPlain a ∧ PlainText pyClasses t.toList
  | .empty n a => PlainName pyClasses n.toList ∧ attrsPlain a ∧ a ≠ []
def PlainXL : List XTree → Prop
  | [] => True
  | t :: ts => PlainX t ∧ PlainXL ts
end

mutual
def heightX : XTree → Nat
  | .node _ _ cs => 1 + heightXL cs
  | .leaf _ _ _ => 0
  | .empty _ _ => 0
def heightXL : List XTree → Nat
  | [] => 0
  | t :: ts => max (heightX t) (heightXL ts)
end

def Blank (pre : List Char) : Prop := ∀ c ∈ pre, c = ' '

theorem Blank.sp4 {pre : List Char} (h : Blank pre) : Blank (pre ++ sp4) :=
  List.forall_mem_append.mpr ⟨h, by decide⟩

theorem Blank.nil : Blank [] := List.forall_mem_nil _

theorem strip_blank : pyClasses.isStrip ' ' = true ∧ pyClasses.isStrip '\n' = true := by
  constructor <;> (rw [pyStrip_eq]; decide)

theorem ws_nl_blank (pre : List Char) (h : Blank pre) : Ws pyClasses ('\n' :: pre) := by
  intro c hc
  rcases List.mem_cons.mp hc with rfl | h'
  · exact strip_blank.2
  · rw [h c h']; exact strip_blank.1

theorem attrsP_plain (a : List (String × String)) (h : attrsPlain a) : ∀ q ∈ attrsP a, PlainAttr pyClasses q := by
  intro q hq
  obtain ⟨p, hp, rfl⟩ := List.mem_map.mp hq
  exact h p hp

theorem gap_nil (a : Attrs) : Gap pyClasses a [] :=
  ⟨fun _ h => by simp at h, fun _ => rfl⟩

mutual
theorem occursT_toP : ∀ (t : XTree) (pre : List Char) (m : String), occursT m.toList (toP pre t) → occursX m t
  | .leaf n a t, pre, m, h => by
    simp only [toP, occursT] at h
    exact String.toList_injective h
  | .empty n a, pre, m, h => by
    simp only [toP, occursT] at h
    exact String.toList_injective h
  | .node n a [], pre, m, h => by
    simp only [toP, occursT] at h
    exact Or.inl (String.toList_injective h)
  | .node n a (c :: cs), pre, m, h => by
    simp only [toP, occursT] at h
    rcases h with h | h | h
    · exact Or.inl (String.toList_injective h)
    · exact Or.inr (Or.inl (occursT_toP c _ m h))
    · exact Or.inr (Or.inr (occursF_toPF cs _ m h))
theorem occursF_toPF : ∀ (ts : List XTree) (pre : List Char) (m : String), occursF m.toList (toPF pre ts) → occursXL m ts
  | [], pre, m, h => by simp only [toPF, occursF] at h
  | t :: ts, pre, m, h => by
    simp only [toPF, occursF] at h
    rcases h with h | h
    · exact Or.inl (occursT_toP t _ m h)
    · exact Or.inr (occursF_toPF ts _ m h)
end

mutual
/-- a plain tree, laid out by the writer, is PlainXml in the sense of C12 -/
theorem plainT_toP : ∀ (t : XTree) (pre : List Char), Blank pre → PlainX t → PlainT pyClasses (toP pre t)
  | .leaf n a t, pre, _, h => by
    simp only [toP, PlainT]
    exact ⟨h.1, attrsP_plain a h.2.1, gap_nil _, h.2.2⟩
  | .empty n a, pre, _, h => by
    simp only [toP, PlainT]
    refine ⟨h.1, attrsP_plain a h.2.1, gap_nil _, ?_⟩
    intro e
    exact h.2.2 (by simpa [attrsP] using e)
  | .node n a [], pre, _, h => absurd rfl h.2.2.1
  | .node n a (c :: cs), pre, hb, h => by
    simp only [toP, PlainT]
    obtain ⟨hn, ha, _, hl, ho⟩ := h
    refine ⟨hn, attrsP_plain a ha, gap_nil _, ws_nl_blank _ hb.sp4, ws_nl_blank _ hb,
      plainT_toP c _ hb.sp4 hl.1, plainF_toPF cs _ hb.sp4 hl.2, ?_, ?_⟩
    · intro ho'; exact ho (Or.inl (occursT_toP c _ n ho'))
    · intro ho'; exact ho (Or.inr (occursF_toPF cs _ n ho'))
theorem plainF_toPF : ∀ (ts : List XTree) (pre : List Char), Blank pre → PlainXL ts → PlainF pyClasses (toPF pre ts)
  | [], pre, _, _ => by simp only [toPF, PlainF]
  | t :: ts, pre, hb, h => by
    simp only [toPF, PlainF]
    exact ⟨ws_nl_blank _ hb, plainT_toP t _ hb h.1, plainF_toPF ts _ hb h.2⟩
end

mutual
theorem heightT_toP : ∀ (t : XTree) (pre : List Char), heightT (toP pre t) ≤ heightX t
  | .leaf n a t, pre => by simp [toP, heightT]
  | .empty n a, pre => by simp [toP, heightT]
  | .node n a [], pre => by simp [toP, heightT]
  | .node n a (c :: cs), pre => by
    have h1 := heightT_toP c (pre ++ sp4)
    have h2 := heightF_toPF cs (pre ++ sp4)
    simp only [toP, heightT, heightX, heightXL]
    omega
theorem heightF_toPF : ∀ (ts : List XTree) (pre : List Char), heightF (toPF pre ts) ≤ heightXL ts
  | [], pre => by simp [toPF, heightF]
  | t :: ts, pre => by
    have h1 := heightT_toP t pre
    have h2 := heightF_toPF ts pre
    simp only [toPF, heightF, heightXL]
    omega
end

/-! ### the element names of an SKR are word characters for the running Python -/

theorem isWord_of_wordChar (c : Char) (h : wordChar c = true) : pyClasses.isWord c = true := by
  simp only [wordChar, Bool.or_eq_true, Bool.and_eq_true, decide_eq_true_eq] at h
  have h3 : ∀ a b : Nat, (a, b) ∈ KskmGen.wordRanges → a ≤ c.toNat → c.toNat ≤ b → pyClasses.isWord c = true :=
    fun a b hm h1 h2 => List.any_eq_true.mpr ⟨(a, b), hm, by simp [h1, h2]⟩
  -- the first, second and fourth range of the table
  rcases h with (h | h) | h
  · exact h3 48 57 (by unfold KskmGen.wordRanges; exact List.mem_cons_self) h.1 h.2
  · exact h3 65 90 (by unfold KskmGen.wordRanges; exact List.mem_cons_of_mem _ List.mem_cons_self) h.1 h.2
  · exact h3 97 122 (by
      unfold KskmGen.wordRanges
      exact List.mem_cons_of_mem _ (List.mem_cons_of_mem _ (List.mem_cons_of_mem _ List.mem_cons_self))) h.1 h.2

theorem plainName_of_wordName (l : List Char) (h : wordName l = true) : PlainName pyClasses l := by
  simp only [wordName, Bool.and_eq_true, Bool.not_eq_true', List.isEmpty_eq_false_iff, List.all_eq_true] at h
  exact ⟨h.1, fun c hc => isWord_of_wordChar c (h.2 c hc)⟩

end Kskm.ReadBack
