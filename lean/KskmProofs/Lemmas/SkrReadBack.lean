/-
  The composition of C11 with C12: the repository's reader on the repository writer's text.

    1. `renderDoc (treeOf r)` = XML declaration ++ "\n" ++ `renderT (toP [] (treeOf r))` ++ "\n"   (SkrLayout)
    2. `toP [] (treeOf r)` is PlainXml, five levels deep                                            (SkrPlain, SkrTree)
    3. hence, by `C12_reader_ksr`, `parseKsr` returns the dict of its standard reading               (here)
    4. on which the glue yields `readBackWith gs r`                                                 (SkrGlue, SkrGlueDoc)

  and what `readBackWith` changes: nothing but the list representation of the `set` fields (`SameResponse`,
  `readBack_same`), and nothing at all of a response already in the reader's representation (`Canonical`,
  `readBack_eq_self`).

  First the truncation clause, from the same plainness: the text ends with `</KSR>` and a line break, and a scan for
  `</KSR>` passes over everything before it (`renderDoc_end`, an instance of `renderW_node_end` of the reader
  development); and without the end tag `_find_end_of_element` raises (`findEndOfElement_none`).
-/
import KskmProofs.Lemmas.SkrGlueDoc
namespace Kskm

/-! ### the truncation clause -/

/-- `</KSR>` -/
def endPat : List Char := ['<', '/', 'K', 'S', 'R', '>']
/-- `/KSR>` -/
def endPatTail : List Char := ['/', 'K', 'S', 'R', '>']

theorem endPat_eq : endPat = '<' :: endPatTail := rfl

theorem endPat_chars : "</KSR>".toList = endPat := String.toList_ofList

/-- the XML declaration begins `<?` and holds no further '<' (read off the characters of the literal) -/
theorem xmlDecl_shape : ∃ r, xmlDecl = '<' :: '?' :: r ∧ '<' ∉ r := by
  unfold xmlDecl
  rw [String.toList_ofList]
  exact ⟨_, rfl, by decide⟩

end Kskm

/-! The reader's half: `_find_end_of_element` locates the end tag with `str.index`, so when the end tag does not
  occur in the text it raises `ValueError` (`none`) — whatever the nesting heuristics do. -/

namespace Kskm.Xml

theorem findAux_some_infix (pat : List Char) (s : List Char) (i j : Nat) (h : findAux pat s i = some j) :
    pat <:+: s := by
  obtain ⟨k, -, hpre, -⟩ := findAux_spec h
  exact hpre.isInfix.trans (List.drop_suffix k s).isInfix

theorem indexFrom_some_infix (pat hay : List Char) (start j : Nat) (h : indexFrom pat hay start = some j) :
    pat <:+: hay := by
  unfold indexFrom at h
  split at h
  · cases h
  · obtain ⟨pre, post, e⟩ := findAux_some_infix _ _ _ _ h
    exact ⟨hay.take start ++ pre, post, by
      rw [List.append_assoc, List.append_assoc, ← List.append_assoc pre, e, List.take_append_drop]⟩

theorem findEndOfElement_none (xml name : List Char) (start : Nat) (h : ¬ endTag name <:+: xml) :
    findEndOfElement xml start name = none := by
  unfold findEndOfElement
  simp only
  cases hi : indexFrom (endTag name) xml start with
  | none => rfl
  | some e0 => exact absurd (indexFrom_some_infix _ _ _ _ hi) h

end Kskm.Xml

namespace Kskm.ReadBack
open Kskm Kskm.Xml Kskm.C12

/-! The writer's half. -/

/-- a scan for a tag pattern that does not go on with '?' passes over the XML declaration -/
theorem skip_xmlDecl (d : Char) (p : List Char) (hd : d ≠ '?') : Skip ('<' :: d :: p) (xmlDecl ++ ['\n']) := by
  obtain ⟨r, e, hlt⟩ := xmlDecl_shape
  rw [e]
  exact (skip_tag _ ('?' :: r) (by simp [hlt])
    fun tail h => hd (List.cons_prefix_cons.mp (List.cons_prefix_cons.mp h).2).1).append (skip_of_no_lt _ _ (by decide))

/-- the text of a plain element with children ends with its end tag and a line break, and a scan for that end tag
    passes over everything before it -/
theorem renderDoc_node_end {n : String} {a : List (String × String)} {c : XTree} {cs : List XTree}
    (h : PlainX (.node n a (c :: cs))) :
    ∃ body, renderDoc (.node n a (c :: cs)) = body ++ endTag n.toList ++ ['\n'] ∧ Skip (endTag n.toList) body := by
  have hpl := plainW'_ofP pyClasses_sane _ (plainT_toP _ [] Blank.nil h)
  rw [renderDoc_eq_renderT, ← renderW_ofP]
  rw [toP, ofP] at hpl ⊢
  obtain ⟨b, hb, hs⟩ := renderW_node_end pyClasses_sane hpl
  exact ⟨(xmlDecl ++ ['\n']) ++ b, by rw [hb]; simp only [List.append_assoc],
    (skip_xmlDecl '/' _ (by decide)).append hs⟩

theorem endTag_KSR : endTag "KSR".toList = endPat := by rw [String.toList_ofList]; rfl

/-- **The writer's text ends with `</KSR>` and a line break, and a scan for `</KSR>` passes over everything before
    it** — `TextSafe` only. -/
theorem renderDoc_end (r : Response) (h : TextSafe r) :
    ∃ body, renderDoc (treeOf r) = body ++ endPat ++ ['\n'] ∧ Skip endPat body := by
  rw [← endTag_KSR]
  exact renderDoc_node_end (treeOf_plain r h)

/-! ### `parse_ksr` finds the root element behind the XML declaration -/

theorem skip_prolog : Skip kKSRopen (xmlDecl ++ ['\n']) := by
  rw [kKSRopen_eq]; exact skip_xmlDecl 'K' _ (by decide)

/-- the first `<KSR` of the writer's text is the root element -/
theorem first_ksr (r : Response) (trail : List Char) :
    indexFrom kKSRopen ((xmlDecl ++ ['\n']) ++ renderT (toP [] (treeOf r)) ++ trail) 0
      = some (xmlDecl ++ ['\n']).length :=
  index_after_skip _ _ trail skip_prolog (by
    rw [← renderW_ofP]
    exact ksr_prefix_renderW _ (by show "KSR".toList = _; rw [String.toList_ofList]))

/-- **The reader on the writer's text.**  For every response whose strings are `TextSafe`, and
    either behaviour of the attribute loop, `parse_ksr` applied to the text `skr_to_xml` writes returns
    the dict of the standard reading of that text (C12's reader theorem at the writer's layout). -/
theorem parseKsr_renderDoc (sw : Switches) (r : Response) (h : TextSafe r) :
    parseKsr pyClasses sw (renderDoc (treeOf r)) = .ok (dictOf (toP [] (treeOf r))) := by
  rw [renderDoc_eq_renderT]
  exact C12_reader_ksr pyClasses pyClasses_sane sw (toP [] (treeOf r))
    (plainT_toP _ _ Blank.nil (treeOf_plain r h))
    (Nat.le_trans (heightT_toP _ _) (heightX_treeOf r)) (xmlDecl ++ ['\n']) ['\n']
    (by intro c hc; simp only [List.mem_singleton] at hc; subst hc; exact strip_blank.2)
    (first_ksr r ['\n'])

/-- **Through the glue.** -/
theorem responseFromXmlL_renderDoc_eq (sw : Switches) (gs : GlueSwitches) (r : Response) (h : TextSafe r) :
    responseFromXmlL pyClasses sw gs (renderDoc (treeOf r))
      = .done (responseFromDict gs (.dict (dictOf (toP [] (treeOf r))))) := by
  unfold responseFromXmlL fromXmlWith
  rw [parseKsr_renderDoc sw r h]

theorem responseFromXmlL_renderDoc (sw : Switches) (gs : GlueSwitches) (r : Response) (h : WriterDomain r)
    (hc : constructible r = true) (hsw : gs.wrapsSingleResponseBundle = true ∨ 2 ≤ r.bundles.length) :
    responseFromXmlL pyClasses sw gs (renderDoc (treeOf r)) = .done (.ok (readBackWith gs r)) := by
  rw [responseFromXmlL_renderDoc_eq sw gs r (textSafe_of_domain r h), responseFromDict_treeOf gs r h hc hsw]

/-- F12 on the writer's text: with the pinned glue a one-bundle SKR does not load -/
theorem responseFromXmlL_renderDoc_pinned (sw : Switches) (gs : GlueSwitches)
    (hgs : gs.wrapsSingleResponseBundle = false) (r : Response) (h : TextSafe r) (b : Bundle) (hb : r.bundles = [b]) :
    responseFromXmlL pyClasses sw gs (renderDoc (treeOf r)) = .done (err .type) := by
  rw [responseFromXmlL_renderDoc_eq sw gs r h, responseFromDict_treeOf_pinned gs hgs r b hb]

theorem loaderKeyLe_eq (a b : Bundle) : loaderKeyLe a b = bundleKeyLe a b := by
  unfold loaderKeyLe bundleKeyLe
  congr 3
  rw [Bool.eq_iff_iff]
  simp [String.not_lt]

/-- bundles that already stand in the loader's order stay where they are — whichever way the switch is -/
theorem readBack_bundles (gs : GlueSwitches) (r : Response) (hs : bundlesSorted r.bundles = true) :
    (readBackWith gs r).bundles = r.bundles.map readBackBundle := by
  simp only [readBackWith]
  split
  · unfold sortByKey
    apply List.mergeSort_of_pairwise
    rw [List.pairwise_map]
    have : r.bundles.Pairwise (fun a b => bundleKeyLe a b = true) := by
      apply pairwise_of_adjacent _ bundleKeyLe_trans
      intro p hp
      simp only [bundlesSorted, List.all_eq_true] at hs
      rw [← loaderKeyLe_eq]
      exact hs p hp
    exact this.imp (fun {a b} hab => hab)
  · rfl

/-- two responses that are the same Python object up to the representation of `set` fields as lists
    (order and multiplicity of keys, signatures, algorithms) -/
structure SameResponse (a b : Response) : Prop where
  id : a.id = b.id
  serial : a.serial = b.serial
  domain : a.domain = b.domain
  timestamp : a.timestamp = b.timestamp
  zsk : { a.zskPolicy with algorithms := [] } = { b.zskPolicy with algorithms := [] } ∧
    ∀ x, x ∈ a.zskPolicy.algorithms ↔ x ∈ b.zskPolicy.algorithms
  ksk : { a.kskPolicy with algorithms := [] } = { b.kskPolicy with algorithms := [] } ∧
    ∀ x, x ∈ a.kskPolicy.algorithms ↔ x ∈ b.kskPolicy.algorithms
  length : a.bundles.length = b.bundles.length
  bundles : ∀ (i : Nat) (x y : Bundle), a.bundles[i]? = some x → b.bundles[i]? = some y →
    x.id = y.id ∧ x.inception = y.inception ∧ x.expiration = y.expiration ∧ x.signers = y.signers ∧
      (∀ k, k ∈ x.keys ↔ k ∈ y.keys) ∧ (∀ s, s ∈ x.signatures ↔ s ∈ y.signatures)

/-- on the writer's domain the reader's response is the written one, as Python objects -/
theorem readBack_same (gs : GlueSwitches) (r : Response) (h : WriterDomain r) :
    SameResponse (readBackWith gs r) r := by
  have hp := domain_parts r h
  have hb := readBack_bundles gs r hp.sorted
  refine ⟨rfl, rfl, rfl, hp.ts.symm, ⟨rfl, fun x => mem_dedup' x _⟩, ⟨rfl, fun x => mem_dedup' x _⟩, ?_, ?_⟩
  · rw [hb]; simp
  · intro i x y hx hy
    rw [hb, List.getElem?_map, hy] at hx
    simp only [Option.map_some, Option.some.injEq] at hx
    subst hx
    have hsn := (bundleOk_parts y (hp.bundles y (List.mem_of_getElem? hy))).signers
    refine ⟨rfl, rfl, rfl, hsn.symm, fun k => ?_, fun s => mem_dedup' s _⟩
    simp only [readBackBundle]
    rw [mem_dedup', mem_sortKeys]

/-- the list representation the reader produces: duplicate-free, keys ascending by key tag -/
def Canonical (r : Response) : Prop :=
  r.kskPolicy.algorithms.Nodup ∧ r.zskPolicy.algorithms.Nodup ∧
    ∀ b ∈ r.bundles, b.keys.Nodup ∧ b.signatures.Nodup ∧ b.keys.Pairwise (fun x y => x.keyTag ≤ y.keyTag)

theorem sortKeys_eq_self (l : List Key) (h : l.Pairwise (fun x y => x.keyTag ≤ y.keyTag)) : sortKeys l = l := by
  unfold sortKeys
  apply List.mergeSort_of_pairwise
  exact h.imp (fun {a b} hab => by simpa using hab)

/-- … and when the written response is already in that representation, it comes back IDENTICAL -/
theorem readBack_eq_self (gs : GlueSwitches) (r : Response) (h : WriterDomain r) (hc : Canonical r) :
    readBackWith gs r = r := by
  have hp := domain_parts r h
  have hb := readBack_bundles gs r hp.sorted
  have hb' : r.bundles.map readBackBundle = r.bundles := by
    have : r.bundles.map readBackBundle = r.bundles.map id := by
      apply List.map_congr_left
      intro b hb
      obtain ⟨h1, h2, h3⟩ := hc.2.2 b hb
      have hsn := (bundleOk_parts b (hp.bundles b hb)).signers
      simp only [readBackBundle, sortKeys_eq_self _ h3, dedup_eq_self _ h1, dedup_eq_self _ h2, id]
      cases b
      simp_all
    rw [this, List.map_id]
  have hbs := hb.trans hb'
  have hts := hp.ts
  have hk : readBackPolicy r.kskPolicy = r.kskPolicy := by simp [readBackPolicy, dedup_eq_self _ hc.1]
  have hz : readBackPolicy r.zskPolicy = r.zskPolicy := by simp [readBackPolicy, dedup_eq_self _ hc.2.1]
  cases r
  simp only [readBackWith] at hbs ⊢
  simp_all

/-- the reader's result is in canonical representation (so reading is idempotent on it) -/
theorem readBack_canonical_sets (gs : GlueSwitches) (r : Response) :
    (readBackWith gs r).kskPolicy.algorithms.Nodup ∧ (readBackWith gs r).zskPolicy.algorithms.Nodup :=
  ⟨nodup_dedup' _, nodup_dedup' _⟩

end Kskm.ReadBack
