/-
  `treeOf r` — the element tree `skr_to_xml` writes — is plain (needs `TextSafe r` only) and five levels
  deep: KSR > Response > ResponsePolicy > KSK > SignatureAlgorithm > RSA.
-/
import KskmProofs.Lemmas.SkrPlain
namespace Kskm.ReadBack
open Kskm Kskm.Xml

/-! ### names, attribute values and texts: the walk of C11Render, for what the reader returns unchanged -/

theorem plain_of_wf {t : XTree} (h : t.Wf) :
    t.All (fun n => PlainName pyClasses n.toList) PlainVal (fun t => PlainText pyClasses t.toList) :=
  XTree.All.mono (fun _ hn => plainName_of_wordName _ hn) plainVal_of_ok plainText_of_ok t h

/-! ### nesting and depth: every element name has a level in the SKR format, and a child's level exceeds its parent's -/

mutual
/-- levels increase from parent to child; a node has children, an empty element attributes -/
def Ranked (rk : String → Nat) : XTree → Prop
  | .node n _ cs => cs ≠ [] ∧ RankedL rk (rk n) cs
  | .leaf _ _ _ => True
  | .empty _ a => a ≠ []
def RankedL (rk : String → Nat) (k : Nat) : List XTree → Prop
  | [] => True
  | t :: ts => (k < rk t.name ∧ Ranked rk t) ∧ RankedL rk k ts
end

variable {rk : String → Nat}

theorem rankedL_iff {k : Nat} (ts : List XTree) : RankedL rk k ts ↔ ∀ t ∈ ts, k < rk t.name ∧ Ranked rk t := by
  induction ts with
  | nil => simp [RankedL]
  | cons t ts ih => simp [RankedL, ih]

mutual
theorem Ranked.le_of_occurs {m : String} : ∀ t : XTree, Ranked rk t → occursX m t → rk t.name ≤ rk m
  | .node n _ cs, h, ho => by
    rcases ho with rfl | ho
    · exact Nat.le_refl _
    · exact Nat.le_of_lt (RankedL.lt_of_occurs cs h.2 ho)
  | .leaf _ _ _, _, ho => by cases ho; exact Nat.le_refl _
  | .empty _ _, _, ho => by cases ho; exact Nat.le_refl _
theorem RankedL.lt_of_occurs {m : String} {k : Nat} : ∀ ts : List XTree, RankedL rk k ts → occursXL m ts → k < rk m
  | [], _, ho => nomatch ho
  | t :: ts, h, ho => by
    rcases ho with ho | ho
    · exact Nat.lt_of_lt_of_le h.1.1 (Ranked.le_of_occurs t h.1.2 ho)
    · exact RankedL.lt_of_occurs ts h.2 ho
end

mutual
theorem Ranked.height {B : Nat} (hB : ∀ n, rk n ≤ B) : ∀ t : XTree, Ranked rk t → rk t.name + heightX t ≤ B
  | .node n _ cs, h => by
    have := RankedL.height hB cs h.2 h.1
    simp only [XTree.name, heightX]; omega
  | .leaf n _ _, _ => by simpa [heightX, XTree.name] using hB n
  | .empty n _, _ => by simpa [heightX, XTree.name] using hB n
theorem RankedL.height {B k : Nat} (hB : ∀ n, rk n ≤ B) :
    ∀ ts : List XTree, RankedL rk k ts → ts ≠ [] → k + 1 + heightXL ts ≤ B
  | [], _, hne => absurd rfl hne
  | [t], h, _ => by
    have := Ranked.height hB t h.1.2
    have := h.1.1
    simp only [heightXL]; omega
  | t :: t' :: ts, h, _ => by
    have := Ranked.height hB t h.1.2
    have := RankedL.height hB (t' :: ts) h.2 (List.cons_ne_nil _ _)
    have := h.1.1
    rw [heightXL]; omega
end

mutual
theorem plainX_of_all : ∀ t : XTree,
    t.All (fun n => PlainName pyClasses n.toList) PlainVal (fun t => PlainText pyClasses t.toList) → Ranked rk t → PlainX t
  | .node _ _ cs, h, hr =>
    ⟨h.1, h.2.1, hr.1, plainXL_of_allL cs h.2.2 hr.2, fun ho => Nat.lt_irrefl _ (RankedL.lt_of_occurs cs hr.2 ho)⟩
  | .leaf _ _ _, h, _ => h
  | .empty _ _, h, hr => ⟨h.1, h.2, hr⟩
theorem plainXL_of_allL {k : Nat} : ∀ ts : List XTree,
    XTree.AllL (fun n => PlainName pyClasses n.toList) PlainVal (fun t => PlainText pyClasses t.toList) ts →
      RankedL rk k ts → PlainXL ts
  | [], _, _ => trivial
  | t :: ts, h, hr => ⟨plainX_of_all t h.1 hr.1.2, plainXL_of_allL ts h.2 hr.2⟩
end

/-! ### the levels of the SKR format, and the walk -/

/-- the depth at which an element name occurs in an SKR -/
def skrLevel (n : String) : Nat :=
  if n = "KSR" then 0 else if n = "Response" then 1 else if n = "ResponsePolicy" ∨ n = "ResponseBundle" then 2
  else if n = "KSK" ∨ n = "ZSK" ∨ n = "Inception" ∨ n = "Expiration" ∨ n = "Key" ∨ n = "Signature" then 3
  else if n = "RSA" then 5 else 4

theorem skrLevel_le (n : String) : skrLevel n ≤ 5 := by
  unfold skrLevel
  repeat' split
  all_goals omega

theorem rankedL_map {α} {k : Nat} (f : α → XTree) (l : List α) (h : ∀ x, k < rk (f x).name ∧ Ranked rk (f x)) :
    RankedL rk k (l.map f) :=
  (rankedL_iff _).mpr fun t ht => by obtain ⟨x, -, rfl⟩ := List.mem_map.mp ht; exact h x

theorem rankedL_append {k : Nat} (a b : List XTree) : RankedL rk k (a ++ b) ↔ RankedL rk k a ∧ RankedL rk k b := by
  simp only [rankedL_iff, List.mem_append]
  exact ⟨fun h => ⟨fun t ht => h t (Or.inl ht), fun t ht => h t (Or.inr ht)⟩, fun h t ht => ht.elim (h.1 t) (h.2 t)⟩

/-- a run of leaves below level `k` -/
theorem rankedL_leaf {k : Nat} {n t : String} {ts : List XTree} (hk : k < rk n) (h : RankedL rk k ts) :
    RankedL rk k (.leaf n [] t :: ts) := ⟨⟨hk, trivial⟩, h⟩

theorem algTree_ranked (a : AlgPolicy) : Ranked skrLevel (algTree a) :=
  ⟨List.cons_ne_nil _ _, ⟨(by decide : skrLevel "SignatureAlgorithm" < skrLevel "RSA"), List.cons_ne_nil _ _⟩, trivial⟩

theorem policyTree_ranked (name : String) (hn : skrLevel name = 3) (p : SigPolicy) : Ranked skrLevel (policyTree name p) := by
  refine ⟨by simp [policyTree], (rankedL_append _ _).mpr ⟨?_, rankedL_map _ _ fun a => ⟨?_, algTree_ranked a⟩⟩⟩
  · rw [hn]
    exact rankedL_leaf (by decide) (rankedL_leaf (by decide) (rankedL_leaf (by decide) (rankedL_leaf (by decide)
      (rankedL_leaf (by decide) (rankedL_leaf (by decide) trivial)))))
  · rw [hn]; exact (by decide : 3 < skrLevel "SignatureAlgorithm")

theorem keyTree_ranked (k : Key) : Ranked skrLevel (keyTree k) :=
  ⟨List.cons_ne_nil _ _, rankedL_leaf (by decide) (rankedL_leaf (by decide) (rankedL_leaf (by decide)
    (rankedL_leaf (by decide) (rankedL_leaf (by decide) trivial))))⟩

theorem sigTree_ranked (s : Signature) : Ranked skrLevel (sigTree s) :=
  ⟨List.cons_ne_nil _ _, rankedL_leaf (by decide) (rankedL_leaf (by decide) (rankedL_leaf (by decide)
    (rankedL_leaf (by decide) (rankedL_leaf (by decide) (rankedL_leaf (by decide) (rankedL_leaf (by decide)
    (rankedL_leaf (by decide) (rankedL_leaf (by decide) (rankedL_leaf (by decide) trivial)))))))))⟩

theorem bundleTree_ranked (b : Bundle) : Ranked skrLevel (bundleTree b) := by
  refine ⟨by simp [bundleTree], (rankedL_append _ _).mpr ⟨(rankedL_append _ _).mpr
    ⟨rankedL_leaf (by decide) (rankedL_leaf (by decide) trivial), rankedL_map _ _ fun k => ⟨?_, keyTree_ranked k⟩⟩,
    rankedL_map _ _ fun s => ⟨?_, sigTree_ranked s⟩⟩⟩
  · exact (by decide : skrLevel "ResponseBundle" < skrLevel "Key")
  · exact (by decide : skrLevel "ResponseBundle" < skrLevel "Signature")

theorem treeOf_ranked (r : Response) : Ranked skrLevel (treeOf r) :=
  ⟨List.cons_ne_nil _ _, ⟨(by decide : skrLevel "KSR" < skrLevel "Response"), List.cons_ne_nil _ _,
    ⟨(by decide : skrLevel "Response" < skrLevel "ResponsePolicy"), List.cons_ne_nil _ _,
      ⟨(by decide : skrLevel "ResponsePolicy" < skrLevel "KSK"), policyTree_ranked _ (by decide) _⟩,
      ⟨(by decide : skrLevel "ResponsePolicy" < skrLevel "ZSK"), policyTree_ranked _ (by decide) _⟩, trivial⟩,
    rankedL_map _ _ fun b => ⟨(by decide : skrLevel "Response" < skrLevel "ResponseBundle"), bundleTree_ranked b⟩⟩, trivial⟩

/-- **the writer's tree is PlainXml** — under `TextSafe` alone -/
theorem treeOf_plain (r : Response) (h : TextSafe r) : PlainX (treeOf r) :=
  plainX_of_all _ (plain_of_wf (treeOf_all r h)) (treeOf_ranked r)

/-- five levels: exactly what `parse(xml, recurse=5)` allows -/
theorem heightX_treeOf (r : Response) : heightX (treeOf r) ≤ 5 := by
  have := (treeOf_ranked r).height skrLevel_le
  rwa [show skrLevel (treeOf r).name = 0 from (by decide : skrLevel "KSR" = 0), Nat.zero_add] at this

end Kskm.ReadBack
