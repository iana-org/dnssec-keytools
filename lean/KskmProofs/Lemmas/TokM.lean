/- The token monad `TokM` (state survives failures; every `ask` is logged): how it runs, inversion of a
   successful bind, the monad laws as equations between functions of token and state, `Yields` (a postcondition
   on the value returned), the two words about token operations that both the signer's and the keymaster's
   lemmas use (`isSignOp`, `classOf`), `List.mapM` in `TokM`. -/
import Kskm.Signer
namespace Kskm

/-- the state after one more logged operation -/
def TokState.push (s : TokState) (op : TokOp) (a : TokAns) : TokState :=
  { count := s.count + 1, log := (op, a) :: s.log }

@[simp] theorem TokState.push_log (s : TokState) (op : TokOp) (a : TokAns) :
    (s.push op a).log = (op, a) :: s.log := rfl
@[simp] theorem TokState.push_count (s : TokState) (op : TokOp) (a : TokAns) :
    (s.push op a).count = s.count + 1 := rfl

theorem bind_run {α β} (m : TokM α) (f : α → TokM β) (t : Token) (s : TokState) :
    (m >>= f) t s = match m t s with
      | (.ok a, s1) => f a t s1
      | (.error e, s1) => (.error e, s1) := by
  simp only [bind]
  rfl

theorem bind_run_ok {α β} (m : TokM α) (f : α → TokM β) (t : Token) (s s1 : TokState) (a : α)
    (h : m t s = (.ok a, s1)) : (m >>= f) t s = f a t s1 := by
  rw [bind_run, h]

theorem bind_run_error {α β} (m : TokM α) (f : α → TokM β) (t : Token) (s s1 : TokState) (e : Fail)
    (h : m t s = (.error e, s1)) : (m >>= f) t s = (.error e, s1) := by
  rw [bind_run, h]

theorem TokM.bind_ok_iff {α β} {m : TokM α} {f : α → TokM β} {t : Token} {s s' : TokState} {b : β} :
    (m >>= f) t s = (.ok b, s') ↔ ∃ a s1, m t s = (.ok a, s1) ∧ f a t s1 = (.ok b, s') := by
  rw [bind_run]
  cases hm : m t s with
  | mk r s1 =>
    cases r with
    | error e => simp
    | ok a =>
      constructor
      · exact fun h => ⟨a, s1, rfl, h⟩
      · rintro ⟨_, _, h1, h2⟩
        cases h1; exact h2

theorem TokM.bind_ok {α β} {m : TokM α} {f : α → TokM β} {t : Token} {s s' : TokState} {b : β}
    (h : (m >>= f) t s = (.ok b, s')) :
    ∃ a s1, m t s = (.ok a, s1) ∧ f a t s1 = (.ok b, s') :=
  TokM.bind_ok_iff.mp h

@[simp] theorem TokM.pure_run {α} (a : α) (t : Token) (s : TokState) :
    (pure a : TokM α) t s = (.ok a, s) := rfl

@[simp] theorem TokM.fail_run {α} (f : Fail) (t : Token) (s : TokState) :
    (TokM.fail f : TokM α) t s = (.error f, s) := rfl

@[simp] theorem TokM.err_run {α} (k : ErrKind) (t : Token) (s : TokState) :
    (TokM.err k : TokM α) t s = (.error (.error k), s) := rfl

@[simp] theorem TokM.lift_run {α} (r : Res α) (t : Token) (s : TokState) :
    (TokM.lift r : TokM α) t s = (r, s) := rfl

theorem ite_run {α} (c : Prop) [Decidable c] (a b : TokM α) (t : Token) (s : TokState) :
    (if c then a else b) t s = if c then a t s else b t s := by
  split <;> rfl

theorem lift_bind_run {α β} (x : Res α) (f : α → TokM β) (t : Token) (s : TokState) :
    (TokM.lift x >>= f) t s = match x with
      | .ok a => f a t s
      | .error e => (.error e, s) := by
  rw [bind_run]; cases x <;> rfl

theorem TokM.lift_bind_ok_iff {α β} {r : Res α} {f : α → TokM β} {t : Token} {s s' : TokState} {b : β} :
    (TokM.lift r >>= f) t s = (.ok b, s') ↔ ∃ a, r = .ok a ∧ f a t s = (.ok b, s') := by
  rw [lift_bind_run]
  cases r <;> simp

@[simp] theorem TokM.err_bind_run {α β} (k : ErrKind) (f : α → TokM β) (t : Token) (s : TokState) :
    ((TokM.err k : TokM α) >>= f) t s = (.error (.error k), s) := rfl

@[simp] theorem TokM.fail_bind_run {α β} (e : Fail) (f : α → TokM β) (t : Token) (s : TokState) :
    ((TokM.fail e : TokM α) >>= f) t s = (.error e, s) := rfl

theorem ask_run' (op : TokOp) (t : Token) (s : TokState) :
    ask op t s = (.ok (t s.count op), s.push op (t s.count op)) := rfl

theorem askOk_run (op : TokOp) (t : Token) (s : TokState) :
    askOk op t s = if t s.count op = .error then (.error (.error .p11), s.push op .error)
                   else (.ok (t s.count op), s.push op (t s.count op)) := by
  unfold askOk
  rw [bind_run, ask_run']
  cases h : t s.count op <;> simp [TokM.err, TokM.fail, pure]

theorem TokM.bind_assoc {α β γ} (m : TokM α) (f : α → TokM β) (g : β → TokM γ) :
    (m >>= f) >>= g = m >>= fun a => f a >>= g := by
  funext t s
  simp only [bind_run]
  cases h : m t s with
  | mk r s1 => cases r <;> rfl

theorem TokM.pure_bind {α β} (a : α) (f : α → TokM β) : (pure a : TokM α) >>= f = f a := by
  funext t s
  rw [bind_run]
  rfl

theorem TokM.bind_pure {α} (m : TokM α) : m >>= pure = m := by
  funext t s
  rw [bind_run]
  cases h : m t s with
  | mk r s1 => cases r <;> rfl

theorem TokM.fail_bind {α β} (e : Fail) (f : α → TokM β) : (TokM.fail e : TokM α) >>= f = TokM.fail e := by
  funext t s
  rw [bind_run]
  rfl

theorem TokM.bind_congr {α β} (m : TokM α) {f g : α → TokM β} (h : ∀ a, f a = g a) : m >>= f = m >>= g := by
  have : f = g := funext h
  rw [this]

/-- Whatever the token answers, a value that `m` returns satisfies `Q`.  Proved by walking the text of `m`
    forwards (as `Plays` is, Lemmas/Hsm): a failing leaf yields nothing and costs `.fail`, where peeling
    `h : m tok s = (.ok a, s')` bind by bind has to refute it. -/
def Yields {α} (Q : α → Prop) (m : TokM α) : Prop := ∀ tok s a s', m tok s = (.ok a, s') → Q a

namespace Yields
variable {α β : Type} {Q : α → Prop} {R : β → Prop}

theorem pure {a : α} (h : Q a) : Yields Q (Pure.pure a : TokM α) := fun _ _ _ _ e => by cases e; exact h
theorem fail (e : Fail) : Yields Q (TokM.fail e : TokM α) := fun _ _ _ _ h => by cases h
theorem err (k : ErrKind) : Yields Q (TokM.err k : TokM α) := fail _

theorem bind {m : TokM α} {f : α → TokM β} (hm : Yields Q m) (hf : ∀ a, Q a → Yields R (f a)) :
    Yields R (m >>= f) := fun tok s b s' h =>
  let ⟨a, s1, h1, h2⟩ := TokM.bind_ok h
  hf a (hm tok s a s1 h1) tok s1 b s' h2

/-- when nothing is needed of the intermediate value -/
theorem bind_any {m : TokM α} {f : α → TokM β} (hf : ∀ a, Yields R (f a)) : Yields R (m >>= f) :=
  bind (Q := fun _ => True) (fun _ _ _ _ _ => trivial) fun a _ => hf a

theorem mono {Q' : α → Prop} {m : TokM α} (h : Yields Q m) (hq : ∀ a, Q a → Q' a) : Yields Q' m :=
  fun tok s a s' e => hq a (h tok s a s' e)

end Yields

/-- is this logged operation a private-key operation (`C_Sign`)? -/
def isSignOp : TokOp → Bool
  | .sign .. => true
  | _ => false

/-- the object class `get_p11_key` looks for -/
def classOf (isPublic : Bool) : Nat := if isPublic then ckoPublic else ckoPrivate

/-! ### `List.mapM` in `TokM` -/

instance : LawfulMonad TokM := LawfulMonad.mk' TokM
  (id_map := fun x => TokM.bind_pure x)
  (pure_bind := TokM.pure_bind)
  (bind_assoc := TokM.bind_assoc)

/-- what an accepting run of `mapM` is: one result per element, in order, each from an accepting run of `f` -/
theorem TokM.mapM_ok {α β : Type} {f : α → TokM β} {t : Token} :
    ∀ {l : List α} {r : List β} {s s' : TokState}, l.mapM f t s = (.ok r, s') →
      r.length = l.length ∧ ∀ p ∈ l.zip r, ∃ s1 s2, f p.1 t s1 = (.ok p.2, s2)
  | [], r, s, s', h => by
    simp only [List.mapM_nil, TokM.pure_run, Prod.mk.injEq, Except.ok.injEq] at h
    rw [← h.1]; simp
  | a :: l, r, s, s', h => by
    rw [List.mapM_cons] at h
    obtain ⟨b, s1, hb, h⟩ := TokM.bind_ok h
    obtain ⟨bs, s2, hbs, h⟩ := TokM.bind_ok h
    simp only [TokM.pure_run, Prod.mk.injEq, Except.ok.injEq] at h
    obtain ⟨rfl, rfl⟩ := h
    obtain ⟨hlen, hall⟩ := TokM.mapM_ok hbs
    refine ⟨by simp [hlen], fun p hp => ?_⟩
    rcases List.mem_cons.mp (List.zip_cons_cons ▸ hp) with rfl | hp
    · exact ⟨s, s1, hb⟩
    · exact hall p hp

/-- the positional form -/
theorem TokM.mapM_ok_get {α β : Type} {f : α → TokM β} {t : Token} {l : List α} {r : List β} {s s' : TokState}
    (h : l.mapM f t s = (.ok r, s')) :
    r.length = l.length ∧ ∀ (i : Nat) a, l[i]? = some a → ∃ b s1 s2, r[i]? = some b ∧ f a t s1 = (.ok b, s2) := by
  obtain ⟨hlen, hall⟩ := TokM.mapM_ok h
  refine ⟨hlen, fun i a ha => ?_⟩
  obtain ⟨hi, rfl⟩ := List.getElem?_eq_some_iff.mp ha
  obtain ⟨s1, s2, h1⟩ := hall (l[i], r[i]'(hlen ▸ hi)) (List.mem_iff_getElem.mpr ⟨i, by simp; omega, by simp⟩)
  exact ⟨_, s1, s2, List.getElem?_eq_getElem _, h1⟩

end Kskm
