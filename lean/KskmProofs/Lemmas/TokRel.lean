/-
  Results that depend on the token only through its answers.

  `ResultVia P m`: the RESULT (not the log) of the token computation `m` is the same on two tokens —
  from any two states — as soon as the two tokens give the same answer, at whatever operation index,
  to every operation satisfying `P`.  Two uses:

  * `t' = t` (C02, order independence): on a token whose answers do not depend on the operation index
    (`IndexFree`: a store-backed token, a healthy HSM) the result of `_fetch_keys`, `_sign_keys`, …
    does not depend on what was asked before — so the order of the schema lists cannot matter;
  * `t' = storeToken …` (C01, completion): a token that answers reads like the store-backed token of
    C15 / C04 and, in addition, signs, fetches the same keys as `storeToken`; the theorems of C15 /
    C04 about `storeToken` carry over.

  For the operations of the model it follows from the one walk of Lemmas/Hsm.lean (`Plays.via`).
-/
import KskmProofs.Lemmas.Hsm
namespace Kskm

/-- `t` and `t'` answer every operation satisfying `P` alike, at whatever operation index -/
def AnswersAlike (P : TokOp → Prop) (t t' : Token) : Prop := ∀ i j op, P op → t i op = t' j op

/-- the answers of `t` do not depend on the operation index (history-independent token) -/
def IndexFree (t : Token) : Prop := ∀ i j op, t i op = t j op

theorem IndexFree.alike {t : Token} (h : IndexFree t) (P : TokOp → Prop) : AnswersAlike P t t :=
  fun i j op _ => h i j op

/-- the result of `m` depends on the token only through its answers to operations satisfying `P` -/
def ResultVia {α} (P : TokOp → Prop) (m : TokM α) : Prop :=
  ∀ t t' s s', AnswersAlike P t t' → (m t s).1 = (m t' s').1

namespace ResultVia
variable {α β : Type} {P : TokOp → Prop}

theorem pure (a : α) : ResultVia P (Pure.pure a : TokM α) := fun _ _ _ _ _ => rfl
theorem fail (f : Fail) : ResultVia P (TokM.fail f : TokM α) := fun _ _ _ _ _ => rfl
theorem err (k : ErrKind) : ResultVia P (TokM.err k : TokM α) := fun _ _ _ _ _ => rfl
theorem lift (r : Res α) : ResultVia P (TokM.lift r : TokM α) := fun _ _ _ _ _ => rfl

theorem ask (op : TokOp) (h : P op) : ResultVia P (Kskm.ask op) := fun t t' s s' ha => by
  rw [ask_run', ask_run']
  simp only [ha s.count s'.count op h]

theorem bind {m : TokM α} {f : α → TokM β} (hm : ResultVia P m) (hf : ∀ a, ResultVia P (f a)) :
    ResultVia P (m >>= f) := by
  intro t t' s s' ha
  have h1 := hm t t' s s' ha
  rw [bind_run, bind_run]
  cases hr : m t s with
  | mk r s1 =>
    cases hr' : m t' s' with
    | mk r' s1' =>
      rw [hr, hr'] at h1
      simp only at h1
      subst h1
      cases r with
      | error e => rfl
      | ok a => exact hf a t t' s1 s1' ha

/-- on an index-free token the result does not depend on the starting state -/
theorem indep {m : TokM α} (h : ResultVia P m) {t : Token} (ht : IndexFree t) (s s' : TokState) :
    (m t s).1 = (m t s').1 := h t t s s' (ht.alike P)

/-- transfer of a successful run from `t'` to `t` -/
theorem transfer {m : TokM α} (h : ResultVia P m) {t t' : Token} (ha : AnswersAlike P t t')
    {s' s1' : TokState} {a : α} (hr : m t' s' = (.ok a, s1')) (s : TokState) :
    ∃ s1, m t s = (.ok a, s1) := by
  have := h t t' s s' ha
  rw [hr] at this
  exact ⟨(m t s).2, Prod.ext this rfl⟩

end ResultVia

theorem Plays.via {α} {P : TokOp → Prop} {E : Rule → Prop} {m : TokM α} (h : Plays P E m) : ResultVia P m := by
  induction h with
  | pure a => exact ResultVia.pure a
  | fail e _ => exact ResultVia.fail e
  | ask op k h _ ih => exact ResultVia.bind (ResultVia.ask op h) ih

/-- `sign_using_p11` / `_sign_keys` issue `C_Sign` operations only -/
theorem signUsingP11_plays (hash : Hasher) (key : P11Key) (data : Bytes) (alg : Nat) :
    Plays (fun op => isSignOp op = true) (fun _ => True) (signUsingP11 hash key data alg) := by
  unfold signUsingP11
  extract_lets sign
  have tail : ∀ u, Plays (fun op => isSignOp op = true) (fun _ => True) (sign u) := fun _ => by
    refine (Plays.lift fun _ _ => trivial).bind fun d => ?_
    split
    · exact .err _
    · refine Plays.bind (Plays.askOk _ rfl) fun r => ?_
      split
      · exact .pure _
      · exact .unsupported
  split
  · exact .err _
  · exact .err _
  · exact tail ()

theorem signKeys_plays (ext : Externals) (bundle : Bundle) (keys : List Key) (sk : CompositeKey)
    (pol : KskPolicy) :
    Plays (fun op => isSignOp op = true) (fun _ => True) (signKeys ext bundle keys sk pol) := by
  unfold signKeys
  extract_lets _ rest
  have tail : ∀ u, Plays (fun op => isSignOp op = true) (fun _ => True) (rest u) := fun _ => by
    refine (Plays.lift fun _ _ => trivial).bind fun k => ?_
    split
    · exact .err _
    · refine (Plays.lift fun _ _ => trivial).bind fun labels => (Plays.lift fun _ _ => trivial).bind fun raw =>
        (signUsingP11_plays ext.hash sk.p11 raw _).bind fun sigData => ?_
      split
      · exact .err _
      · refine (Plays.lift fun _ _ => trivial).bind fun _ => ?_
        split
        · exact .pure _
        · exact .err _
        · exact .err _
        · exact .unsupported
  split
  · exact .err _
  · exact tail ()

end Kskm
