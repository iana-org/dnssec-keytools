/-
  Helper lemmas about the string built-ins and the three matchers of Kskm/Xml.lean:
  what they consume, and that everything they return is a piece of their input.
-/
import KskmProofs.Lemmas.General
import Kskm.Xml
namespace Kskm.Xml

/-- the two keys of an element with attributes, as the names they are: rewriting with these is free, while
    unfolding `kAttrs` in `simp` or `decide` makes Lean decode the string literal -/
theorem kAttrs_eq : kAttrs = "attrs".toList := rfl
theorem kValue_eq : kValue = "value".toList := rfl

theorem kValue_ne_kAttrs : (kValue == kAttrs) = false := by
  rw [kAttrs_eq, kValue_eq, String.toList_ofList, String.toList_ofList]
  decide

theorem dropWhile_head_not {α} {p : α → Bool} : ∀ {l : List α} {x : α} {r : List α},
    l.dropWhile p = x :: r → p x = false := by
  intro l x r h
  have := List.head?_dropWhile_not p l
  rwa [h] at this

/-! ### `str.strip` -/

theorem rstrip_prefix (p : Char → Bool) (t : List Char) : rstrip p t <+: t := by
  unfold rstrip
  have h := List.dropWhile_suffix (l := t.reverse) p
  have := List.reverse_prefix.mpr h
  simpa using this

theorem lstrip_suffix (p : Char → Bool) (t : List Char) : lstrip p t <:+ t := List.dropWhile_suffix p

theorem strip_infix (p : Char → Bool) (s : List Char) : strip p s <:+: s :=
  (rstrip_prefix p _).isInfix.trans (lstrip_suffix p s).isInfix

theorem strip_length_le (p : Char → Bool) (s : List Char) : (strip p s).length ≤ s.length :=
  (strip_infix p s).length_le

theorem slice_infix (s : List Char) (a b : Nat) : slice s a b <:+: s :=
  (List.drop_suffix a _).isInfix.trans (List.take_prefix b s).isInfix

/-! ### the attribute expression -/

/-- what a match of `^(\w+)="(.+?)"\s*(.*)` says about the text -/
theorem matchAttr_decomp (cls : Classes) (a n v rest : List Char) (h : matchAttr cls a = some (n, v, rest)) :
    ∃ after, a = n ++ '=' :: '"' :: (v ++ '"' :: after) ∧ n ≠ [] ∧ v ≠ [] ∧
      rest = (after.dropWhile cls.isSpace).takeWhile (· ≠ '\n') := by
  unfold matchAttr at h
  simp only at h
  split at h
  · simp at h
  · rename_i hname
    split at h
    · rename_i c r hd
      split at h
      · simp at h
      · split at h
        · rename_i after hq
          simp only [Option.some.injEq, Prod.mk.injEq] at h
          obtain ⟨rfl, rfl, rfl⟩ := h
          refine ⟨after, ?_, by intro hn; simp [hn] at hname, by simp, rfl⟩
          have h1 := List.takeWhile_append_dropWhile (p := cls.isWord) (l := a)
          have h2 := List.takeWhile_append_dropWhile (p := fun x => x ≠ '"' && x ≠ '\n') (l := r)
          rw [hd] at h1
          rw [hq] at h2
          exact h1.symm.trans (by rw [List.cons_append, h2])
        · simp at h
    · simp at h

/-- a successful match consumes at least five characters: one of the name, `="`, one of the value, `"` -/
theorem matchAttr_consumes (cls : Classes) (a n v rest : List Char)
    (h : matchAttr cls a = some (n, v, rest)) : rest.length + 5 ≤ a.length := by
  obtain ⟨after, rfl, hn, hv, rfl⟩ := matchAttr_decomp cls a n v rest h
  have h3 : ((after.dropWhile cls.isSpace).takeWhile (· ≠ '\n')).length ≤ after.length :=
    Nat.le_trans (List.takeWhile_prefix _).length_le (List.dropWhile_suffix _).length_le
  have := List.length_pos_iff.mpr hn
  have := List.length_pos_iff.mpr hv
  simp only [List.length_append, List.length_cons]
  omega

theorem matchAttr_infix (cls : Classes) (a n v rest : List Char)
    (h : matchAttr cls a = some (n, v, rest)) : n <+: a ∧ v <:+: a ∧ rest <:+: a := by
  obtain ⟨after, rfl, _, _, rfl⟩ := matchAttr_decomp cls a n v rest h
  refine ⟨List.prefix_append _ _, ⟨n ++ ['=', '"'], '"' :: after, by simp⟩, ?_⟩
  exact (List.takeWhile_prefix _).isInfix.trans ((List.dropWhile_suffix _).isInfix.trans
    ⟨n ++ '=' :: '"' :: (v ++ ['"']), [], by simp⟩)

theorem matchAttr_none_of_no_quote (cls : Classes) (a : List Char) (h : '"' ∉ a) : matchAttr cls a = none := by
  cases hm : matchAttr cls a with
  | none => rfl
  | some t =>
    obtain ⟨after, rfl, _⟩ := matchAttr_decomp cls a t.1 t.2.1 t.2.2 hm
    exact absurd (by simp) h

/-- two range tables have no code point in common -/
def rangesDisjoint (a b : List (Nat × Nat)) : Bool :=
  a.all fun x => b.all fun y => decide (x.2 < y.1) || decide (y.2 < x.1)

theorem inRanges_disjoint (a b : List (Nat × Nat)) (h : rangesDisjoint a b = true) (c : Char) :
    ¬ (inRanges a c = true ∧ inRanges b c = true) := by
  rintro ⟨ha, hb⟩
  simp only [inRanges, List.any_eq_true, Bool.and_eq_true, decide_eq_true_eq] at ha hb
  obtain ⟨x, hx, hx1, hx2⟩ := ha
  obtain ⟨y, hy, hy1, hy2⟩ := hb
  simp only [rangesDisjoint, List.all_eq_true, Bool.or_eq_true, decide_eq_true_eq] at h
  have := h x hx y hy
  omega

end Kskm.Xml
