/-
  Non-vacuity for C12's sibling-order theorems: a KSR-shaped document (header attributes, a request policy
  with six durations and two signature algorithms, five levels of nesting) and the same document with the
  children of `ZSK` in another order — the two `SignatureAlgorithm` siblings swapped and moved in front of the
  durations — and other white space between them.  Both are plain (`PlainW`) under Python's character classes, they
  are `ChildPermT`, both load, and the loaded policies list the two algorithms in different orders (a `set` in
  Python): equal as sets, not as lists.
-/
import KskmProofs.Lemmas.XmlGlueSame
import KskmProofs.Lemmas.XmlPlainDec
import KskmProofs.Lemmas.Literals
namespace Kskm.Xml.SiblingExample

def at1 (k v : String) : List Char × (List Char × List Char) := ([' '], (k.toList, v.toList))
def dur (n v : String) : WTree := .leaf n.toList [] [] v.toList
def sigAlg (a : String) : WTree :=
  .node "SignatureAlgorithm".toList [at1 "algorithm" a] [] [] (.empty "RSA".toList [at1 "size" "2048", at1 "exponent" "65537"] [])
    .nil []

def d1 : WTree := dur "PublishSafety" "P10D"
def d2 : WTree := dur "RetireSafety" "P10D"
def d3 : WTree := dur "MaxSignatureValidity" "P21D"
def d4 : WTree := dur "MinSignatureValidity" "P21D"
def d5 : WTree := dur "MaxValidityOverlap" "P12D"
def d6 : WTree := dur "MinValidityOverlap" "P9D"

def wrap (zsk : WTree) : WTree :=
  .node "KSR".toList [at1 "id" "4fe9bb10", at1 "serial" "99", at1 "domain" "."] [] ['\n']
    (.node "Request".toList [] [] ['\n'] (.node "RequestPolicy".toList [] [] ['\n'] zsk .nil ['\n']) .nil ['\n'])
    .nil ['\n']

/-- the schema's order: durations, then the algorithms 8 and 10 -/
def doc : WTree :=
  wrap (.node "ZSK".toList [] [] ['\n'] d1
    (.cons ['\n'] d2 (.cons ['\n'] d3 (.cons ['\n'] d4 (.cons ['\n'] d5 (.cons ['\n'] d6
      (.cons ['\n'] (sigAlg "8") (.cons ['\n'] (sigAlg "10") .nil))))))) ['\n'])

/-- algorithm 10 before algorithm 8, both before the durations; other white space -/
def docP : WTree :=
  wrap (.node "ZSK".toList [] [] [' '] (sigAlg "10")
    (.cons [] (sigAlg "8") (.cons ['\t'] d1 (.cons [] d2 (.cons [' ', ' '] d3 (.cons ['\n'] d4 (.cons [] d5
      (.cons ['\n', ' '] d6 .nil))))))) [])

theorem doc_plain : PlainW pyClasses doc ∧ heightW doc ≤ 5 := by
  simp only [doc, wrap, d1, d2, d3, d4, d5, d6, dur, sigAlg, at1]
  chars
  decide +kernel

theorem docP_plain : PlainW pyClasses docP ∧ heightW docP ≤ 5 := by
  simp only [docP, wrap, d1, d2, d3, d4, d5, d6, dur, sigAlg, at1]
  chars
  decide +kernel

/-- only differently named siblings change places: `RetireSafety` before `PublishSafety` -/
def docM : WTree :=
  wrap (.node "ZSK".toList [] [] ['\n'] d2
    (.cons [' '] d1 (.cons ['\n'] d3 (.cons ['\n'] d4 (.cons ['\n'] d5 (.cons ['\n'] d6
      (.cons ['\n'] (sigAlg "8") (.cons ['\n'] (sigAlg "10") .nil))))))) ['\n'])

theorem docM_plain : PlainW pyClasses docM ∧ heightW docM ≤ 5 := by
  simp only [docM, wrap, d1, d2, d3, d4, d5, d6, dur, sigAlg, at1]
  chars
  decide +kernel

/-- `docM` is `doc` with two differently named children of `ZSK` swapped -/
theorem doc_move : ChildMoveT (eraseT doc) (eraseT docM) := by
  have hz : ChildMoveL
      [eraseT d1, eraseT d2, eraseT d3, eraseT d4, eraseT d5, eraseT d6, eraseT (sigAlg "8"), eraseT (sigAlg "10")]
      [eraseT d2, eraseT d1, eraseT d3, eraseT d4, eraseT d5, eraseT d6, eraseT (sigAlg "8"), eraseT (sigAlg "10")] :=
    .swap _ _ _ (by decide)
  exact .node _ _ _ _ _ _ _ _ (.cons (.node _ _ _ _ _ _ _ _ (.cons (.node _ _ _ _ _ _ _ _ (.cons
    (.node _ _ _ _ _ _ _ _ hz) .nil)) .nil)) .nil)

theorem doc_names : doc.name = "KSR".toList ∧ docP.name = "KSR".toList := ⟨rfl, rfl⟩

/-- `docP` is `doc` with the children of `ZSK` permuted -/
theorem doc_perm : ChildPermT (eraseT doc) (eraseT docP) := by
  have hz : ChildPermL
      [eraseT d1, eraseT d2, eraseT d3, eraseT d4, eraseT d5, eraseT d6, eraseT (sigAlg "8"), eraseT (sigAlg "10")]
      [eraseT (sigAlg "10"), eraseT (sigAlg "8"), eraseT d1, eraseT d2, eraseT d3, eraseT d4, eraseT d5, eraseT d6] := by
    apply ChildPermL.of_perm
    have h1 : ([eraseT d1, eraseT d2, eraseT d3, eraseT d4, eraseT d5, eraseT d6] ++
        [eraseT (sigAlg "8"), eraseT (sigAlg "10")]).Perm
        ([eraseT (sigAlg "8"), eraseT (sigAlg "10")] ++ [eraseT d1, eraseT d2, eraseT d3, eraseT d4, eraseT d5, eraseT d6]) :=
      List.perm_append_comm
    exact h1.trans (List.Perm.swap _ _ _)
  exact .node _ _ _ _ _ _ _ _ (.cons (.node _ _ _ _ _ _ _ _ (.cons (.node _ _ _ _ _ _ _ _ (.cons
    (.node _ _ _ _ _ _ _ _ hz) .nil)) .nil)) .nil)

def p8 : AlgPolicy := { kind := .rsa, bits := 2048, algorithm := 8, exponent := some 65537 }
def p10 : AlgPolicy := { kind := .rsa, bits := 2048, algorithm := 10, exponent := some 65537 }

/-- both standard readings load; the declared algorithms come out in document order — `[8, 10]` and
    `[10, 8]`: the same Python `set`, different lists -/
theorem doc_loads (gs : GlueSwitches) :
    (requestFromDict gs (.dict (dictOf (eraseT doc)))).map (fun r => (r.id, r.serial, r.domain, r.zskPolicy.algorithms, r.bundles)) =
      .ok ("4fe9bb10", 99, ".", [p8, p10], []) ∧
    (requestFromDict gs (.dict (dictOf (eraseT docP)))).map (fun r => (r.id, r.serial, r.domain, r.zskPolicy.algorithms, r.bundles)) =
      .ok ("4fe9bb10", 99, ".", [p10, p8], []) := by
  simp only [doc, docP, wrap, d1, d2, d3, d4, d5, d6, dur, sigAlg, at1]
  chars
  -- neither document has a `RequestBundle`: one evaluation each, at the switches of the tree in /repo
  rw [requestFromDict_no_bundles gs pyGlueSwitches (by decide +kernel),
    requestFromDict_no_bundles gs pyGlueSwitches (by decide +kernel)]
  exact ⟨by decide +kernel, by decide +kernel⟩

theorem map_ok_comp {α β γ} {x : Res α} {f : α → β} {y : β} (h : x.map f = .ok y) (g : β → γ) :
    x.map (fun a => g (f a)) = .ok (g y) := by
  cases x with
  | error e => cases h
  | ok a => exact congrArg (fun b => Except.ok (g b)) (Except.ok.inj h)

theorem doc_algs (gs : GlueSwitches) :
    (requestFromDict gs (.dict (dictOf (eraseT doc)))).map (·.zskPolicy.algorithms) = .ok [p8, p10] ∧
    (requestFromDict gs (.dict (dictOf (eraseT docP)))).map (·.zskPolicy.algorithms) = .ok [p10, p8] :=
  ⟨map_ok_comp (doc_loads gs).1 (·.2.2.2.1), map_ok_comp (doc_loads gs).2 (·.2.2.2.1)⟩

/-- the first document's standard reading loads -/
theorem doc_request (gs : GlueSwitches) :
    ∃ r, requestFromDict gs (.dict (dictOf (eraseT doc))) = .ok r ∧ r.zskPolicy.algorithms = [p8, p10] := by
  have h := (doc_algs gs).1
  cases hr : requestFromDict gs (.dict (dictOf (eraseT doc))) with
  | error e => rw [hr] at h; cases h
  | ok r =>
    rw [hr] at h
    simp only [Except.map, Except.ok.injEq] at h
    exact ⟨r, rfl, h⟩

/-- the two readings differ as values (lists of same-named siblings in document order) — `DictPerm` is not `=` -/
theorem doc_dict_ne : dictOf (eraseT docP) ≠ dictOf (eraseT doc) := by
  simp only [doc, docP, wrap, d1, d2, d3, d4, d5, d6, dur, sigAlg, at1]
  chars
  decide +kernel

/-- a loader built from `parse_ksr` returns what the glue returns on the parsed dict -/
theorem fromXmlWith_ok {α} {cls : Classes} {sw : Switches} {glue : XVal → Res α} {x : List Char} {d : Dict} {r : α}
    (h : parseKsr cls sw x = .ok d) (hg : glue (.dict d) = .ok r) : fromXmlWith cls sw glue x = .done (.ok r) :=
  fromXmlWith_ok_iff.mpr ⟨d, h, hg⟩

end Kskm.Xml.SiblingExample
