/-
  The character classes of the running Python (`\w`, `\s`, `str.strip()` as tabulated in `KskmGen`): the facts
  about the tables that the reader theorems need.
-/
import KskmProofs.Lemmas.XmlBasic
namespace Kskm.Xml

theorem word_space_disjoint : rangesDisjoint KskmGen.wordRanges KskmGen.spaceRanges = true := by decide +kernel

/-- `str.strip()` removes exactly the characters `\s` matches -/
theorem stripRanges_eq : KskmGen.stripRanges = KskmGen.spaceRanges := by decide +kernel

/-- none of `< > = " /` is a word character (used by `pyClasses_sane` of KskmProofs/C12.lean and `classes_sane` of
    KskmProofs/C13.lean) -/
theorem pyClasses_word_punct :
    pyClasses.isWord '<' = false ∧ pyClasses.isWord '>' = false ∧ pyClasses.isWord '=' = false ∧
    pyClasses.isWord '"' = false ∧ pyClasses.isWord '/' = false := by decide +kernel

theorem pyClasses_strip_eq_space : pyClasses.isStrip = pyClasses.isSpace := by
  simp only [pyClasses, stripRanges_eq]

theorem pyClasses_word_not_space (c : Char) : ¬ (pyClasses.isWord c = true ∧ pyClasses.isSpace c = true) :=
  inRanges_disjoint _ _ word_space_disjoint c

end Kskm.Xml
