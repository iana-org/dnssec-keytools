/-
  Attribute order (C12): Python's `==` on what the reader returns, and the standard reading up to it.

  The reader returns `dict`s; a Python dict remembers insertion order but compares WITHOUT it.  `dictOf`
  (KskmProofs/Lemmas/XmlRender.lean) lists the attributes of an element in document order, so two documents
  that differ only in the order of attributes have different `dictOf` LISTS that are equal as Python
  values.  `DictEq` is that equality on `XVal`:

      str   by content,      list   element by element, in order,
      dict  key by key: the same keys are present, and under each key the values are `DictEq`
            (`List.lookup` is `d[k]`; the reader's dicts have unique keys, so nothing is shadowed).

  It is an equivalence relation (`DictEq.refl / symm / trans`).

  `AttrPermT t t'`: `t'` is `t` with the attributes of every element permuted (and any insignificant white
  space changed).  `valT_attrPerm` / `dictOf_attrPerm`: when attribute names are distinct within each
  element (XML: "Unique Att Spec"), the standard readings are `DictEq`.  Written about the specification
  side only; KskmProofs/C12.lean composes it with the reader theorem, KskmProofs/Lemmas/XmlGlueEq.lean
  shows that the glue cannot tell `DictEq` values apart.
-/
import KskmProofs.Lemmas.XmlStore
import KskmProofs.Lemmas.XmlRender
namespace Kskm.Xml

mutual
/-- Python's `==` on the reader's values -/
inductive DictEq : XVal → XVal → Prop
  | str (s : List Char) : DictEq (.str s) (.str s)
  | list {l l' : List XVal} : ListEq l l' → DictEq (.list l) (.list l')
  | dict {d d' : Dict} : (∀ k, d.lookup k = none ↔ d'.lookup k = none) →
      (∀ k v v', d.lookup k = some v → d'.lookup k = some v' → DictEq v v') → DictEq (.dict d) (.dict d')
inductive ListEq : List XVal → List XVal → Prop
  | nil : ListEq [] []
  | cons {v v' : XVal} {l l' : List XVal} : DictEq v v' → ListEq l l' → ListEq (v :: l) (v' :: l')
end

/-- two dicts with the same keys and `DictEq` values under each key (the body of `DictEq.dict`) -/
def DictRel (d d' : Dict) : Prop :=
  (∀ k, d.lookup k = none ↔ d'.lookup k = none) ∧
  (∀ k v v', d.lookup k = some v → d'.lookup k = some v' → DictEq v v')

theorem DictEq.of_rel {d d' : Dict} (h : DictRel d d') : DictEq (.dict d) (.dict d') := .dict h.1 h.2

theorem DictEq.rel {d d' : Dict} (h : DictEq (.dict d) (.dict d')) : DictRel d d' := by
  cases h with
  | dict h1 h2 => exact ⟨h1, h2⟩

mutual
theorem DictEq.refl : ∀ (v : XVal), DictEq v v
  | .str s => .str s
  | .list l => .list (ListEq.refl l)
  | .dict d => .dict (fun _ => Iff.rfl) (fun k v v' hv hv' => by
      rw [hv] at hv'
      cases hv'
      exact entries_refl d k v hv)
theorem ListEq.refl : ∀ (l : List XVal), ListEq l l
  | [] => .nil
  | v :: l => .cons (DictEq.refl v) (ListEq.refl l)
theorem entries_refl : ∀ (d : List (List Char × XVal)) (k : List Char) (v : XVal), d.lookup k = some v → DictEq v v
  | [], _, _, h => by simp [List.lookup] at h
  | (k0, v0) :: r, k, v, h => by
    rw [List.lookup_cons] at h
    cases hb : (k == k0) with
    | true =>
      rw [hb] at h
      simp only [Option.some.injEq] at h
      rw [← h]
      exact DictEq.refl v0
    | false =>
      rw [hb] at h
      exact entries_refl r k v h
end

mutual
theorem DictEq.symm : ∀ {a b : XVal}, DictEq a b → DictEq b a
  | _, _, .str s => .str s
  | _, _, .list h => .list (ListEq.symm h)
  | _, _, .dict h1 h2 => .dict (fun k => (h1 k).symm) (fun k v v' hv hv' => DictEq.symm (h2 k v' v hv' hv))
theorem ListEq.symm : ∀ {a b : List XVal}, ListEq a b → ListEq b a
  | _, _, .nil => .nil
  | _, _, .cons h t => .cons (DictEq.symm h) (ListEq.symm t)
end

mutual
theorem DictEq.trans : ∀ {a b c : XVal}, DictEq a b → DictEq b c → DictEq a c
  | _, _, _, .str _, h => h
  | _, _, _, .list h, .list h' => .list (ListEq.trans h h')
  | _, _, _, .dict (d' := d') h1 h2, .dict h1' h2' =>
    .dict (fun k => (h1 k).trans (h1' k)) (fun k v v'' hv hv'' => by
      cases hm : d'.lookup k with
      | none => rw [(h1 k).mpr hm] at hv; cases hv
      | some v' => exact DictEq.trans (h2 k v v' hv hm) (h2' k v' v'' hm hv''))
theorem ListEq.trans : ∀ {a b c : List XVal}, ListEq a b → ListEq b c → ListEq a c
  | _, _, _, .nil, h => h
  | _, _, _, .cons h t, .cons h' t' => .cons (DictEq.trans h h') (ListEq.trans t t')
end

theorem DictRel.refl (d : Dict) : DictRel d d := (DictEq.refl (.dict d)).rel

theorem ListEq.append : ∀ {a a' b b' : List XVal}, ListEq a a' → ListEq b b' → ListEq (a ++ b) (a' ++ b')
  | _, _, _, _, .nil, h => h
  | _, _, _, _, .cons h t, h' => .cons h (ListEq.append t h')

/-- `DictEq` values are of the same Python type -/
theorem DictEq.isList {a b : XVal} (h : DictEq a b) : a.isList = b.isList := by
  cases h <;> rfl

/-! ### the `attrs` dict of attributes with distinct names, in two orders -/

/-- attributes with distinct names: the dict the attribute loop builds is the attribute list itself -/
theorem foldl_dictSet_nodup : ∀ (a acc : Attrs), (∀ p ∈ a, ∀ q ∈ acc, q.1 ≠ p.1) → (a.map (·.1)).Nodup →
    a.foldl (fun acc p => dictSet acc p.1 p.2) acc = acc ++ a := by
  intro a
  induction a with
  | nil => intro acc _ _; simp
  | cons p r ih =>
    intro acc hd hn
    simp only [List.map_cons, List.nodup_cons] at hn
    have hset : dictSet acc p.1 p.2 = acc ++ [(p.1, p.2)] := by
      unfold dictSet
      have : acc.any (fun q => decide (q.1 = p.1)) = false := by
        rw [List.any_eq_false]
        intro q hq
        simpa using hd p (by simp) q hq
      simp [this]
    rw [List.foldl_cons, hset, ih]
    · simp
    · intro p' hp' q hq
      rcases List.mem_append.mp hq with hq | hq
      · exact hd p' (List.mem_cons_of_mem _ hp') q hq
      · simp only [List.mem_singleton] at hq
        subst hq
        intro he
        exact hn.1 (by rw [List.mem_map]; exact ⟨p', hp', he.symm⟩)
    · exact hn.2

theorem attrsDict_nodup (a : Attrs) (hn : (a.map (·.1)).Nodup) : attrsDict a = a := by
  unfold attrsDict
  rw [foldl_dictSet_nodup a [] (by intro _ _ q hq; simp at hq) hn]
  simp

theorem lookup_map_str (a : Attrs) (k : List Char) :
    (a.map fun p => (p.1, XVal.str p.2)).lookup k = (a.lookup k).map XVal.str := by
  induction a with
  | nil => rfl
  | cons p r ih =>
    obtain ⟨pk, pv⟩ := p
    simp only [List.map_cons, List.lookup_cons]
    cases (k == pk) with
    | true => rfl
    | false => exact ih

/-- the `attrs` dicts of two permutations of distinct-named attributes are `DictEq` -/
theorem attrs_rel {a a' : Attrs} (hp : a.Perm a') (hn : (a.map (·.1)).Nodup) :
    DictEq (.dict ((attrsDict a).map fun p => (p.1, .str p.2))) (.dict ((attrsDict a').map fun p => (p.1, .str p.2))) := by
  have hn' : (a'.map (·.1)).Nodup := (hp.map (·.1)).nodup_iff.mp hn
  rw [attrsDict_nodup a hn, attrsDict_nodup a' hn']
  have hl : ∀ k, (a.map fun p => (p.1, XVal.str p.2)).lookup k = (a'.map fun p => (p.1, XVal.str p.2)).lookup k := by
    intro k
    rw [lookup_map_str, lookup_map_str, lookup_perm hp hn k]
  refine .dict (fun k => by rw [hl k]) (fun k v v' hv hv' => ?_)
  rw [hl k, hv'] at hv
  cases hv
  exact DictEq.refl _

/-! ### `_store_element` and `{attrs, value}` respect `DictEq` -/

theorem DictRel.lookup_some {d d' : Dict} (h : DictRel d d') {k : List Char} {v : XVal} (hv : d.lookup k = some v) :
    ∃ v', d'.lookup k = some v' ∧ DictEq v v' := by
  cases hv' : d'.lookup k with
  | none => rw [(h.1 k).mpr hv'] at hv; cases hv
  | some v' => exact ⟨v', rfl, h.2 k v v' hv hv'⟩

/-- a dict described by its lookups: related when the lookups are -/
theorem dictRel_of_lookups {d d' : Dict}
    (h : ∀ k, (d.lookup k = none ∧ d'.lookup k = none) ∨ ∃ v v', d.lookup k = some v ∧ d'.lookup k = some v' ∧ DictEq v v') :
    DictRel d d' := by
  constructor
  · intro k
    rcases h k with ⟨h1, h2⟩ | ⟨v, v', h1, h2, _⟩
    · simp [h1, h2]
    · simp [h1, h2]
  · intro k v v' hv hv'
    rcases h k with ⟨h1, _⟩ | ⟨u, u', h1, h2, hr⟩
    · rw [h1] at hv; cases hv
    · rw [h1] at hv; rw [h2] at hv'
      cases hv; cases hv'
      exact hr

theorem DictRel.lookups {d d' : Dict} (h : DictRel d d') (k : List Char) :
    (d.lookup k = none ∧ d'.lookup k = none) ∨ ∃ v v', d.lookup k = some v ∧ d'.lookup k = some v' ∧ DictEq v v' := by
  cases hv : d.lookup k with
  | none => exact Or.inl ⟨rfl, (h.1 k).mp hv⟩
  | some v =>
    obtain ⟨v', hv', hr⟩ := h.lookup_some hv
    exact Or.inr ⟨v, v', rfl, hv', hr⟩

/-- the values under one key of two `DictRel` dicts -/
inductive OptRel : Option XVal → Option XVal → Prop
  | none : OptRel none none
  | some {u v : XVal} : DictEq u v → OptRel (some u) (some v)

theorem lookup_rel {d d' : Dict} (h : DictRel d d') (k : List Char) : OptRel (d.lookup k) (d'.lookup k) := by
  rcases h.lookups k with ⟨h1, h2⟩ | ⟨v, v', h1, h2, hr⟩
  · rw [h1, h2]; exact .none
  · rw [h1, h2]; exact .some hr

/-- **`_store_element` respects `DictEq`**: related values stored under one name in related dicts leave related dicts -/
theorem storeElement_rel {d d' : Dict} (h : DictRel d d') (n : List Char) {v v' : XVal} (hv : DictEq v v') :
    DictRel (storeElement d n v) (storeElement d' n v') := by
  apply dictRel_of_lookups
  intro k
  by_cases hk : k = n
  · subst hk
    rw [storeElement_self, storeElement_self]
    refine Or.inr ⟨_, _, rfl, rfl, ?_⟩
    rcases h.lookups k with ⟨h1, h2⟩ | ⟨old, old', h1, h2, hr⟩
    · rw [h1, h2]; exact hv
    · rw [h1, h2]
      cases hr with
      | str s => exact .list (.cons (.str s) (.cons hv .nil))
      | list hl => exact .list (hl.append (.cons hv .nil))
      | dict g1 g2 => exact .list (.cons (.dict g1 g2) (.cons hv .nil))
  · rw [storeElement_other hk, storeElement_other hk]
    exact h.lookups k

/-- `{"attrs": A, "value": v}` respects `DictEq` in both entries -/
theorem attrs_value_rel {A A' v v' : XVal} (hA : DictEq A A') (hv : DictEq v v') :
    DictEq (.dict [(kAttrs, A), (kValue, v)]) (.dict [(kAttrs, A'), (kValue, v')]) := by
  apply DictEq.of_rel
  apply dictRel_of_lookups
  intro k
  rw [lookup_attrs_value, lookup_attrs_value]
  split
  · exact Or.inr ⟨A, A', rfl, rfl, hA⟩
  · split
    · exact Or.inr ⟨v, v', rfl, rfl, hv⟩
    · exact Or.inl ⟨rfl, rfl⟩

/-- **`{"attrs": …, "value": …}` respects `DictEq`** of the value, for the same attributes -/
theorem elementValue_relE (a : Option Attrs) {v v' : XVal} (hv : DictEq v v') :
    DictEq (elementValue a v) (elementValue a v') := by
  cases a with
  | none => exact hv
  | some a => exact attrs_value_rel (DictEq.refl _) hv

/-- … and attribute order -/
theorem elementValue_rel {a a' : Attrs} (hp : a.Perm a') (hn : (a.map (·.1)).Nodup) {v v' : XVal} (hv : DictEq v v') :
    DictEq (elementValue (attrsOpt a) v) (elementValue (attrsOpt a') v') := by
  have hempty : a'.isEmpty = a.isEmpty := by
    cases a with
    | nil => rw [hp.nil_eq]
    | cons p r =>
      cases a' with
      | nil => exact absurd hp.symm.nil_eq (by simp)
      | cons _ _ => rfl
  unfold attrsOpt
  rw [hempty]
  cases a.isEmpty with
  | true => simpa [elementValue] using hv
  | false => exact attrs_value_rel (attrs_rel hp hn) hv

/-! ### the same document with permuted attributes -/

mutual
/-- `t'` is `t` with the attributes of every element permuted (white space that the standard reading
    ignores may differ too) -/
def AttrPermT : PTree → PTree → Prop
  | .leaf n a _ text, .leaf n' a' _ text' => n = n' ∧ a.Perm a' ∧ text = text'
  | .empty n a _, .empty n' a' _ => n = n' ∧ a.Perm a'
  | .node n a _ _ first rest _, .node n' a' _ _ first' rest' _ =>
    n = n' ∧ a.Perm a' ∧ AttrPermT first first' ∧ AttrPermF rest rest'
  | _, _ => False
def AttrPermF : PForest → PForest → Prop
  | .nil, .nil => True
  | .cons _ t f, .cons _ t' f' => AttrPermT t t' ∧ AttrPermF f f'
  | _, _ => False
end

mutual
/-- XML's "Unique Att Spec": no attribute name twice in one start tag -/
def UniqueAttrsT : PTree → Prop
  | .leaf _ a _ _ => (a.map (·.1)).Nodup
  | .empty _ a _ => (a.map (·.1)).Nodup
  | .node _ a _ _ first rest _ => (a.map (·.1)).Nodup ∧ UniqueAttrsT first ∧ UniqueAttrsF rest
def UniqueAttrsF : PForest → Prop
  | .nil => True
  | .cons _ t f => UniqueAttrsT t ∧ UniqueAttrsF f
end

theorem AttrPermT.name : ∀ {t t' : PTree}, AttrPermT t t' → t.name = t'.name
  | .leaf .., .leaf .., h => by simp only [AttrPermT] at h; exact h.1
  | .empty .., .empty .., h => by simp only [AttrPermT] at h; exact h.1
  | .node .., .node .., h => by simp only [AttrPermT] at h; exact h.1
  | .leaf .., .empty .., h => by simp [AttrPermT] at h
  | .leaf .., .node .., h => by simp [AttrPermT] at h
  | .empty .., .leaf .., h => by simp [AttrPermT] at h
  | .empty .., .node .., h => by simp [AttrPermT] at h
  | .node .., .leaf .., h => by simp [AttrPermT] at h
  | .node .., .empty .., h => by simp [AttrPermT] at h

mutual
/-- **The standard reading does not depend on attribute order, up to `==`.** -/
theorem valT_attrPerm : ∀ (t t' : PTree), AttrPermT t t' → UniqueAttrsT t → DictEq (valT t) (valT t')
  | .leaf n a g text, .leaf n' a' g' text', h, hu => by
    simp only [AttrPermT] at h
    simp only [UniqueAttrsT] at hu
    obtain ⟨_, hp, rfl⟩ := h
    simp only [valT]
    exact elementValue_rel hp hu (.str _)
  | .empty n a g, .empty n' a' g', h, hu => by
    simp only [AttrPermT] at h
    simp only [UniqueAttrsT] at hu
    simp only [valT]
    exact elementValue_rel h.2 hu (.str _)
  | .node n a g pre first rest post, .node n' a' g' pre' first' rest' post', h, hu => by
    simp only [AttrPermT] at h
    simp only [UniqueAttrsT] at hu
    obtain ⟨_, hp, hf, hr⟩ := h
    simp only [valT]
    apply elementValue_rel hp hu.1
    apply DictEq.of_rel
    apply storeF_attrPerm rest rest' hr hu.2.2
    rw [hf.name]
    exact storeElement_rel (DictRel.refl []) _ (valT_attrPerm first first' hf hu.2.1)
  | .leaf .., .empty .., h, _ => by simp [AttrPermT] at h
  | .leaf .., .node .., h, _ => by simp [AttrPermT] at h
  | .empty .., .leaf .., h, _ => by simp [AttrPermT] at h
  | .empty .., .node .., h, _ => by simp [AttrPermT] at h
  | .node .., .leaf .., h, _ => by simp [AttrPermT] at h
  | .node .., .empty .., h, _ => by simp [AttrPermT] at h
theorem storeF_attrPerm : ∀ (f f' : PForest), AttrPermF f f' → UniqueAttrsF f → ∀ {d d' : Dict}, DictRel d d' →
    DictRel (storeF d f) (storeF d' f')
  | .nil, .nil, _, _, _, _, hd => by simpa [storeF] using hd
  | .cons _ t f, .cons _ t' f', h, hu, _, _, hd => by
    simp only [AttrPermF] at h
    simp only [UniqueAttrsF] at hu
    simp only [storeF]
    apply storeF_attrPerm f f' h.2 hu.2
    rw [h.1.name]
    exact storeElement_rel hd _ (valT_attrPerm t t' h.1 hu.1)
  | .nil, .cons .., h, _, _, _, _ => by simp [AttrPermF] at h
  | .cons .., .nil, h, _, _, _, _ => by simp [AttrPermF] at h
end

/-- the document's dict is its root element stored into the empty dict -/
theorem dictOf_eq_store (t : PTree) : dictOf t = storeElement [] t.name (valT t) := rfl

/-- the dicts of two documents that differ in attribute order (and layout) are equal as Python values -/
theorem dictOf_attrPerm (t t' : PTree) (h : AttrPermT t t') (hu : UniqueAttrsT t) :
    DictEq (.dict (dictOf t)) (.dict (dictOf t')) := by
  rw [dictOf_eq_store, dictOf_eq_store, ← h.name]
  exact DictEq.of_rel (storeElement_rel (DictRel.refl []) t.name (valT_attrPerm t t' h hu))

end Kskm.Xml
