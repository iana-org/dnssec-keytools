/-
  Helper lemmas for C13: progress of the two fuelled loops, bounds on every index the reader computes,
  absence of fuel exhaustion for the repaired attribute loop, and stability of the result under more fuel.
  `innerAt`: at every recursion bound `parseRec` is the element loop with `len + 1` units of fuel around one
  recursive call, so what is shown of the loop for any such call holds at every bound.
-/
import KskmProofs.Lemmas.XmlTag
namespace Kskm.Xml

theorem parseAttrs_nil (cls : Classes) (sw : Switches) (fuel : Nat) (acc : Attrs) :
    parseAttrs cls sw fuel [] acc = .ok acc := by
  cases fuel <;> simp [parseAttrs]

theorem parseAttrs_ne_outOfFuel (cls : Classes) (sw : Switches) (hsw : sw.attrsLoopFailsOnNoMatch = true) :
    ∀ (fuel : Nat) (a : List Char) (acc : Attrs), a.length < fuel →
      parseAttrs cls sw fuel a acc ≠ .outOfFuel := by
  intro fuel
  induction fuel with
  | zero => intro a acc h; omega
  | succ f ih =>
    intro a acc h
    unfold parseAttrs
    split
    · simp
    · simp only
      split
      · rename_i n v rest hm
        apply ih
        have := matchAttr_consumes cls _ n v rest hm
        have := strip_length_le cls.isStrip a
        omega
      · split
        · rename_i hs
          split
          · simp
          · have : strip cls.isStrip a = [] := by simpa using hs
            rw [this, parseAttrs_nil]; simp
        · simp

theorem parseAttrs_fuel_stable (cls : Classes) (sw : Switches) :
    ∀ (fuel : Nat) (a : List Char) (acc : Attrs), parseAttrs cls sw fuel a acc ≠ .outOfFuel →
      ∀ fuel', fuel ≤ fuel' → parseAttrs cls sw fuel' a acc = parseAttrs cls sw fuel a acc := by
  intro fuel
  induction fuel with
  | zero =>
    intro a acc h fuel' _
    unfold parseAttrs at h
    split at h
    · rename_i he
      have : a = [] := by simpa using he
      subst this
      rw [parseAttrs_nil, parseAttrs_nil]
    · exact absurd rfl h
  | succ f ih =>
    intro a acc h fuel' hle
    cases fuel' with
    | zero => omega
    | succ f' =>
      unfold parseAttrs at h ⊢
      split
      · rfl
      · rename_i he
        simp only [he] at h
        simp only at h ⊢
        split
        · rename_i n v rest hm
          simp only [hm] at h
          exact ih _ _ h f' (by omega)
        · rename_i hm
          simp only [hm] at h
          split
          · rename_i hs
            simp only [hs, ↓reduceIte] at h
            split
            · rfl
            · rename_i hb
              simp only [hb] at h
              exact ih _ _ h f' (by omega)
          · rename_i hs
            simp only [hs] at h
            split
            · rfl
            · rename_i hl
              simp only [hl] at h
              exact ih _ _ h f' (by omega)

theorem parseTag_bounds (cls : Classes) (sw : Switches) (xml name : List Char) (attrs : Option Attrs) (e : Nat)
    (h : parseTag cls sw xml = .ok (name, attrs, e)) :
    3 ≤ e ∧ e ≤ xml.length ∧ name <:+: xml ∧ name ≠ [] := by
  unfold parseTag at h
  split at h
  · rename_i n ws a s hm
    obtain ⟨rest, hx, hn, hws, ha, _, _⟩ := matchTag1_decomp cls xml n ws a s hm
    split at h
    · simp only [Out.ok.injEq, Prod.mk.injEq] at h
      obtain ⟨h1, _, h3⟩ := h
      subst h1
      have hl := congrArg List.length hx
      simp only [List.length_cons, List.length_append] at hl
      have : 0 < n.length := List.length_pos_iff.mpr hn
      have : 0 < ws.length := List.length_pos_iff.mpr hws
      have : 0 < a.length := List.length_pos_iff.mpr ha
      refine ⟨by omega, by omega, ?_, hn⟩
      rw [hx]
      exact ⟨['<'], ws ++ a ++ s ++ '>' :: rest, by simp [List.append_assoc]⟩
    · simp at h
    · simp at h
  · split at h
    · rename_i n hm
      obtain ⟨rest, hx, hn, _⟩ := matchTag2_decomp cls xml n hm
      simp only [Out.ok.injEq, Prod.mk.injEq] at h
      obtain ⟨h1, _, h3⟩ := h
      subst h1
      have hl := congrArg List.length hx
      simp only [List.length_cons, List.length_append] at hl
      have : 0 < n.length := List.length_pos_iff.mpr hn
      refine ⟨by omega, by omega, ?_, hn⟩
      rw [hx]
      exact ⟨['<'], '>' :: rest, by simp⟩
    · simp at h

theorem nestedStep_bound (xml et nested : List Char) (e : Nat) (h : e + et.length ≤ xml.length) :
    nestedStep xml et nested e + et.length ≤ xml.length := by
  unfold nestedStep
  split
  · split
    · split
      · rename_i e' he
        exact (indexFrom_spec he).2.2
      · exact h
    · exact h
  · exact h

theorem findEndOfElement_bounds (xml name : List Char) (start ve ee : Nat)
    (h : findEndOfElement xml start name = some (ve, ee)) :
    ee = ve + (endTag name).length ∧ ee ≤ xml.length := by
  unfold findEndOfElement at h
  simp only at h
  split at h
  · simp at h
  · rename_i e0 he0
    simp only [Option.some.injEq, Prod.mk.injEq] at h
    obtain ⟨h1, h2⟩ := h
    have hb0 := (indexFrom_spec he0).2.2
    have hb1 := nestedStep_bound xml (endTag name) ('<' :: (name ++ ['>'])) e0 hb0
    have hb2 := nestedStep_bound xml (endTag name) ('<' :: (name ++ [' '])) _ hb1
    subst h1
    exact ⟨h2.symm, by rw [← h2]; exact hb2⟩

/-- **Every index is inside the input, every slice is a slice of the input, every element consumes
    at least three characters.** -/
theorem parseFirstElement_bounds (cls : Classes) (sw : Switches) (xml : List Char) (el : Element) (e : Nat)
    (h : parseFirstElement cls sw xml = .ok (el, e)) :
    3 ≤ e ∧ e ≤ xml.length ∧ el.value <:+: xml ∧ el.name <:+: xml := by
  unfold parseFirstElement at h
  split at h
  · simp at h
  · simp at h
  · rename_i name attrs tagEnd ht
    obtain ⟨h3, hle, hname, _⟩ := parseTag_bounds cls sw xml name attrs tagEnd ht
    split at h
    · simp only [Out.ok.injEq, Prod.mk.injEq] at h
      obtain ⟨h1, h2⟩ := h
      subst h1 h2
      exact ⟨h3, hle, List.nil_infix, hname⟩
    · split at h
      · simp at h
      · rename_i ve ee hf
        simp only [Out.ok.injEq, Prod.mk.injEq] at h
        obtain ⟨h1, h2⟩ := h
        subst h1 h2
        obtain ⟨hee, hlen⟩ := findEndOfElement_bounds xml name tagEnd ve ee hf
        refine ⟨?_, hlen, (strip_infix _ _).trans (slice_infix _ _ _), hname⟩
        simp only [endTag, List.length_cons, List.length_append] at hee
        omega

theorem parseTag_ne_outOfFuel (cls : Classes) (sw : Switches) (hsw : sw.attrsLoopFailsOnNoMatch = true)
    (xml : List Char) : parseTag cls sw xml ≠ .outOfFuel := by
  unfold parseTag
  split
  · rename_i n ws a s _
    have := parseAttrs_ne_outOfFuel cls sw hsw (a.length + 1) a [] (by omega)
    split
    · simp
    · simp
    · rename_i hh; exact absurd hh this
  · split <;> simp

theorem parseFirstElement_ne_outOfFuel (cls : Classes) (sw : Switches)
    (hsw : sw.attrsLoopFailsOnNoMatch = true) (xml : List Char) :
    parseFirstElement cls sw xml ≠ .outOfFuel := by
  unfold parseFirstElement
  have := parseTag_ne_outOfFuel cls sw hsw xml
  split
  · simp
  · rename_i hh; exact absurd hh this
  · split
    · simp
    · split <;> simp

theorem parseLoop_nil (cls : Classes) (sw : Switches) (inner : List Char → Out Dict) (fuel : Nat) (res : Dict) :
    parseLoop cls sw inner fuel [] res = .ok res := by
  cases fuel <;> simp [parseLoop]

theorem elementContent_ne_outOfFuel (inner : List Char → Out Dict) (hinner : ∀ v, inner v ≠ .outOfFuel)
    (value : List Char) : elementContent inner value ≠ .outOfFuel := by
  unfold elementContent
  split
  · split
    · simp
    · simp
    · rename_i hi; exact absurd hi (hinner _)
  · simp

/-- **Progress of the element loop.** An iteration that goes round again hands over a strictly
    shorter string (at least three characters shorter). -/
theorem parseStep_progress (cls : Classes) (sw : Switches) (inner : List Char → Out Dict)
    (xml xml' : List Char) (res res' : Dict) (h : parseStep cls sw inner xml res = .next xml' res') :
    xml'.length + 3 ≤ xml.length ∧ xml' <:+: xml := by
  unfold parseStep at h
  split at h
  · simp at h
  · rename_i c t hs
    split at h
    · simp at h
    · split at h
      · simp at h
      · simp at h
      · rename_i el endIdx hp
        obtain ⟨h3, hle, _, _⟩ := parseFirstElement_bounds cls sw _ el endIdx hp
        split at h
        · simp at h
        · simp at h
        · simp only [Step.next.injEq] at h
          obtain ⟨hx, _⟩ := h
          subst hx
          have h1 := strip_length_le cls.isStrip xml
          rw [hs] at h1
          refine ⟨?_, ?_⟩
          · simp only [List.length_drop]; omega
          · exact (List.drop_suffix _ _).isInfix.trans (hs ▸ strip_infix cls.isStrip xml)

theorem parseStep_ne_outOfFuel (cls : Classes) (sw : Switches) (hsw : sw.attrsLoopFailsOnNoMatch = true)
    (inner : List Char → Out Dict) (hinner : ∀ v, inner v ≠ .outOfFuel) (xml : List Char) (res : Dict) :
    parseStep cls sw inner xml res ≠ .done .outOfFuel := by
  unfold parseStep
  split
  · simp
  · rename_i c t _
    split
    · simp
    · have hne := parseFirstElement_ne_outOfFuel cls sw hsw (c :: t)
      split
      · simp
      · rename_i hh; exact absurd hh hne
      · rename_i el endIdx _
        have := elementContent_ne_outOfFuel inner hinner el.value
        split
        · simp
        · rename_i hh; exact absurd hh this
        · simp

/-- With a terminating attribute loop and a terminating recursive call, `len + 1` units of fuel are
    never used up by the element loop. -/
theorem parseLoop_ne_outOfFuel (cls : Classes) (sw : Switches) (hsw : sw.attrsLoopFailsOnNoMatch = true)
    (inner : List Char → Out Dict) (hinner : ∀ v, inner v ≠ .outOfFuel) :
    ∀ (fuel : Nat) (xml : List Char) (res : Dict), xml.length < fuel →
      parseLoop cls sw inner fuel xml res ≠ .outOfFuel := by
  intro fuel
  induction fuel with
  | zero => intro xml res h; omega
  | succ f ih =>
    intro xml res h
    unfold parseLoop
    split
    · simp
    · split
      · rename_i r hst
        intro hr
        subst hr
        exact parseStep_ne_outOfFuel cls sw hsw inner hinner xml res hst
      · rename_i xml' res' hst
        have := (parseStep_progress cls sw inner xml xml' res res' hst).1
        exact ih _ _ (by omega)

theorem parseLoop_fuel_stable (cls : Classes) (sw : Switches) (inner : List Char → Out Dict) :
    ∀ (fuel : Nat) (xml : List Char) (res : Dict), parseLoop cls sw inner fuel xml res ≠ .outOfFuel →
      ∀ fuel', fuel ≤ fuel' → parseLoop cls sw inner fuel' xml res = parseLoop cls sw inner fuel xml res := by
  intro fuel
  induction fuel with
  | zero =>
    intro xml res h fuel' _
    unfold parseLoop at h
    split at h
    · rename_i he
      have : xml = [] := by simpa using he
      subst this
      rw [parseLoop_nil, parseLoop_nil]
    · exact absurd rfl h
  | succ f ih =>
    intro xml res h fuel' hle
    cases fuel' with
    | zero => omega
    | succ f' =>
      unfold parseLoop at h ⊢
      split
      · rfl
      · rename_i he
        simp only [he] at h
        split
        · rfl
        · rename_i xml' res' hst
          simp only [hst] at h
          exact ih _ _ h f' (by omega)

/-- what `_parse_recursively(…, recurse = d)` calls for a value that starts with "<": itself with `recurse = d - 1`, and
    at `recurse = 0` it raises -/
def innerAt (cls : Classes) (sw : Switches) : Nat → List Char → Out Dict
  | 0 => fun _ => .err .value
  | d + 1 => parseRec cls sw d

theorem parseRec_eq (cls : Classes) (sw : Switches) (d : Nat) (xml : List Char) :
    parseRec cls sw d xml = parseLoop cls sw (innerAt cls sw d) (xml.length + 1) xml [] := by
  cases d <;> rfl

theorem parseRec_ne_outOfFuel (cls : Classes) (sw : Switches) (hsw : sw.attrsLoopFailsOnNoMatch = true) :
    ∀ (d : Nat) (xml : List Char), parseRec cls sw d xml ≠ .outOfFuel := by
  intro d
  induction d with
  | zero =>
    intro xml
    unfold parseRec
    exact parseLoop_ne_outOfFuel cls sw hsw _ (by intro v; simp) _ _ _ (by omega)
  | succ d ih =>
    intro xml
    unfold parseRec
    exact parseLoop_ne_outOfFuel cls sw hsw _ ih _ _ _ (by omega)

end Kskm.Xml
