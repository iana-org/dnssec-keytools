/-
  The glue cannot tell `DictEq` values apart (C12, attribute order).

  Every dynamic operation the glue of Kskm/XmlGlue.lean performs on the parsed tree — `v[k]`, `v.get(k)`,
  `k in v`, `not v`, `isinstance(v, list)`, `int(v)`, … — gives the same answer (or `DictEq` sub-values) on
  `DictEq` inputs; the one operation that does look at dict order, `for x in v` over a dict (only reached on
  the pinned tree, findings F11 / F12), fails the same way whatever the order.  Hence
  `requestFromDict_congr` / `responseFromDict_congr`: `DictEq` dicts give EQUAL results, error class included.
  What is built from ONE element is already equal on `DictPerm` arguments (KskmProofs/Lemmas/XmlGlueSame.lean),
  of which `DictEq` is a special case; only the loops over repeated elements need `DictEq` itself.  The `do` blocks
  are walked as there, with `ResAgree true Eq` for `=` (`gstep`).
-/
import KskmProofs.Lemmas.XmlGlueSame
namespace Kskm.Xml

theorem getItem_congr {s : Bool} {a b : XVal} (h : DictEq a b) (k : String) :
    ResAgree s DictEq (a.getItem k) (b.getItem k) := by
  cases h with
  | str _ => simp [XVal.getItem, ResAgree, err]
  | list _ => simp [XVal.getItem, ResAgree, err]
  | @dict d d' h1 h2 =>
    have := lookup_rel ⟨h1, h2⟩ k.toList
    simp only [XVal.getItem]
    generalize List.lookup k.toList d = x, List.lookup k.toList d' = y at this
    cases this with
    | none => simp [ResAgree, err]
    | some hr => simpa [ResAgree, pure, Except.pure] using hr

theorem get?_congr {s : Bool} {a b : XVal} (h : DictEq a b) (k : String) : ResAgree s OptRel (a.get? k) (b.get? k) := by
  cases h with
  | str _ => simp [XVal.get?, ResAgree, err]
  | list _ => simp [XVal.get?, ResAgree, err]
  | dict h1 h2 =>
    have := lookup_rel ⟨h1, h2⟩ k.toList
    simpa [XVal.get?, ResAgree, pure, Except.pure] using this

theorem asList_congr {a b : XVal} (h : DictEq a b) : ListEq a.asList b.asList := by
  cases h with
  | str s => exact .cons (.str s) .nil
  | list hl => exact hl
  | dict h1 h2 => exact .cons (.dict h1 h2) .nil

theorem ListEq.all₂ : ∀ {l l' : List XVal}, ListEq l l' → All₂ DictEq l l'
  | _, _, .nil => .nil
  | _, _, .cons h t => .cons h t.all₂

theorem iter_mapM_congr {α : Type} {f : XVal → Res α} {e : Fail} (hf : ∀ u v, DictEq u v → f u = f v)
    (hs : ∀ s, f (.str s) = .error e) {a b : XVal} (h : DictEq a b) : a.iter.mapM f = b.iter.mapM f := by
  cases h with
  | str s => rfl
  | list hl => exact mapM_all₂ hf hl.all₂
  | dict h1 h2 => rw [mapM_iter_dict hs, mapM_iter_dict hs, isEmpty_of_same_keys h1]

/-- `pstep` (XmlGlueSame.lean) for values a hypothesis relates by `DictEq`: the parts looked up are `DictEq`
    again; that they are `DictPerm` too is put beside it, which is all the atomic conversions ask for (`pleaf`) -/
macro "gstep" : tactic => `(tactic| first
  | (refine ResAgree.bind (getItem_congr (by assumption) _) ?_; intro _ _ h; have := DictPerm.of_eq h)
  | (refine ResAgree.bind (get?_congr (by assumption) _) ?_; intro _ _ _)
  | (refine ResAgree.bind_eq (by pleaf) ?_; intro _))

theorem signatureAlgorithmsOf_congr {a b : XVal} (h : DictEq a b) :
    signatureAlgorithmsOf a = signatureAlgorithmsOf b := by
  unfold signatureAlgorithmsOf
  rw [mapM_all₂ (fun _ _ h => algPolicyOf_perm (.of_eq h)) (asList_congr h).all₂]

theorem signaturePolicyOf_congr {a b : XVal} (h : DictEq a b) : signaturePolicyOf a = signaturePolicyOf b := by
  apply ResAgree.eq
  unfold signaturePolicyOf
  repeat gstep
  refine ResAgree.bind_eq (signatureAlgorithmsOf_congr (by assumption)) fun _ => ?_
  exact .of_eq rfl

theorem keysOf_congr {a b : XVal} (h : DictEq a b) : keysOf a = keysOf b := by
  unfold keysOf
  rw [mapM_all₂ (fun _ _ h => keyOf_perm (.of_eq h)) (asList_congr h).all₂]

theorem signaturesOf_congr {a b : XVal} (h : DictEq a b) : signaturesOf a = signaturesOf b := by
  unfold signaturesOf
  rw [mapM_all₂ (fun _ _ h => signatureOf_perm (.of_eq h)) (asList_congr h).all₂]

theorem signersOf_congr (gs : GlueSwitches) {a b : XVal} (h : DictEq a b) : signersOf gs a = signersOf gs b := by
  unfold signersOf
  rw [truthy_perm (.of_eq h)]
  split
  · rfl
  · refine congrArg (· >>= _) ?_
    cases gs.wrapsSingleSigner with
    | true => exact mapM_all₂ (fun _ _ h => signerOf_perm (.of_eq h)) (asList_congr h).all₂
    | false => exact iter_mapM_congr (e := .error .type) (fun _ _ h => signerOf_perm (.of_eq h)) (fun _ => rfl) h

theorem getD_rel {o o' : Option XVal} (h : OptRel o o') {d d' : XVal} (hd : DictEq d d') :
    DictEq (o.getD d) (o'.getD d') := by
  cases h with
  | none => exact hd
  | some hr => exact hr

theorem requestBundleOf_congr (gs : GlueSwitches) {a b : XVal} (h : DictEq a b) :
    requestBundleOf gs a = requestBundleOf gs b := by
  apply ResAgree.eq
  unfold requestBundleOf
  repeat gstep
  cases ‹OptRel _ _› with
  | none => exact .of_eq rfl
  | some hxy =>
    dsimp only
    rw [truthy_perm (.of_eq hxy)]
    split
    · exact .error _
    · refine ResAgree.bind_eq ?_ fun _ => ?_
      · congr 1
        funext name
        apply ResAgree.eq
        gstep
        rw [contains_perm (.of_eq (by assumption))]
        exact .of_eq rfl
      · repeat gstep
        refine ResAgree.bind_eq (keysOf_congr (by assumption)) fun _ => ?_
        repeat gstep
        refine ResAgree.bind_eq (signaturesOf_congr (by assumption)) fun _ => ?_
        repeat gstep
        refine ResAgree.bind_eq (signersOf_congr gs (getD_rel (by assumption) (DictEq.refl _))) fun _ => ?_
        repeat gstep
        exact .of_eq rfl

theorem requestBundlesOf_congr (gs : GlueSwitches) {l l' : List XVal} (h : ListEq l l') :
    requestBundlesOf gs l = requestBundlesOf gs l' := by
  unfold requestBundlesOf
  rw [mapM_all₂ (fun _ _ h => requestBundleOf_congr gs h) h.all₂]

/-- **`request_from_xml` after the reader: `DictEq` dicts give the same `Request` (or the same error).** -/
theorem requestFromDict_congr (gs : GlueSwitches) {a b : XVal} (h : DictEq a b) :
    requestFromDict gs a = requestFromDict gs b := by
  apply ResAgree.eq
  unfold requestFromDict
  repeat gstep
  dsimp only
  refine ResAgree.bind_eq (requestBundlesOf_congr gs (asList_congr (getD_rel (by assumption) (DictEq.refl _)))) fun _ => ?_
  repeat gstep
  refine ResAgree.bind_eq (signaturePolicyOf_congr (by assumption)) fun _ => ?_
  repeat gstep
  refine ResAgree.bind_eq (timestampOf_perm (.of_eq (by assumption))) fun _ => ?_
  repeat gstep
  exact .of_eq rfl

theorem responseBundleOf_congr {a b : XVal} (h : DictEq a b) : responseBundleOf a = responseBundleOf b := by
  apply ResAgree.eq
  unfold responseBundleOf
  repeat gstep
  refine ResAgree.bind_eq (keysOf_congr (by assumption)) fun _ => ?_
  repeat gstep
  refine ResAgree.bind_eq (signaturesOf_congr (by assumption)) fun _ => ?_
  repeat gstep
  exact .of_eq rfl

theorem responseBundlesOf_congr (gs : GlueSwitches) {a b : XVal} (h : DictEq a b) :
    responseBundlesOf gs a = responseBundlesOf gs b := by
  unfold responseBundlesOf
  refine congrArg (· >>= _) ?_
  cases gs.wrapsSingleResponseBundle with
  | true => exact mapM_all₂ (fun _ _ h => responseBundleOf_congr h) (asList_congr h).all₂
  | false => exact iter_mapM_congr (e := .error .type) (fun _ _ => responseBundleOf_congr) (fun _ => rfl) h

/-- **`response_from_xml` after the reader: `DictEq` dicts give the same `Response` (or the same error).** -/
theorem responseFromDict_congr (gs : GlueSwitches) {a b : XVal} (h : DictEq a b) :
    responseFromDict gs a = responseFromDict gs b := by
  apply ResAgree.eq
  unfold responseFromDict
  repeat gstep
  refine ResAgree.bind_eq (responseBundlesOf_congr gs (by assumption)) fun _ => ?_
  repeat gstep
  refine ResAgree.bind_eq (signaturePolicyOf_congr (by assumption)) fun _ => ?_
  repeat gstep
  refine ResAgree.bind_eq (signaturePolicyOf_congr (by assumption)) fun _ => ?_
  repeat gstep
  refine ResAgree.bind_eq (timestampOf_perm (.of_eq (by assumption))) fun _ => ?_
  repeat gstep
  exact .of_eq rfl

end Kskm.Xml
