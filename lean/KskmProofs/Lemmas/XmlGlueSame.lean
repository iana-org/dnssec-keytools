/-
  What the glue makes of `DictPerm` values (C12, sibling order).

  `DictPerm` (KskmProofs/Lemmas/XmlChildPerm.lean) relates the reader's results on two documents that differ
  in the order of child elements: equal except for the order of the entries of the lists that collect
  same-named siblings.  The glue of Kskm/XmlGlue.lean turns exactly those lists into Python `set`s (keys,
  signatures, signers, signature algorithms) — duplicate-free lists in first-occurrence order here — or into
  the sorted bundle list.  Hence:

    * every record built from ONE element (`keyOf`, `signatureOf`, `algPolicyOf`, one signer) is EQUAL on
      `DictPerm` arguments, error class included (`…_perm`);
    * a loop over a repeated element (`List.mapM`) succeeds on one order iff it succeeds on the other, with
      permuted results (`mapM_listPerm`); WHICH element's exception comes out when several are faulty does
      depend on the order, so failures are only related as failures (`ResSame`);
    * `keysOf`, `signaturesOf`, `signatureAlgorithmsOf`, `signersOf` return permutations of the same
      duplicate-free list; `requestBundleOf` / `responseBundleOf` return `SameBundle`s;
    * the bundle sort by (expiration, inception, id) is total when bundle ids are pairwise distinct, and its
      comparison does not look at the set-valued fields, so the sorted LISTS agree position by position
      (`sortByKey_permRel`);
    * `requestFromDict` / `responseFromDict` return `RequestSame` / `ResponseSame` objects: the same Python
      object, `set` fields compared as sets, the bundles up to order; `SameRequest` / `SameResponsePerm` when
      the bundle lists agree position by position.

  The outcomes of the two runs are compared by one relation, `ResAgree strict R`: both return, with `R`-related
  results, or both raise — the same exception when `strict`.  Equality of outcomes is `ResAgree true Eq`, `ResSame R`
  is `ResAgree false R`.  A `do` block is walked `←` by `←` with the one rule `ResAgree.bind` whatever the strictness
  (`pstep`), a loop over two lists related position by position with `mapM_agree`.  Strictness is lost in one lemma
  only, the loop over a PERMUTED list (`mapM_perm_same`): there the first faulty element need not be the same.  The
  walk over `DictEq` values (KskmProofs/Lemmas/XmlGlueEq.lean) never meets it and ends in equalities.
-/
import KskmProofs.Lemmas.XmlChildPerm
import KskmProofs.Lemmas.Res
namespace Kskm.Xml

/-- both succeed with `R`-related results, or both fail -/
def ResSame {α β : Type} (R : α → β → Prop) (x : Res α) (y : Res β) : Prop :=
  match x, y with
  | .ok a, .ok b => R a b
  | .error _, .error _ => True
  | _, _ => False

theorem ResSame.pure {α β : Type} {R : α → β → Prop} {a : α} {b : β} (h : R a b) :
    ResSame R (Pure.pure a : Res α) (Pure.pure b : Res β) := h

theorem ResSame.imp {α β : Type} {R S : α → β → Prop} (h : ∀ a b, R a b → S a b) {x : Res α} {y : Res β}
    (hx : ResSame R x y) : ResSame S x y := by
  cases x <;> cases y <;> first | exact trivial | exact hx.elim | exact h _ _ hx

/-- outcomes compose as their results do -/
theorem ResSame.comp {α β γ : Type} {R : α → β → Prop} {S : β → γ → Prop} {T : α → γ → Prop}
    (hc : ∀ a b c, R a b → S b c → T a c) {x : Res α} {y : Res β} {z : Res γ}
    (h : ResSame R x y) (h' : ResSame S y z) : ResSame T x z := by
  cases x <;> cases y <;> cases z <;> first | exact trivial | exact h.elim | exact h'.elim | exact hc _ _ _ h h'

theorem ResSame.trans {α : Type} {R : α → α → Prop} (ht : ∀ a b c, R a b → R b c → R a c) {x y z : Res α}
    (h : ResSame R x y) (h' : ResSame R y z) : ResSame R x z := h.comp ht h'

theorem ResSame.ok_iff {α β : Type} {R : α → β → Prop} {x : Res α} {y : Res β} (h : ResSame R x y) :
    (∃ a, x = .ok a) ↔ (∃ b, y = .ok b) := by
  cases x <;> cases y <;> first | exact h.elim | simp

/-- both succeed with `R`-related results, or both fail — when `strict`, with the same error -/
def ResAgree {α β : Type} (strict : Bool) (R : α → β → Prop) (x : Res α) (y : Res β) : Prop :=
  match x, y with
  | .ok a, .ok b => R a b
  | .error e, .error e' => strict = true → e = e'
  | _, _ => False

section
variable {α β α' β' γ : Type} {s : Bool} {R : α → β → Prop} {S : α' → β' → Prop} {x : Res α} {y : Res β}

theorem ResAgree.bind {f : α → Res α'} {g : β → Res β'} (h : ResAgree s R x y)
    (hfg : ∀ a b, R a b → ResAgree s S (f a) (g b)) : ResAgree s S (x >>= f) (y >>= g) := by
  cases x <;> cases y <;> first | exact h.elim | exact h | exact hfg _ _ h

theorem ResAgree.of_eq {x y : Res α} (h : x = y) : ResAgree s Eq x y := by
  subst h
  cases x <;> first | exact fun _ => rfl | exact rfl

theorem ResAgree.eq {x y : Res α} (h : ResAgree true Eq x y) : x = y := by
  cases x <;> cases y <;> first | exact h.elim | exact congrArg _ (h rfl) | exact congrArg _ h

/-- `ResAgree.bind` for equal first parts -/
theorem ResAgree.bind_eq {x y : Res γ} {f : γ → Res α'} {g : γ → Res β'} (h : x = y)
    (hfg : ∀ a, ResAgree s S (f a) (g a)) : ResAgree s S (x >>= f) (y >>= g) :=
  (ResAgree.of_eq h).bind fun a _ e => e ▸ hfg a

theorem ResAgree.error (e : Fail) : ResAgree s R (.error e) (.error e) := fun _ => rfl

theorem ResAgree.imp {R' : α → β → Prop} (hr : ∀ a b, R a b → R' a b) (h : ResAgree s R x y) : ResAgree s R' x y := by
  cases x <;> cases y <;> first | exact h.elim | exact h | exact hr _ _ h

theorem resSame_iff : ResSame R x y ↔ ResAgree false R x y := by
  cases x <;> cases y <;> simp [ResSame, ResAgree]

theorem ResSame.rel (h : ResSame R x y) : ResAgree false R x y := resSame_iff.mp h

end

theorem getItem_perm {s : Bool} {a b : XVal} (h : DictPerm a b) (k : String) :
    ResAgree s DictPerm (a.getItem k) (b.getItem k) := by
  cases h with
  | str _ => simp [XVal.getItem, ResAgree, err]
  | list _ => simp [XVal.getItem, ResAgree, err]
  | @dict d d' h1 h2 =>
    have := DictRelP.lookups ⟨h1, h2⟩ k.toList
    simp only [XVal.getItem]
    generalize List.lookup k.toList d = x, List.lookup k.toList d' = y at this
    cases this with
    | none => simp [ResAgree, err]
    | some hr => simpa [ResAgree, pure, Except.pure] using hr

theorem get?_perm {s : Bool} {a b : XVal} (h : DictPerm a b) (k : String) :
    ResAgree s OptRelP (a.get? k) (b.get? k) := by
  cases h with
  | str _ => simp [XVal.get?, ResAgree, err]
  | list _ => simp [XVal.get?, ResAgree, err]
  | dict h1 h2 =>
    have := DictRelP.lookups ⟨h1, h2⟩ k.toList
    simpa [XVal.get?, ResAgree, pure, Except.pure] using this

theorem any_eq_str_all₂ : ∀ {l l' : List XVal}, All₂ DictPerm l l' → ∀ (s : List Char),
    l.any (fun x => decide (x = .str s)) = l'.any (fun x => decide (x = .str s))
  | _, _, .nil, _ => rfl
  | _, _, .cons h t, s => by
    simp only [List.any_cons]
    rw [any_eq_str_all₂ t s]
    congr 1
    exact decide_eq_decide.mpr (by cases h <;> simp)

theorem isEmpty_of_same_keys {d d' : Dict} (h : ∀ k, d.lookup k = none ↔ d'.lookup k = none) :
    d.isEmpty = d'.isEmpty := by
  cases d with
  | nil =>
    cases d' with
    | nil => rfl
    | cons p r =>
      obtain ⟨pk, pv⟩ := p
      have := (h pk).mp rfl
      simp [List.lookup] at this
  | cons p r =>
    cases d' with
    | nil =>
      obtain ⟨pk, pv⟩ := p
      have := (h pk).mpr rfl
      simp [List.lookup] at this
    | cons _ _ => rfl

theorem any_key_eq_isSome (d : Dict) (k : List Char) :
    d.any (fun p => decide (p.1 = k)) = (d.lookup k).isSome := by
  induction d with
  | nil => rfl
  | cons p r ih =>
    obtain ⟨pk, pv⟩ := p
    simp only [List.any_cons, List.lookup_cons]
    by_cases hk : pk = k
    · subst hk; simp
    · have : (k == pk) = false := by simpa using fun h : k = pk => hk h.symm
      simp [hk, this, ih]

theorem contains_perm {a b : XVal} (h : DictPerm a b) (k : String) : a.contains k = b.contains k := by
  cases h with
  | str s => rfl
  | list hl =>
    obtain ⟨m, hp, ha⟩ := hl.split
    simp only [XVal.contains]
    rw [hp.any_eq, any_eq_str_all₂ ha]
  | dict h1 h2 =>
    simp only [XVal.contains]
    rw [any_key_eq_isSome, any_key_eq_isSome]
    have := h1 k.toList
    cases hx : List.lookup k.toList _ <;> cases hy : List.lookup k.toList _ <;> simp_all

theorem truthy_perm {a b : XVal} (h : DictPerm a b) : a.truthy = b.truthy := by
  cases h with
  | str s => rfl
  | list hl => simp only [XVal.truthy]; rw [hl.isEmpty]
  | dict h1 h2 => simp only [XVal.truthy]; rw [isEmpty_of_same_keys h1]

theorem asList_perm {a b : XVal} (h : DictPerm a b) : ListPerm a.asList b.asList := by
  cases h with
  | str s => exact .cons (.str s) .nil
  | list hl => exact hl
  | dict h1 h2 => exact .cons (.dict h1 h2) .nil

theorem intOf_perm {a b : XVal} (h : DictPerm a b) : intOf a = intOf b := by cases h <;> rfl
theorem strictStr_perm {a b : XVal} (h : DictPerm a b) : strictStr a = strictStr b := by cases h <;> rfl
theorem bytesOf_perm {a b : XVal} (h : DictPerm a b) : bytesOf a = bytesOf b := by cases h <;> rfl
theorem datetimeOf_perm {a b : XVal} (h : DictPerm a b) : datetimeOf a = datetimeOf b := by cases h <;> rfl
theorem typeCoveredOf_perm {a b : XVal} (h : DictPerm a b) : typeCoveredOf a = typeCoveredOf b := by cases h <;> rfl

theorem durationOf_perm {a b : XVal} (h : DictPerm a b) : durationOf a = durationOf b := by
  unfold durationOf
  rw [truthy_perm h]
  cases h <;> rfl

theorem algorithmOf_perm {a b : XVal} (h : DictPerm a b) : algorithmOf a = algorithmOf b := by
  unfold algorithmOf
  rw [intOf_perm h]

/-- closes `conv u = conv v` for an atomic conversion (`int`, `str`, base64, timestamp, duration, algorithm, type
    covered) of two values that a hypothesis in the context relates by `DictPerm` -/
macro "pleaf" : tactic => `(tactic| first
  | rfl
  | exact intOf_perm (by assumption)
  | exact strictStr_perm (by assumption)
  | exact bytesOf_perm (by assumption)
  | exact datetimeOf_perm (by assumption)
  | exact durationOf_perm (by assumption)
  | exact algorithmOf_perm (by assumption)
  | exact typeCoveredOf_perm (by assumption))

/-- One `←` of a `do` block, goal `ResAgree s S (x >>= f) (y >>= g)`.  Either `x`, `y` are the same lookup (`v[k]` /
    `v.get(k)`) in two values that a hypothesis in the context relates: then both fail alike or return related
    parts, which are introduced together with that fact for the later steps; or they are the same atomic
    conversion of two related values, hence equal (`pleaf`).  The continuations remain. -/
macro "pstep" : tactic => `(tactic| first
  | (refine ResAgree.bind (getItem_perm (by assumption) _) ?_; intro _ _ _)
  | (refine ResAgree.bind (get?_perm (by assumption) _) ?_; intro _ _ _)
  | (refine ResAgree.bind_eq (by pleaf) ?_; intro _))

/-! ### records built from one element: equal -/

theorem algPolicyOf_perm {a b : XVal} (h : DictPerm a b) : algPolicyOf a = algPolicyOf b := by
  apply ResAgree.eq
  unfold algPolicyOf
  repeat pstep
  split
  · repeat pstep
    exact .of_eq rfl
  · split
    · repeat pstep
      exact .of_eq rfl
    · split
      · repeat pstep
        exact .of_eq rfl
      · exact .of_eq rfl

theorem keyOf_perm {a b : XVal} (h : DictPerm a b) : keyOf a = keyOf b := by
  apply ResAgree.eq
  unfold keyOf
  repeat pstep
  exact .of_eq rfl

theorem signatureOf_perm {a b : XVal} (h : DictPerm a b) : signatureOf a = signatureOf b := by
  apply ResAgree.eq
  unfold signatureOf
  repeat pstep
  cases ‹OptRelP _ _› with
  | none => exact .of_eq rfl
  | some hxy =>
    dsimp only
    repeat pstep
    exact .of_eq rfl

/-- one `Signer(…)`: the body of the loop of `signers_from_list` (named in C12's statements) -/
def _root_.Kskm.C12.signerOf (this : XVal) : Res (Option String) := do
  let s ← strictStr (← (← this.getItem "attrs").getItem "keyIdentifier")
  pure (some s)

theorem signerOf_perm {a b : XVal} (h : DictPerm a b) : C12.signerOf a = C12.signerOf b := by
  apply ResAgree.eq
  unfold C12.signerOf
  repeat pstep
  exact .of_eq rfl

theorem timestampOf_perm {a b : XVal} (h : DictPerm a b) : timestampOf a = timestampOf b := by
  unfold timestampOf
  rw [contains_perm h]
  split
  · apply ResAgree.eq
    repeat pstep
    exact .of_eq rfl
  · rfl

/-! ### loops -/

/-- a loop whose bodies agree on `Q`-related arguments, over two lists that are `Q`-related position by position -/
theorem mapM_agree {α β γ δ : Type} {s : Bool} {Q : γ → δ → Prop} {R : α → β → Prop} {f : γ → Res α} {g : δ → Res β}
    (hf : ∀ u v, Q u v → ResAgree s R (f u) (g v)) :
    ∀ {l : List γ} {l' : List δ}, All₂ Q l l' → ResAgree s (All₂ R) (l.mapM f) (l'.mapM g)
  | _, _, .nil => All₂.nil
  | _, _, .cons h t => by
    rw [List.mapM_cons, List.mapM_cons]
    exact (hf _ _ h).bind fun _ _ hab => (mapM_agree hf t).bind fun _ _ habs => All₂.cons hab habs

theorem All₂.eq {α : Type} : ∀ {l l' : List α}, All₂ Eq l l' → l = l'
  | _, _, .nil => rfl
  | _, _, .cons h t => by rw [h, t.eq]

/-- … with equal bodies: the strict instance at `Eq` -/
theorem mapM_all₂ {α γ : Type} {Q : γ → γ → Prop} {f : γ → Res α} (hf : ∀ u v, Q u v → f u = f v)
    {l l' : List γ} (h : All₂ Q l l') : l.mapM f = l'.mapM f :=
  ((mapM_agree (fun u v huv => .of_eq (hf u v huv)) h).imp fun _ _ => All₂.eq).eq

/-- **the loop over a permuted list**: both orders fail or both succeed, with permuted results.  WHICH error comes
    out depends on the order (`C12.sibling_order_error_class_witness`), so this is where strictness ends. -/
theorem mapM_perm_same {α β} (f : α → Res β) {l₁ l₂ : List α} (hp : l₁.Perm l₂) :
    ResSame List.Perm (l₁.mapM f) (l₂.mapM f) := by
  cases h1 : l₁.mapM f with
  | ok r₁ =>
    obtain ⟨r₂, h2, hp2⟩ := mapM_perm f hp h1
    rw [h2]
    exact hp2
  | error e =>
    cases h2 : l₂.mapM f with
    | error e' => exact trivial
    | ok r₂ =>
      obtain ⟨r₁, h1', _⟩ := mapM_perm f hp.symm h2
      rw [h1] at h1'
      cases h1'

/-- `mapM_perm` for a loop followed by a rearrangement `g` of its results (the sort: KskmProofs/C12.lean, section 3) -/
theorem mapM_then_perm {α β} {f : α → Res β} {g : List β → List β} {l₁ l₂ : List α} (hp : l₁.Perm l₂) {r₁ : List β}
    (h : (do let l ← l₁.mapM f; pure (g l)) = .ok r₁) :
    ∃ m₁ m₂, m₁.Perm m₂ ∧ r₁ = g m₁ ∧ (do let l ← l₂.mapM f; pure (g l)) = .ok (g m₂) := by
  cases hm : l₁.mapM f with
  | error e => simp [hm, bind, Except.bind] at h
  | ok m₁ =>
    simp only [hm, bind, Except.bind, pure, Except.pure, Except.ok.injEq] at h
    obtain ⟨m₂, h2, hp2⟩ := mapM_perm f hp hm
    exact ⟨m₁, m₂, hp2, h.symm, by simp [h2, bind, Except.bind, pure, Except.pure]⟩

/-- **a loop building one record per occurrence, over the two orders of a repeated element**: both fail
    or both succeed, with permutations of the same records -/
theorem mapM_listPerm {α} {f : XVal → Res α} (hf : ∀ u v, DictPerm u v → f u = f v) {l l' : List XVal}
    (h : ListPerm l l') : ResSame List.Perm (l.mapM f) (l'.mapM f) := by
  obtain ⟨m, hp, ha⟩ := h.split
  rw [← mapM_all₂ hf ha]
  exact mapM_perm_same f hp

/-- the same for a loop whose records are only `R`-related on related arguments -/
theorem mapM_listPerm_same {α} {R : α → α → Prop} {f : XVal → Res α}
    (hf : ∀ u v, DictPerm u v → ResSame R (f u) (f v)) {l l' : List XVal} (h : ListPerm l l') :
    ResSame (PermRel R) (l.mapM f) (l'.mapM f) := by
  obtain ⟨m, hp, ha⟩ := h.split
  exact (mapM_perm_same f hp).comp (fun _ rm _ h1 h2 => ⟨rm, h1, h2⟩)
    (resSame_iff.mpr (mapM_agree (fun u v huv => (hf u v huv).rel) ha))

/-! ### Python sets as duplicate-free lists -/

theorem keysOf_same {a b : XVal} (h : DictPerm a b) : ResSame List.Perm (keysOf a) (keysOf b) := by
  unfold keysOf
  exact resSame_iff.mpr ((mapM_listPerm (fun _ _ => keyOf_perm) (asList_perm h)).rel.bind fun _ _ hp => dedup_perm hp)

theorem signaturesOf_same {a b : XVal} (h : DictPerm a b) : ResSame List.Perm (signaturesOf a) (signaturesOf b) := by
  unfold signaturesOf
  exact resSame_iff.mpr ((mapM_listPerm (fun _ _ => signatureOf_perm) (asList_perm h)).rel.bind fun _ _ hp => dedup_perm hp)

theorem signatureAlgorithmsOf_same {a b : XVal} (h : DictPerm a b) :
    ResSame List.Perm (signatureAlgorithmsOf a) (signatureAlgorithmsOf b) := by
  unfold signatureAlgorithmsOf
  exact resSame_iff.mpr ((mapM_listPerm (fun _ _ => algPolicyOf_perm) (asList_perm h)).rel.bind fun _ _ hp => dedup_perm hp)

/-- an optional set -/
inductive OptPerm {α : Type} : Option (List α) → Option (List α) → Prop
  | none : OptPerm none none
  | some {l l' : List α} : l.Perm l' → OptPerm (some l) (some l')

theorem OptPerm.refl {α} : ∀ (o : Option (List α)), OptPerm o o
  | .none => .none
  | .some l => .some (List.Perm.refl l)

theorem OptPerm.symm {α} {a b : Option (List α)} (h : OptPerm a b) : OptPerm b a := by
  cases h with
  | none => exact .none
  | some hp => exact .some hp.symm

theorem OptPerm.trans {α} {a b c : Option (List α)} (h : OptPerm a b) (h' : OptPerm b c) : OptPerm a c := by
  cases h with
  | none => exact h'
  | some hp =>
    cases h' with
    | some hp' => exact .some (hp.trans hp')

/-- iterating over a DICT yields its keys — strings; a function that fails on every string fails on the
    first key, whichever it is -/
theorem mapM_iter_dict {α} {f : XVal → Res α} {e : Fail} (hf : ∀ s, f (.str s) = .error e) (d : Dict) :
    (XVal.iter (.dict d)).mapM f = if d.isEmpty then .ok [] else .error e := by
  cases d with
  | nil => rfl
  | cons p r =>
    simp only [XVal.iter, List.map_cons, List.mapM_cons, hf]
    rfl

/-- `for x in v` with a body that fails on strings, on the two orders: a list is the loop over a repeated
    element; a string or a dict is iterated the same way on both sides, and only the empty one gets through -/
theorem iter_mapM_rel {α} {T : List α → List α → Prop} {f : XVal → Res α} {e : Fail} (hs : ∀ s, f (.str s) = .error e)
    (hnil : T [] []) (hl : ∀ {l l' : List XVal}, ListPerm l l' → ResSame T (l.mapM f) (l'.mapM f)) {a b : XVal}
    (h : DictPerm a b) : ResSame T (a.iter.mapM f) (b.iter.mapM f) := by
  cases h with
  | str s =>
    cases s with
    | nil => exact hnil
    | cons c r =>
      simp only [XVal.iter, List.map_cons, List.mapM_cons, hs]
      exact trivial
  | list h => exact hl h
  | dict h1 h2 =>
    rw [mapM_iter_dict hs, mapM_iter_dict hs, isEmpty_of_same_keys h1]
    split
    · exact hnil
    · exact trivial

theorem signersOf_same (gs : GlueSwitches) {a b : XVal} (h : DictPerm a b) :
    ResSame OptPerm (signersOf gs a) (signersOf gs b) := by
  unfold signersOf
  rw [truthy_perm h]
  split
  · exact OptPerm.none
  · refine resSame_iff.mpr (ResAgree.bind (R := List.Perm) (ResSame.rel ?_) fun _ _ hp => OptPerm.some (dedup_perm hp))
    cases gs.wrapsSingleSigner with
    | true => exact mapM_listPerm (fun _ _ => signerOf_perm) (asList_perm h)
    | false =>
      exact iter_mapM_rel (e := .error .type) (fun _ => rfl) (List.Perm.refl _) (mapM_listPerm fun _ _ => signerOf_perm) h

/-! ### the same Python object, `set` fields compared as sets -/

structure SamePolicy (a b : SigPolicy) : Prop where
  publishSafety : a.publishSafety = b.publishSafety
  retireSafety : a.retireSafety = b.retireSafety
  maxSignatureValidity : a.maxSignatureValidity = b.maxSignatureValidity
  minSignatureValidity : a.minSignatureValidity = b.minSignatureValidity
  maxValidityOverlap : a.maxValidityOverlap = b.maxValidityOverlap
  minValidityOverlap : a.minValidityOverlap = b.minValidityOverlap
  algorithms : a.algorithms.Perm b.algorithms

structure SameBundle (a b : Bundle) : Prop where
  id : a.id = b.id
  inception : a.inception = b.inception
  expiration : a.expiration = b.expiration
  keys : a.keys.Perm b.keys
  signatures : a.signatures.Perm b.signatures
  signers : OptPerm a.signers b.signers

theorem SamePolicy.refl (a : SigPolicy) : SamePolicy a a := ⟨rfl, rfl, rfl, rfl, rfl, rfl, List.Perm.refl _⟩
theorem SameBundle.refl (a : Bundle) : SameBundle a a :=
  ⟨rfl, rfl, rfl, List.Perm.refl _, List.Perm.refl _, OptPerm.refl _⟩

theorem SameBundle.trans {a b c : Bundle} (h : SameBundle a b) (h' : SameBundle b c) : SameBundle a c :=
  ⟨h.id.trans h'.id, h.inception.trans h'.inception, h.expiration.trans h'.expiration, h.keys.trans h'.keys,
    h.signatures.trans h'.signatures, h.signers.trans h'.signers⟩

theorem SameBundle.symm {a b : Bundle} (h : SameBundle a b) : SameBundle b a :=
  ⟨h.id.symm, h.inception.symm, h.expiration.symm, h.keys.symm, h.signatures.symm, h.signers.symm⟩

theorem signaturePolicyOf_same {a b : XVal} (h : DictPerm a b) :
    ResSame SamePolicy (signaturePolicyOf a) (signaturePolicyOf b) := by
  rw [resSame_iff]
  unfold signaturePolicyOf
  repeat pstep
  refine ResAgree.bind (signatureAlgorithmsOf_same (by assumption)).rel ?_
  intro _ _ hp
  exact ⟨rfl, rfl, rfl, rfl, rfl, rfl, hp⟩

theorem getD_relP {o o' : Option XVal} (h : OptRelP o o') {d d' : XVal} (hd : DictPerm d d') :
    DictPerm (o.getD d) (o'.getD d') := by
  cases h with
  | none => exact hd
  | some hr => exact hr

theorem requestBundleOf_same (gs : GlueSwitches) {a b : XVal} (h : DictPerm a b) :
    ResSame SameBundle (requestBundleOf gs a) (requestBundleOf gs b) := by
  rw [resSame_iff]
  unfold requestBundleOf
  repeat pstep
  cases ‹OptRelP _ _› with
  | none => exact .error _
  | some hxy =>
    dsimp only
    rw [truthy_perm hxy]
    split
    · exact .error _
    · refine ResAgree.bind_eq ?_ ?_
      · congr 1
        funext name
        apply ResAgree.eq
        pstep
        rw [contains_perm (by assumption)]
        exact .of_eq rfl
      · intro _
        repeat pstep
        refine ResAgree.bind (keysOf_same (by assumption)).rel ?_
        intro _ _ hk
        repeat pstep
        refine ResAgree.bind (signaturesOf_same (by assumption)).rel ?_
        intro _ _ hs
        repeat pstep
        refine ResAgree.bind (signersOf_same gs (getD_relP (by assumption) (DictPerm.refl _))).rel ?_
        intro _ _ hsn
        repeat pstep
        exact ⟨rfl, rfl, rfl, hk, hs, hsn⟩

theorem responseBundleOf_same {a b : XVal} (h : DictPerm a b) :
    ResSame SameBundle (responseBundleOf a) (responseBundleOf b) := by
  rw [resSame_iff]
  unfold responseBundleOf
  repeat pstep
  refine ResAgree.bind (keysOf_same (by assumption)).rel ?_
  intro _ _ hk
  repeat pstep
  refine ResAgree.bind (signaturesOf_same (by assumption)).rel ?_
  intro _ _ hs
  repeat pstep
  exact ⟨rfl, rfl, rfl, hk, hs, OptPerm.none⟩

theorem all₂_of_pairs {α β} {R : α → β → Prop} : ∀ (ps : List (α × β)), (∀ p ∈ ps, R p.1 p.2) →
    All₂ R (ps.map (·.1)) (ps.map (·.2))
  | [], _ => .nil
  | p :: ps, h => .cons (h p List.mem_cons_self) (all₂_of_pairs ps (fun q hq => h q (List.mem_cons_of_mem _ hq)))

theorem All₂.pairs {α β} {R : α → β → Prop} : ∀ {l : List α} {l' : List β}, All₂ R l l' →
    ∃ ps : List (α × β), ps.map (·.1) = l ∧ ps.map (·.2) = l' ∧ ∀ p ∈ ps, R p.1 p.2
  | _, _, .nil => ⟨[], rfl, rfl, by simp⟩
  | _, _, .cons (a := a) (b := b) h t => by
    obtain ⟨ps, h1, h2, h3⟩ := All₂.pairs t
    refine ⟨(a, b) :: ps, by simp [h1], by simp [h2], ?_⟩
    intro p hp
    rcases List.mem_cons.mp hp with rfl | hp
    · exact h
    · exact h3 p hp

/-- a stable sort whose comparison cannot tell `R`-related elements apart maps lists that are `R`-related
    position by position to such lists -/
theorem mergeSort_all₂ {α} {R : α → α → Prop} {le : α → α → Bool}
    (hle : ∀ a a' b b', R a a' → R b b' → le a b = le a' b') {l l' : List α} (h : All₂ R l l') :
    All₂ R (l.mergeSort le) (l'.mergeSort le) := by
  obtain ⟨ps, rfl, rfl, hp⟩ := h.pairs
  have e1 : (ps.map (·.1)).mergeSort le = (ps.mergeSort (fun p q => le p.1 q.1)).map (·.1) :=
    (List.map_mergeSort (r := fun (p q : α × α) => le p.1 q.1) (s := le) (f := fun (p : α × α) => p.1)
      (fun _ _ _ _ => rfl)).symm
  have e2 : (ps.map (·.2)).mergeSort le = (ps.mergeSort (fun p q => le p.1 q.1)).map (·.2) :=
    (List.map_mergeSort (r := fun (p q : α × α) => le p.1 q.1) (s := le) (f := fun (p : α × α) => p.2)
      (fun a ha b hb => hle _ _ _ _ (hp a ha) (hp b hb))).symm
  rw [e1, e2]
  exact all₂_of_pairs _ (fun p hp' => hp p ((List.mergeSort_perm _ _).mem_iff.mp hp'))

theorem bundleKeyLe_iff (a b : Bundle) : bundleKeyLe a b = true ↔
    a.expiration < b.expiration ∨ (a.expiration = b.expiration ∧
      (a.inception < b.inception ∨ (a.inception = b.inception ∧ a.id ≤ b.id))) := by
  simp [bundleKeyLe]

theorem bundleKeyLe_total (a b : Bundle) : (bundleKeyLe a b || bundleKeyLe b a) = true := by
  simp only [Bool.or_eq_true, bundleKeyLe_iff]
  rcases Int.lt_trichotomy a.expiration b.expiration with h | h | h
  · exact Or.inl (Or.inl h)
  · rcases Int.lt_trichotomy a.inception b.inception with h' | h' | h'
    · exact Or.inl (Or.inr ⟨h, Or.inl h'⟩)
    · rcases String.le_total a.id b.id with hi | hi
      · exact Or.inl (Or.inr ⟨h, Or.inr ⟨h', hi⟩⟩)
      · exact Or.inr (Or.inr ⟨h.symm, Or.inr ⟨h'.symm, hi⟩⟩)
    · exact Or.inr (Or.inr ⟨h.symm, Or.inl h'⟩)
  · exact Or.inr (Or.inl h)

theorem bundleKeyLe_trans (a b c : Bundle) (h1 : bundleKeyLe a b = true) (h2 : bundleKeyLe b c = true) :
    bundleKeyLe a c = true := by
  rw [bundleKeyLe_iff] at *
  rcases h1 with h1 | ⟨e1, h1⟩
  · rcases h2 with h2 | ⟨e2, _⟩
    · exact Or.inl (by omega)
    · exact Or.inl (by omega)
  · rcases h2 with h2 | ⟨e2, h2⟩
    · exact Or.inl (by omega)
    · refine Or.inr ⟨by omega, ?_⟩
      rcases h1 with h1 | ⟨i1, h1⟩
      · rcases h2 with h2 | ⟨i2, _⟩
        · exact Or.inl (by omega)
        · exact Or.inl (by omega)
      · rcases h2 with h2 | ⟨i2, h2⟩
        · exact Or.inl (by omega)
        · exact Or.inr ⟨by omega, String.le_trans h1 h2⟩

/-- the order is antisymmetric on the key: both ways round means equal (expiration, inception, id) -/
theorem bundleKeyLe_antisymm (a b : Bundle) (h1 : bundleKeyLe a b = true) (h2 : bundleKeyLe b a = true) :
    a.expiration = b.expiration ∧ a.inception = b.inception ∧ a.id = b.id := by
  rw [bundleKeyLe_iff] at *
  rcases h1 with h1 | ⟨e1, h1⟩
  · rcases h2 with h2 | ⟨e2, _⟩ <;> omega
  · rcases h2 with h2 | ⟨_, h2⟩
    · omega
    · rcases h1 with h1 | ⟨i1, h1⟩
      · rcases h2 with h2 | ⟨i2, _⟩ <;> omega
      · rcases h2 with h2 | ⟨_, h2⟩
        · omega
        · exact ⟨e1, i1, String.le_antisymm h1 h2⟩

/-- sorting by (expiration, inception, id) gives ONE list for all orders of bundles with pairwise distinct ids
    (`C12_order_key` of KskmProofs/C12.lean) -/
theorem sortByKey_perm_eq (l₁ l₂ : List Bundle) (hp : l₁.Perm l₂)
    (hd : l₁.Pairwise (fun a b => a.id ≠ b.id)) : sortByKey l₁ = sortByKey l₂ :=
  mergeSort_eq_of_perm bundleKeyLe_trans bundleKeyLe_total hp
    (fun a ha b hb h1 h2 => eq_of_pairwise_ne (·.id) hd a ha b hb (bundleKeyLe_antisymm a b h1 h2).2.2)

theorem PermRel.of_perm_left {α} {R : α → α → Prop} {a a' b : List α} (hp : a.Perm a') (h : PermRel R a' b) :
    PermRel R a b := by
  obtain ⟨m, hm, ha⟩ := h
  exact ⟨m, hp.trans hm, ha⟩

theorem PermRel.of_perm_right {α} {R : α → α → Prop} {a b b' : List α} (h : PermRel R a b) (hp : b.Perm b') :
    PermRel R a b' := by
  obtain ⟨m, hm, ha⟩ := h
  obtain ⟨m', hm', ha'⟩ := All₂.perm_comm hp ha
  exact ⟨m', hm.trans hm', ha'⟩

theorem PermRel.of_all₂ {α} {R : α → α → Prop} {a b : List α} (h : All₂ R a b) : PermRel R a b :=
  ⟨a, List.Perm.refl _, h⟩

theorem PermRel.length_eq {α} {R : α → α → Prop} {a b : List α} (h : PermRel R a b) : a.length = b.length := by
  obtain ⟨m, hm, ha⟩ := h
  rw [hm.length_eq, ha.length_eq]

/-- **the sorted bundle LISTS agree position by position** when the bundles loaded from the two orders are the
    same up to order and `set` fields and their ids are pairwise distinct -/
theorem sortByKey_permRel {u u' : List Bundle} (h : PermRel SameBundle u u')
    (hd : u.Pairwise (fun a b => a.id ≠ b.id)) : All₂ SameBundle (sortByKey u) (sortByKey u') := by
  obtain ⟨m, hp, ha⟩ := h
  rw [sortByKey_perm_eq u m hp hd]
  refine mergeSort_all₂ (R := SameBundle) (fun _ _ _ _ ha hb => ?_) ha
  simp only [bundleKeyLe, ha.id, ha.inception, ha.expiration, hb.id, hb.inception, hb.expiration]

/-- two bundle lists as loaded from two sibling orders: the same bundles (up to `set` fields) in some order;
    in the same order when `ordered` and the ids are pairwise distinct -/
def BundlesSame (ordered : Bool) (r r' : List Bundle) : Prop :=
  PermRel SameBundle r r' ∧ (ordered = true → r.Pairwise (fun a b => a.id ≠ b.id) → All₂ SameBundle r r')

theorem bundlesSame_sorted {u u' : List Bundle} (h : PermRel SameBundle u u') :
    BundlesSame true (sortByKey u) (sortByKey u') := by
  have p1 : (sortByKey u).Perm u := List.mergeSort_perm _ _
  have p2 : (sortByKey u').Perm u' := List.mergeSort_perm _ _
  refine ⟨(h.of_perm_left p1).of_perm_right p2.symm, fun _ hd => sortByKey_permRel h ?_⟩
  exact (p1.pairwise_iff (fun h => fun h' => h h'.symm)).mp hd

theorem bundlesSame_unordered {u u' r r' : List Bundle} (h : PermRel SameBundle u u') (p1 : r.Perm u) (p2 : r'.Perm u') :
    BundlesSame false r r' :=
  ⟨(h.of_perm_left p1).of_perm_right p2.symm, fun hc => by cases hc⟩

theorem requestBundlesOf_same (gs : GlueSwitches) {l l' : List XVal} (h : ListPerm l l') :
    ResSame (BundlesSame gs.sortsRequestBundlesByTriple) (requestBundlesOf gs l) (requestBundlesOf gs l') := by
  unfold requestBundlesOf
  refine resSame_iff.mpr (ResAgree.bind (mapM_listPerm_same (fun _ _ => requestBundleOf_same gs) h).rel ?_)
  intro u u' hu
  cases gs.sortsRequestBundlesByTriple with
  | true => exact bundlesSame_sorted hu
  | false => exact bundlesSame_unordered hu (List.mergeSort_perm _ _) (List.mergeSort_perm _ _)

theorem responseBundlesOf_same (gs : GlueSwitches) {a b : XVal} (h : DictPerm a b) :
    ResSame (BundlesSame gs.sortsResponseBundles) (responseBundlesOf gs a) (responseBundlesOf gs b) := by
  unfold responseBundlesOf
  refine resSame_iff.mpr (ResAgree.bind (R := PermRel SameBundle) (ResSame.rel ?_) ?_)
  · cases gs.wrapsSingleResponseBundle with
    | true => exact mapM_listPerm_same (fun _ _ => responseBundleOf_same) (asList_perm h)
    | false =>
      exact iter_mapM_rel (e := .error .type) (fun _ => rfl) (PermRel.of_all₂ All₂.nil)
        (mapM_listPerm_same fun _ _ => responseBundleOf_same) h
  · intro u u' hu
    cases gs.sortsResponseBundles with
    | true => exact bundlesSame_sorted hu
    | false => exact bundlesSame_unordered hu (List.Perm.refl _) (List.Perm.refl _)

/-- the same `Request` as Python objects go — `set` fields (keys, signatures, signers, algorithms) compared
    as sets — except possibly for the order of the bundle list; `ordered`: see `BundlesSame` -/
structure RequestSame (ordered : Bool) (a b : Request) : Prop where
  id : a.id = b.id
  serial : a.serial = b.serial
  domain : a.domain = b.domain
  timestamp : a.timestamp = b.timestamp
  zskPolicy : SamePolicy a.zskPolicy b.zskPolicy
  bundles : BundlesSame ordered a.bundles b.bundles

structure ResponseSame (ordered : Bool) (a b : Response) : Prop where
  id : a.id = b.id
  serial : a.serial = b.serial
  domain : a.domain = b.domain
  timestamp : a.timestamp = b.timestamp
  zskPolicy : SamePolicy a.zskPolicy b.zskPolicy
  kskPolicy : SamePolicy a.kskPolicy b.kskPolicy
  bundles : BundlesSame ordered a.bundles b.bundles

/-- **`request_from_xml` after the reader, on `DictPerm` dicts**: both raise, or both return — the same
    `Request` up to `set` fields and (unless ids are distinct and the sort is by the full key) bundle order. -/
theorem requestFromDict_same (gs : GlueSwitches) {a b : XVal} (h : DictPerm a b) :
    ResSame (RequestSame gs.sortsRequestBundlesByTriple) (requestFromDict gs a) (requestFromDict gs b) := by
  rw [resSame_iff]
  unfold requestFromDict
  repeat pstep
  dsimp only
  refine ResAgree.bind (requestBundlesOf_same gs (asList_perm (getD_relP (by assumption) (DictPerm.refl _)))).rel ?_
  intro _ _ hb
  repeat pstep
  refine ResAgree.bind (signaturePolicyOf_same (by assumption)).rel ?_
  intro _ _ hz
  repeat pstep
  refine ResAgree.bind_eq (timestampOf_perm (by assumption)) fun _ => ?_
  repeat pstep
  exact ⟨rfl, rfl, rfl, rfl, hz, hb⟩

/-- **`response_from_xml` after the reader, on `DictPerm` dicts** -/
theorem responseFromDict_same (gs : GlueSwitches) {a b : XVal} (h : DictPerm a b) :
    ResSame (ResponseSame gs.sortsResponseBundles) (responseFromDict gs a) (responseFromDict gs b) := by
  rw [resSame_iff]
  unfold responseFromDict
  repeat pstep
  refine ResAgree.bind (responseBundlesOf_same gs (by assumption)).rel ?_
  intro _ _ hb
  repeat pstep
  refine ResAgree.bind (signaturePolicyOf_same (by assumption)).rel ?_
  intro _ _ hk
  repeat pstep
  refine ResAgree.bind (signaturePolicyOf_same (by assumption)).rel ?_
  intro _ _ hz
  repeat pstep
  refine ResAgree.bind_eq (timestampOf_perm (by assumption)) fun _ => ?_
  repeat pstep
  exact ⟨rfl, rfl, rfl, rfl, hz, hk, hb⟩

/-! ### the relation in the property's vocabulary: position by position -/

theorem All₂.get {α β} {R : α → β → Prop} : ∀ {l : List α} {l' : List β}, All₂ R l l' →
    ∀ (i : Nat) (x : α) (y : β), l[i]? = some x → l'[i]? = some y → R x y
  | _, _, .nil, i, x, y, hx, _ => by simp at hx
  | _, _, .cons h t, 0, x, y, hx, hy => by
    simp only [List.getElem?_cons_zero, Option.some.injEq] at hx hy
    subst hx hy
    exact h
  | _, _, .cons h t, i + 1, x, y, hx, hy => by
    simp only [List.getElem?_cons_succ] at hx hy
    exact All₂.get t i x y hx hy

theorem All₂.of_get {α β} {R : α → β → Prop} : ∀ (l : List α) (l' : List β), l.length = l'.length →
    (∀ (i : Nat) (x : α) (y : β), l[i]? = some x → l'[i]? = some y → R x y) → All₂ R l l'
  | [], [], _, _ => .nil
  | [], _ :: _, h, _ => by simp at h
  | _ :: _, [], h, _ => by simp at h
  | a :: l, b :: l', h, hg =>
    .cons (hg 0 a b (by simp) (by simp))
      (All₂.of_get l l' (by simpa using h) (fun i x y hx hy => hg (i + 1) x y (by simpa using hx) (by simpa using hy)))

/-- **The same `Request` as Python compares them**: header fields equal, the `set`-valued fields (a policy's
    algorithms; a bundle's keys, signatures, signers) equal as sets — permutations of duplicate-free lists —,
    and the bundle LIST the same position by position. -/
structure SameRequest (a b : Request) : Prop where
  id : a.id = b.id
  serial : a.serial = b.serial
  domain : a.domain = b.domain
  timestamp : a.timestamp = b.timestamp
  zskPolicy : SamePolicy a.zskPolicy b.zskPolicy
  length : a.bundles.length = b.bundles.length
  bundles : ∀ (i : Nat) (x y : Bundle), a.bundles[i]? = some x → b.bundles[i]? = some y → SameBundle x y

/-- the same `Response`, likewise (cf. `ReadBack.SameResponse` of the C11 composition, which states the
    `set` fields by membership; here: permutations, and the signers too) -/
structure SameResponsePerm (a b : Response) : Prop where
  id : a.id = b.id
  serial : a.serial = b.serial
  domain : a.domain = b.domain
  timestamp : a.timestamp = b.timestamp
  zskPolicy : SamePolicy a.zskPolicy b.zskPolicy
  kskPolicy : SamePolicy a.kskPolicy b.kskPolicy
  length : a.bundles.length = b.bundles.length
  bundles : ∀ (i : Nat) (x y : Bundle), a.bundles[i]? = some x → b.bundles[i]? = some y → SameBundle x y

theorem SamePolicy.symm {a b : SigPolicy} (h : SamePolicy a b) : SamePolicy b a :=
  ⟨h.publishSafety.symm, h.retireSafety.symm, h.maxSignatureValidity.symm, h.minSignatureValidity.symm,
    h.maxValidityOverlap.symm, h.minValidityOverlap.symm, h.algorithms.symm⟩

theorem SameRequest.symm {a b : Request} (h : SameRequest a b) : SameRequest b a :=
  ⟨h.id.symm, h.serial.symm, h.domain.symm, h.timestamp.symm, h.zskPolicy.symm, h.length.symm,
    fun i x y hx hy => (h.bundles i y x hy hx).symm⟩

theorem SameResponsePerm.symm {a b : Response} (h : SameResponsePerm a b) : SameResponsePerm b a :=
  ⟨h.id.symm, h.serial.symm, h.domain.symm, h.timestamp.symm, h.zskPolicy.symm, h.kskPolicy.symm, h.length.symm,
    fun i x y hx hy => (h.bundles i y x hy hx).symm⟩

theorem SameRequest.all₂ {a b : Request} (h : SameRequest a b) : All₂ SameBundle a.bundles b.bundles :=
  All₂.of_get _ _ h.length h.bundles

theorem SameResponsePerm.all₂ {a b : Response} (h : SameResponsePerm a b) : All₂ SameBundle a.bundles b.bundles :=
  All₂.of_get _ _ h.length h.bundles

theorem all₂_ids {l l' : List Bundle} (h : All₂ SameBundle l l') : l.map (·.id) = l'.map (·.id) := by
  induction h with
  | nil => rfl
  | cons h1 _ ih => simp only [List.map_cons, h1.id, ih]

theorem permRel_ids {l l' : List Bundle} (h : PermRel SameBundle l l') : (l.map (·.id)).Perm (l'.map (·.id)) := by
  obtain ⟨m, hp, ha⟩ := h
  rw [← all₂_ids ha]
  exact hp.map _

theorem pairwise_ids_iff (l : List Bundle) : l.Pairwise (fun a b => a.id ≠ b.id) ↔ (l.map (·.id)).Nodup := by
  rw [List.Nodup, List.pairwise_map]

/-- with the full sort key and pairwise distinct bundle ids — on EITHER side — the bundle lists agree
    position by position -/
theorem BundlesSame.all₂ {r r' : List Bundle} (h : BundlesSame true r r')
    (hd : r.Pairwise (fun a b => a.id ≠ b.id) ∨ r'.Pairwise (fun a b => a.id ≠ b.id)) : All₂ SameBundle r r' := by
  apply h.2 rfl
  rcases hd with hd | hd
  · exact hd
  · rw [pairwise_ids_iff] at hd ⊢
    exact (permRel_ids h.1).nodup_iff.mpr hd

theorem RequestSame.same {a b : Request} (h : RequestSame true a b)
    (hd : a.bundles.Pairwise (fun x y => x.id ≠ y.id) ∨ b.bundles.Pairwise (fun x y => x.id ≠ y.id)) :
    SameRequest a b :=
  have ha := h.bundles.all₂ hd
  ⟨h.id, h.serial, h.domain, h.timestamp, h.zskPolicy, ha.length_eq, ha.get⟩

theorem ResponseSame.same {a b : Response} (h : ResponseSame true a b)
    (hd : a.bundles.Pairwise (fun x y => x.id ≠ y.id) ∨ b.bundles.Pairwise (fun x y => x.id ≠ y.id)) :
    SameResponsePerm a b :=
  have ha := h.bundles.all₂ hd
  ⟨h.id, h.serial, h.domain, h.timestamp, h.zskPolicy, h.kskPolicy, ha.length_eq, ha.get⟩

end Kskm.Xml
