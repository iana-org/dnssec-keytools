/-
  `PlainT cls t` and `PlainW cls w` are decidable, by recursion on the tree: a concrete document is shown
  to be PlainXml by one kernel evaluation of `decide`, whatever its size.
-/
import KskmProofs.Lemmas.XmlRenderW
namespace Kskm.Xml

instance (cls : Classes) (n : List Char) : Decidable (PlainName cls n) := by unfold PlainName; exact inferInstance
instance (cls : Classes) (p : List Char × List Char) : Decidable (PlainAttr cls p) := by
  unfold PlainAttr; exact inferInstance
instance (cls : Classes) (s : List Char) : Decidable (PlainText cls s) := by unfold PlainText; exact inferInstance
instance (cls : Classes) (s : List Char) : Decidable (Ws cls s) := by unfold Ws; exact inferInstance
instance (cls : Classes) (a : Attrs) (s : List Char) : Decidable (Gap cls a s) := by unfold Gap; exact inferInstance
instance (cls : Classes) (w : List Char) : Decidable (AttrWs cls w) := by unfold AttrWs; exact inferInstance
instance (cls : Classes) (a : WAttrs) : Decidable (PlainWAttrs cls a) := by unfold PlainWAttrs; exact inferInstance

mutual
def occursT.dec (n : List Char) : (t : PTree) → Decidable (occursT n t)
  | .leaf .. | .empty .. => by unfold occursT; exact inferInstance
  | .node _ _ _ _ first rest _ => by
    unfold occursT
    have := occursT.dec n first; have := occursF.dec n rest; exact inferInstance
def occursF.dec (n : List Char) : (f : PForest) → Decidable (occursF n f)
  | .nil => by unfold occursF; exact inferInstance
  | .cons _ t f => by unfold occursF; have := occursT.dec n t; have := occursF.dec n f; exact inferInstance
end
instance (n : List Char) (t : PTree) : Decidable (occursT n t) := occursT.dec n t
instance (n : List Char) (f : PForest) : Decidable (occursF n f) := occursF.dec n f

mutual
def PlainT.dec (cls : Classes) : (t : PTree) → Decidable (PlainT cls t)
  | .leaf .. | .empty .. => by unfold PlainT; exact inferInstance
  | .node _ _ _ _ first rest _ => by
    unfold PlainT
    have := PlainT.dec cls first; have := PlainF.dec cls rest; exact inferInstance
def PlainF.dec (cls : Classes) : (f : PForest) → Decidable (PlainF cls f)
  | .nil => by unfold PlainF; exact inferInstance
  | .cons _ t f => by unfold PlainF; have := PlainT.dec cls t; have := PlainF.dec cls f; exact inferInstance
end
instance (cls : Classes) (t : PTree) : Decidable (PlainT cls t) := PlainT.dec cls t

mutual
def occursW.dec (n : List Char) : (t : WTree) → Decidable (occursW n t)
  | .leaf .. | .empty .. => by unfold occursW; exact inferInstance
  | .node _ _ _ _ first rest _ => by
    unfold occursW
    have := occursW.dec n first; have := occursWF.dec n rest; exact inferInstance
def occursWF.dec (n : List Char) : (f : WForest) → Decidable (occursWF n f)
  | .nil => by unfold occursWF; exact inferInstance
  | .cons _ t f => by unfold occursWF; have := occursW.dec n t; have := occursWF.dec n f; exact inferInstance
end
instance (n : List Char) (t : WTree) : Decidable (occursW n t) := occursW.dec n t
instance (n : List Char) (f : WForest) : Decidable (occursWF n f) := occursWF.dec n f

mutual
def PlainW.dec (cls : Classes) : (t : WTree) → Decidable (PlainW cls t)
  | .leaf .. | .empty .. => by unfold PlainW; exact inferInstance
  | .node _ _ _ _ first rest _ => by
    unfold PlainW
    have := PlainW.dec cls first; have := PlainWF.dec cls rest; exact inferInstance
def PlainWF.dec (cls : Classes) : (f : WForest) → Decidable (PlainWF cls f)
  | .nil => by unfold PlainWF; exact inferInstance
  | .cons _ t f => by unfold PlainWF; have := PlainW.dec cls t; have := PlainWF.dec cls f; exact inferInstance
end
instance (cls : Classes) (t : WTree) : Decidable (PlainW cls t) := PlainW.dec cls t

end Kskm.Xml
