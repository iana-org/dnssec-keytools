/-
  What may precede the KSR element (C12: "anything preceding the KSR element is ignored").

  `parse_ksr` starts reading at the FIRST occurrence of the four characters `<KSR` in the file
  (`xml.index("<KSR")`).  `C12_reader_ksr` (KskmProofs/C12.lean) therefore assumes that this first occurrence
  is the root element.  Here that semantic condition is derived from a GRAMMAR of prologs:

      prolog  ::=  item*
      item    ::=  white space (any `<`-free text: blanks, line breaks, a byte-order mark)
                |  `<?` body `?>`          XML declaration, processing instructions
                |  `<!--` body `-->`       comments
                |  `<!DOCTYPE` body `>`    document type declaration
      body    ::=  any text in which the four characters `<KSR` do not occur

  `skip_prolog`: scanning for `<KSR` passes over every such prolog, whatever follows;
  `index_after_skip`: so the first `<KSR` of `prolog ++ root ++ trail` is the root when the root's text
  starts with `<KSR`.  The restriction on `body` is necessary: `ksr_in_comment_counterexample` in
  KskmProofs/C12.lean is a comment that does contain `<KSR`, on which the reader starts inside the comment.
-/
import KskmProofs.Lemmas.XmlReaderW
namespace Kskm.Xml

theorem kKSRopen_eq : kKSRopen = ['<', 'K', 'S', 'R'] := by rw [kKSRopen, String.toList_ofList]

def NoKsr (s : List Char) : Prop := ¬ kKSRopen <:+: s

inductive PrologItem where
  /-- `<`-free text between the items: white space, a byte-order mark -/
  | space (s : List Char)
  /-- `<?body?>`: the XML declaration, processing instructions -/
  | pi (body : List Char)
  /-- `<!--body-->` -/
  | comment (body : List Char)
  /-- `<!DOCTYPEbody>` -/
  | doctype (body : List Char)

def PrologItem.render : PrologItem → List Char
  | .space s => s
  | .pi b => ['<', '?'] ++ b ++ ['?', '>']
  | .comment b => ['<', '!', '-', '-'] ++ b ++ ['-', '-', '>']
  | .doctype b => ['<', '!', 'D', 'O', 'C', 'T', 'Y', 'P', 'E'] ++ b ++ ['>']

def PrologItem.Ok : PrologItem → Prop
  | .space s => '<' ∉ s
  | .pi b => NoKsr b
  | .comment b => NoKsr b
  | .doctype b => NoKsr b

def renderProlog : List PrologItem → List Char
  | [] => []
  | it :: r => it.render ++ renderProlog r

/-- an occurrence of `<KSR` at the start of `u ++ c :: v` lies within `u`, or `c` is one of its characters -/
theorem ksr_prefix_split (u v : List Char) (c : Char) (h : kKSRopen <+: u ++ c :: v) :
    kKSRopen <+: u ∨ c = '<' ∨ c = 'K' ∨ c = 'S' ∨ c = 'R' := by
  rw [kKSRopen_eq] at h ⊢
  match u, h with
  | [], h =>
    simp only [List.nil_append, List.cons_prefix_cons] at h
    exact Or.inr (Or.inl h.1.symm)
  | [_], h =>
    simp only [List.cons_append, List.nil_append, List.cons_prefix_cons] at h
    exact Or.inr (Or.inr (Or.inl h.2.1.symm))
  | [_, _], h =>
    simp only [List.cons_append, List.nil_append, List.cons_prefix_cons] at h
    exact Or.inr (Or.inr (Or.inr (Or.inl h.2.2.1.symm)))
  | [_, _, _], h =>
    simp only [List.cons_append, List.nil_append, List.cons_prefix_cons] at h
    exact Or.inr (Or.inr (Or.inr (Or.inr h.2.2.2.1.symm)))
  | a :: b :: d :: e :: r, h =>
    simp only [List.cons_append, List.cons_prefix_cons] at h
    left
    obtain ⟨h1, h2, h3, h4, _⟩ := h
    subst h1 h2 h3 h4
    simp [List.cons_prefix_cons]

theorem NoKsr.tail {x : Char} {r : List Char} (h : NoKsr (x :: r)) : NoKsr r :=
  fun hc => h (hc.trans (List.suffix_cons x r).isInfix)

/-- a `<KSR`-free body followed by a closing delimiter that starts with none of `<`, `K`, `S`, `R` and
    contains no `<` is passed over -/
theorem skip_body (close : List Char) (c : Char) (cl : List Char) (hclose : close = c :: cl) (hlt : '<' ∉ close)
    (hc : c ≠ '<' ∧ c ≠ 'K' ∧ c ≠ 'S' ∧ c ≠ 'R') : ∀ (body : List Char), NoKsr body → Skip kKSRopen (body ++ close) := by
  intro body
  induction body with
  | nil =>
    intro _
    rw [kKSRopen_eq]
    simpa using skip_of_no_lt ['K', 'S', 'R'] close hlt
  | cons x r ih =>
    intro hno tail i
    have hpre : kKSRopen.isPrefixOf (x :: (r ++ close ++ tail)) = false := by
      cases hb : kKSRopen.isPrefixOf (x :: (r ++ close ++ tail)) with
      | false => rfl
      | true =>
        exfalso
        have hp : kKSRopen <+: (x :: r) ++ c :: (cl ++ tail) := by
          have := List.isPrefixOf_iff_prefix.mp hb
          simpa [hclose, List.append_assoc] using this
        rcases ksr_prefix_split _ _ _ hp with h | h | h | h | h
        · exact hno h.isInfix
        · exact hc.1 h
        · exact hc.2.1 h
        · exact hc.2.2.1 h
        · exact hc.2.2.2 h
    have hne : kKSRopen = '<' :: ['K', 'S', 'R'] := kKSRopen_eq
    have := ih hno.tail tail (i + 1)
    simp only [List.cons_append, List.append_assoc] at hpre this ⊢
    rw [hne] at hpre this ⊢
    simp only [findAux, hpre, Bool.false_eq_true, ↓reduceIte, this, List.length_cons, List.length_append]
    congr 1
    omega

/-- an opening delimiter `<x…` whose second character is not `K` is passed over -/
theorem skip_open (x : Char) (rest : List Char) (hx : x ≠ 'K') (hlt : '<' ∉ x :: rest) :
    Skip kKSRopen ('<' :: x :: rest) := by
  rw [kKSRopen_eq]
  apply skip_tag _ _ hlt
  intro tail h
  simp only [List.cons_append, List.cons_prefix_cons] at h
  exact hx h.2.1.symm

theorem skip_item : ∀ (it : PrologItem), it.Ok → Skip kKSRopen it.render
  | .space s, h => by
    rw [kKSRopen_eq]
    exact skip_of_no_lt _ s h
  | .pi b, h => by
    have h1 := skip_open '?' [] (by decide) (by decide)
    have h2 := skip_body ['?', '>'] '?' ['>'] rfl (by decide) (by decide) b h
    have := h1.append h2
    simpa [PrologItem.render, List.append_assoc] using this
  | .comment b, h => by
    have h1 := skip_open '!' ['-', '-'] (by decide) (by decide)
    have h2 := skip_body ['-', '-', '>'] '-' ['-', '>'] rfl (by decide) (by decide) b h
    have := h1.append h2
    simpa [PrologItem.render, List.append_assoc] using this
  | .doctype b, h => by
    have h1 := skip_open '!' ['D', 'O', 'C', 'T', 'Y', 'P', 'E'] (by decide) (by decide)
    have h2 := skip_body ['>'] '>' [] rfl (by decide) (by decide) b h
    have := h1.append h2
    simpa [PrologItem.render, List.append_assoc] using this

/-- **scanning for `<KSR` passes over every prolog of the grammar**, whatever follows it -/
theorem skip_prolog : ∀ (items : List PrologItem), (∀ it ∈ items, it.Ok) → Skip kKSRopen (renderProlog items)
  | [], _ => Skip.nil _
  | it :: r, h => by
    rw [renderProlog]
    exact (skip_item it (h it (by simp))).append (skip_prolog r (fun x hx => h x (List.mem_cons_of_mem _ hx)))

/-- … so the first `<KSR` of the file is the beginning of what follows the prolog, when that begins
    with `<KSR` -/
theorem index_after_skip (p x trail : List Char) (hp : Skip kKSRopen p) (hx : kKSRopen <+: x) :
    indexFrom kKSRopen (p ++ x ++ trail) 0 = some p.length := by
  obtain ⟨y, rfl⟩ := hx
  rw [indexFrom_zero, List.append_assoc, hp, List.append_assoc]
  simpa using findAux_hit kKSRopen (y ++ trail) (0 + p.length) (by rw [kKSRopen_eq]; simp)

/-- `parse_ksr` reads what starts at the first `<KSR` -/
theorem parseKsr_skip (cls : Classes) (sw : Switches) (p x : List Char)
    (h : indexFrom kKSRopen (p ++ x) 0 = some p.length) : parseKsr cls sw (p ++ x) = parse cls sw x := by
  rw [parseKsr_of_index h, List.drop_left' rfl]
  rfl

/-- the text of an element named `KSR` starts with `<KSR` -/
theorem ksr_prefix_renderW (w : WTree) (hn : w.name = ['K', 'S', 'R']) : kKSRopen <+: renderW w := by
  rw [kKSRopen_eq]
  cases w with
  | leaf n a gap text =>
    simp only [WTree.name] at hn
    subst hn
    exact ⟨wattrsText a ++ gap ++ ['>'] ++ text ++ endTag ['K', 'S', 'R'], by simp [renderW, wstartTag, wstartBody, List.append_assoc]⟩
  | empty n a gap =>
    simp only [WTree.name] at hn
    subst hn
    exact ⟨wattrsText a ++ gap ++ ['/', '>'], by simp [renderW, wselfTag, wselfBody, List.append_assoc]⟩
  | node n a gap pre first rest post =>
    simp only [WTree.name] at hn
    subst hn
    exact ⟨wattrsText a ++ gap ++ ['>'] ++ pre ++ renderW first ++ renderWF rest ++ post ++ endTag ['K', 'S', 'R'],
      by simp [renderW, wstartTag, wstartBody, List.append_assoc]⟩

end Kskm.Xml
