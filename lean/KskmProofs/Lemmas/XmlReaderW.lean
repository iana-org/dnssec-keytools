/-
  Reader correctness on the rendering of `WTree`s (KskmProofs/Lemmas/XmlRenderW.lean): PlainXml with an
  arbitrary one-line white space in front of every attribute, of which the one-space rendering `renderT` of a
  `PTree` is the instance `ofP` (`parse_plainW'` and its instance `parse_plainT` at the end; primed predicates are
  the lax ones of XmlRenderW, `PlainW.lax : Sane cls → PlainW cls w → PlainW' cls w`).  Step by step: the attribute loop, the start-tag
  expressions, `_parse_tag`, `_find_end_of_element`, `parse_first_element` — each on a tag or an element given by its
  parts, no tree — and then one walk along the tree (`loop_tree` / `loop_forest`): a round of the element loop for
  every element (`parseLoop_round`), the recursive call one level down for the children of a node (`innerAt`).  The
  string, scan and index lemmas are those of XmlStrings.lean / XmlScan.lean.

  Where the white space goes in the reader:
    * the FIRST character of the white space between the element name and the first attribute is what
      `(\s+?)` of the start-tag expression takes (the shortest prefix after which the rest of the line matches);
    * the rest of it becomes the beginning of the `attrs` group and is removed by the first `attrs.strip()`
      of `_parse_attrs`, together with the white space before `>` / `/>`;
    * the white space between two attributes is consumed by `\s*` of the attribute expression.
  Hence `AttrWs'`: only the characters after the first need to be ones that `strip()` removes.
-/
import KskmProofs.Lemmas.XmlStrings
import KskmProofs.Lemmas.XmlRenderW
namespace Kskm.Xml

theorem AttrWs'.cons {cls : Classes} {w : List Char} (h : AttrWs' cls w) : ∃ c r, w = c :: r := by
  cases w with
  | nil => exact h.elim
  | cons c r => exact ⟨c, r, rfl⟩

theorem AttrWs'.space {cls : Classes} {w : List Char} (h : AttrWs' cls w) :
    ∀ c ∈ w, cls.isSpace c = true ∧ c ≠ '\n' := by
  cases w with
  | nil => exact h.elim
  | cons c r =>
    intro x hx
    rcases List.mem_cons.mp hx with rfl | hx
    · exact ⟨h.1, h.2.1⟩
    · exact ⟨(h.2.2.2 x hx).1, (h.2.2.2 x hx).2.2⟩

theorem AttrWs'.not_word {cls : Classes} (hs : Sane cls) {w : List Char} (h : AttrWs' cls w) :
    ∀ c ∈ w, cls.isWord c = false := by
  intro c hc
  cases hw : cls.isWord c with
  | false => rfl
  | true =>
    have := hs.word_not_space c hw
    rw [(h.space c hc).1] at this; cases this

/-- inside a tag: no `<` (a scan for a tag passes over it), no `>` and no line feed (`(.+?)` of the start-tag
    expression runs up to the first of them) -/
def TagInner (c : Char) : Prop := c ≠ '<' ∧ c ≠ '>' ∧ c ≠ '\n'

theorem TagInner.of_word {cls : Classes} (hs : Sane cls) {c : Char} (hw : cls.isWord c = true) : TagInner c := by
  refine ⟨?_, ?_, ?_⟩ <;> rintro rfl
  · rw [hs.word_lt] at hw; cases hw
  · rw [hs.word_gt] at hw; cases hw
  · have := hs.word_not_strip _ hw
    rw [hs.strip_nl] at this; cases this

theorem AttrWs'.inner {cls : Classes} (hs : Sane cls) {w : List Char} (h : AttrWs' cls w) : ∀ c ∈ w, TagInner c := by
  intro c hc
  have hsp := h.space c hc
  refine ⟨?_, ?_, hsp.2⟩
  · cases w with
    | nil => exact h.elim
    | cons x r =>
      rcases List.mem_cons.mp hc with rfl | hc
      · exact h.2.2.1
      · rintro rfl
        have := (h.2.2.2 '<' hc).2.1
        rw [hs.strip_lt] at this; cases this
  · rintro rfl
    rw [hs.space_gt] at hsp; cases hsp.1

theorem attrText_inner {cls : Classes} (hs : Sane cls) {p : List Char × List Char} (hp : PlainAttr cls p) :
    ∀ c ∈ attrText p, TagInner c := by
  intro c hc
  simp only [attrText, List.mem_cons, List.mem_append, List.mem_nil_iff, or_false] at hc
  rcases hc with hc | rfl | rfl | hc | rfl
  · exact .of_word hs (hp.1.2 c hc)
  · exact ⟨by decide, by decide, by decide⟩
  · exact ⟨by decide, by decide, by decide⟩
  · exact ⟨(hp.2.2 c hc).2.2.1, (hp.2.2 c hc).2.2.2, (hp.2.2 c hc).2.1⟩
  · exact ⟨by decide, by decide, by decide⟩

theorem wattrsText_inner {cls : Classes} (hs : Sane cls) : ∀ (a : WAttrs), PlainWAttrs' cls a →
    ∀ c ∈ wattrsText a, TagInner c := by
  intro a
  induction a with
  | nil => intro _ c hc; simp [wattrsText] at hc
  | cons q r ih =>
    intro ha c hc
    have h1 := ha q (by simp)
    simp only [wattrsText, List.mem_append] at hc
    rcases hc with hc | hc | hc
    · exact h1.1.inner hs c hc
    · exact attrText_inner hs h1.2 c hc
    · exact ih (fun x hx => ha x (List.mem_cons_of_mem _ hx)) c hc

theorem Gap.inner {cls : Classes} (hs : Sane cls) {a : Attrs} {gap : List Char} (hg : Gap cls a gap) :
    ∀ c ∈ gap, TagInner c := by
  intro c hc
  have h := hg.1 c hc
  refine ⟨?_, ?_, h.2⟩ <;> rintro rfl
  · rw [hs.strip_lt] at h; cases h.1
  · rw [hs.strip_gt] at h; cases h.1

/-- between `<` and the closing `close` (`>` or `/>`) of a rendered tag -/
theorem wtagBody_no_lt {cls : Classes} (hs : Sane cls) {n : List Char} {a : WAttrs} {gap close : List Char}
    (ht : PlainTag cls n a gap) (hc : '<' ∉ close) : '<' ∉ n ++ wattrsText a ++ gap ++ close := by
  simp only [List.mem_append, not_or]
  exact ⟨⟨⟨name_no_lt hs ht.name, fun h => (wattrsText_inner hs a ht.attrs _ h).1 rfl⟩,
    fun h => (ht.gap.inner hs _ h).1 rfl⟩, hc⟩

/-- what follows the name in a tag: a white-space character (attributes) or, without attributes, the
    beginning of `gap ++ close`; never a word character -/
theorem wtagBody_shape {cls : Classes} (hs : Sane cls) (n : List Char) (a : WAttrs) (gap close : List Char)
    (ha : PlainWAttrs' cls a) (hnil : a = [] → ∃ t x, cls.isWord t = false ∧ gap ++ close = t :: x) :
    ∃ t x, cls.isWord t = false ∧ n ++ wattrsText a ++ gap ++ close = n ++ t :: x := by
  cases a with
  | nil =>
    obtain ⟨t, x, ht, hx⟩ := hnil rfl
    exact ⟨t, x, ht, by simp [wattrsText, hx]⟩
  | cons q r =>
    have hw := (ha q (by simp)).1
    obtain ⟨c, w', hcw⟩ := hw.cons
    exact ⟨c, w' ++ (attrText q.2 ++ wattrsText r) ++ gap ++ close, hw.not_word hs c (by simp [hcw]),
      by simp [wattrsText, hcw]⟩

/-- a start tag without attributes ends right after the name -/
theorem Gap.close_gt {cls : Classes} (hs : Sane cls) {a : WAttrs} {gap : List Char} (hg : Gap cls (wplain a) gap) :
    a = [] → ∃ t x, cls.isWord t = false ∧ gap ++ ['>'] = t :: x := by
  rintro rfl
  exact ⟨'>', [], hs.word_gt, by rw [hg.2 rfl]; rfl⟩

theorem skip_wtag {cls : Classes} (hs : Sane cls) {n m pat : List Char} {a : WAttrs} {gap close : List Char}
    (hn : PlainName cls n) (hm : PlainTag cls m a gap) (hne : m ≠ n) (hp : IsPat n pat) (hc : '<' ∉ close)
    (hnil : a = [] → ∃ t x, cls.isWord t = false ∧ gap ++ close = t :: x) :
    Skip pat ('<' :: (m ++ wattrsText a ++ gap ++ close)) := by
  obtain ⟨t, x, htw, hshape⟩ := wtagBody_shape hs m a gap close hm.attrs hnil
  exact skip_openTag hs hn hm.name hne hp hshape htw (wtagBody_no_lt hs hm hc)

mutual
/-- scanning for a pattern of `n` passes over every plain subtree in which `n` does not occur -/
theorem skipW {cls : Classes} (hs : Sane cls) {n pat : List Char} (hn : PlainName cls n) (hp : IsPat n pat) :
    ∀ (t : WTree), PlainW' cls t → ¬ occursW n t → Skip pat (renderW t)
  | .leaf m a gap text, ⟨hm, htext⟩, ho => by
    have hne : m ≠ n := fun h => ho h
    rw [renderW]
    exact (Skip.append (skip_wtag hs hn hm hne hp (by simp) (hm.gap.close_gt hs)) (skip_text hp htext.1)).append
      (skip_endTag hs hn hm.name hne hp)
  | .empty m a gap, ⟨hm, hane⟩, ho => by
    have hne : m ≠ n := fun h => ho h
    rw [renderW]
    exact skip_wtag hs hn hm hne hp (by simp) (fun h => absurd h hane)
  | .node m a gap pre first rest post, ⟨hm, hpre, hpost, hf, hr, _, _⟩, ho => by
    have hne : m ≠ n := fun h => ho (Or.inl h)
    have hof : ¬ occursW n first := fun h => ho (Or.inr (Or.inl h))
    have hor : ¬ occursWF n rest := fun h => ho (Or.inr (Or.inr h))
    rw [renderW]
    exact ((((Skip.append (skip_wtag hs hn hm hne hp (by simp) (hm.gap.close_gt hs)) (skip_text hp (hpre.no_lt hs))).append
      (skipW hs hn hp first hf hof)).append (skipWF hs hn hp rest hr hor)).append
      (skip_text hp (hpost.no_lt hs))).append (skip_endTag hs hn hm.name hne hp)
theorem skipWF {cls : Classes} (hs : Sane cls) {n pat : List Char} (hn : PlainName cls n) (hp : IsPat n pat) :
    ∀ (f : WForest), PlainWF' cls f → ¬ occursWF n f → Skip pat (renderWF f)
  | .nil, _, _ => by rw [renderWF]; exact Skip.nil _
  | .cons sep t f, hpl, ho => by
    rw [renderWF]
    exact ((skip_text hp (hpl.1.no_lt hs)).append (skipW hs hn hp t hpl.2.1 (fun h => ho (Or.inl h)))).append
      (skipWF hs hn hp f hpl.2.2 (fun h => ho (Or.inr h)))
end

/-- the end tag of a plain element is the last thing in its rendering: a scan for it passes over all the rest -/
theorem renderW_node_end {cls : Classes} (hs : Sane cls) {n : List Char} {a : WAttrs} {gap pre post : List Char}
    {first : WTree} {rest : WForest} (hp : PlainW' cls (.node n a gap pre first rest post)) :
    ∃ b, renderW (.node n a gap pre first rest post) = b ++ endTag n ∧ Skip (endTag n) b := by
  obtain ⟨ht, hpre, hpost, hf, hr, hof, hor⟩ := hp
  refine ⟨wstartTag n a gap ++ pre ++ renderW first ++ renderWF rest ++ post, by rw [renderW], ?_⟩
  have hopen : Skip (endTag n) (wstartTag n a gap) := by
    have := skip_close_at_open hs (body := wattrsText a ++ gap ++ ['>']) n ht.name
      (by simpa [List.append_assoc] using wtagBody_no_lt hs ht (close := ['>']) (by simp))
    simpa [wstartTag, wstartBody, List.append_assoc] using this
  exact (((hopen.append (skip_text .close (hpre.no_lt hs))).append (skipW hs ht.name .close first hf hof)).append
    (skipWF hs ht.name .close rest hr hor)).append (skip_text .close (hpost.no_lt hs))

theorem renderW_shape (t : WTree) : Markup (renderW t) := by
  cases t with
  | leaf n a gap text =>
    refine ⟨_, by rw [renderW, wstartTag]; rfl, ?_⟩
    rw [renderW]; exact (endTag_endsGt n).append_left _
  | empty n a gap =>
    refine ⟨_, by rw [renderW, wselfTag], ?_⟩
    rw [renderW]
    exact ⟨'<' :: (n ++ wattrsText a ++ gap ++ ['/']), by simp [wselfTag, wselfBody]⟩
  | node n a gap pre first rest post =>
    refine ⟨_, by rw [renderW, wstartTag]; simp only [List.cons_append, List.append_assoc]; rfl, ?_⟩
    rw [renderW]
    exact (endTag_endsGt n).append_left _

theorem renderWF_ends : ∀ (f : WForest), renderWF f = [] ∨ EndsWith '>' (renderWF f)
  | .nil => Or.inl rfl
  | .cons sep t f => by
    obtain ⟨_, _, he⟩ := (renderW_shape t).append (renderWF_ends f)
    rw [renderWF, List.append_assoc]
    exact Or.inr (he.append_left sep)

/-- the attribute text without the white space in front of the first attribute -/
def wattrsBody : WAttrs → List Char
  | [] => []
  | q :: r => attrText q.2 ++ wattrsText r

theorem wattrsText_cons (q : List Char × (List Char × List Char)) (r : WAttrs) :
    wattrsText (q :: r) = q.1 ++ wattrsBody (q :: r) := rfl

theorem attrText_endsQuote (p : List Char × List Char) : EndsWith '"' (attrText p) :=
  ⟨p.1 ++ '=' :: '"' :: p.2, by simp [attrText]⟩

theorem wattrsText_endsQuote : ∀ (a : WAttrs), wattrsText a = [] ∨ EndsWith '"' (wattrsText a)
  | [] => Or.inl rfl
  | q :: r => Or.inr (((attrText_endsQuote q.2).append_right (wattrsText_endsQuote r)).append_left _)

theorem wattrsBody_endsQuote (q : List Char × (List Char × List Char)) (r : WAttrs) :
    EndsWith '"' (wattrsBody (q :: r)) :=
  (attrText_endsQuote q.2).append_right (wattrsText_endsQuote r)

theorem wattrsBody_inner {cls : Classes} (hs : Sane cls) (a : WAttrs) (ha : PlainWAttrs' cls a) :
    ∀ c ∈ wattrsBody a, TagInner c := by
  intro c hc
  cases a with
  | nil => simp [wattrsBody] at hc
  | cons q r =>
    exact wattrsText_inner hs (q :: r) ha c (by rw [wattrsText_cons]; exact List.mem_append_right _ hc)

theorem wattrsBody_head {cls : Classes} {q : List Char × (List Char × List Char)} {r : WAttrs}
    (hp : PlainAttr cls q.2) : ∃ c x, wattrsBody (q :: r) = c :: x ∧ cls.isWord c = true := by
  obtain ⟨c, k, hk, hw⟩ := head_word hp.1
  exact ⟨c, k ++ '=' :: '"' :: (q.2.2 ++ ['"']) ++ wattrsText r, by simp [wattrsBody, attrText, hk], hw⟩

/-! ### `^(\w+)="(.+?)"\s*(.*)` and the attribute loop on the attribute text -/

/-- one attribute is read and ALL the white space in front of the next one is skipped (`\s*`) -/
theorem matchAttr_plainW {cls : Classes} (hs : Sane cls) (q : List Char × (List Char × List Char)) (r : WAttrs)
    (hq : PlainAttr cls q.2) (hr : PlainWAttrs' cls r) :
    matchAttr cls (wattrsBody (q :: r)) = some (q.2.1, q.2.2, wattrsBody r) := by
  obtain ⟨w, k, v⟩ := q
  obtain ⟨hk, hvne, hv⟩ := hq
  simp only at hk hvne hv
  cases v with
  | nil => exact absurd rfl hvne
  | cons c rv =>
    have hbody : wattrsBody ((w, k, c :: rv) :: r) = k ++ '=' :: ('"' :: c :: (rv ++ '"' :: wattrsText r)) := by
      simp [wattrsBody, attrText]
    obtain ⟨ht, hd⟩ := takeWhile_run cls.isWord k '=' ('"' :: c :: (rv ++ '"' :: wattrsText r)) hk.2 hs.word_eq
    have hkne : (k.isEmpty) = false := by
      cases k with
      | nil => exact absurd rfl hk.1
      | cons _ _ => rfl
    have hc : c ≠ '\n' := (hv c (by simp)).2.1
    have hstop : ∀ x ∈ rv, (fun x => decide (x ≠ '"') && decide (x ≠ '\n')) x = true := by
      intro x hx
      have := hv x (List.mem_cons_of_mem _ hx)
      simp [this.1, this.2.1]
    obtain ⟨ht2, hd2⟩ := takeWhile_run (fun x => decide (x ≠ '"') && decide (x ≠ '\n')) rv '"' (wattrsText r)
      hstop (by simp)
    have hrest : ((wattrsText r).dropWhile cls.isSpace).takeWhile (fun x => decide (x ≠ '\n')) = wattrsBody r := by
      cases r with
      | nil => simp [wattrsText, wattrsBody]
      | cons q' r' =>
        have hq' := hr q' (by simp)
        obtain ⟨c', x', hx', hw'⟩ := wattrsBody_head (r := r') hq'.2
        have hsp : cls.isSpace c' = false := hs.word_not_space _ hw'
        rw [wattrsText_cons, hx']
        obtain ⟨_, hdw⟩ := takeWhile_run cls.isSpace q'.1 c' x' (fun y hy => (hq'.1.space y hy).1) hsp
        rw [hdw, ← hx']
        apply takeWhile_all
        intro y hy
        have := (wattrsBody_inner hs (q' :: r') hr y hy).2.2
        simp [this]
    unfold matchAttr
    simp only [hbody, ht, hd, hkne, Bool.false_eq_true, ↓reduceIte, hc, hd2, ht2, hrest]

/-- **The attribute loop reads the attribute text**: every `k="v"` in order, later values winning,
    whatever white space stands between them. -/
theorem parseAttrs_plainW {cls : Classes} (hs : Sane cls) (sw : Switches) : ∀ (a : WAttrs),
    PlainWAttrs' cls a → ∀ (fuel : Nat) (acc : Attrs), (wattrsBody a).length < fuel →
      parseAttrs cls sw fuel (wattrsBody a) acc = .ok ((wplain a).foldl (fun acc p => dictSet acc p.1 p.2) acc) := by
  intro a
  induction a with
  | nil => intro _ fuel acc _; simp [wattrsBody, wplain, parseAttrs_nil]
  | cons q r ih =>
    intro ha fuel acc hf
    have hq := ha q (by simp)
    have hr : PlainWAttrs' cls r := fun x hx => ha x (List.mem_cons_of_mem _ hx)
    cases fuel with
    | zero => omega
    | succ f =>
      obtain ⟨c, x, hx, hw⟩ := wattrsBody_head (r := r) hq.2
      have hne : (wattrsBody (q :: r)).isEmpty = false := by rw [hx]; rfl
      have hstrip : strip cls.isStrip (wattrsBody (q :: r)) = wattrsBody (q :: r) := by
        rw [hx]
        apply strip_self cls.isStrip c '"' x (hs.word_not_strip _ hw) hs.strip_quote
        rw [← hx]; exact wattrsBody_endsQuote q r
      have hm := matchAttr_plainW hs q r hq.2 hr
      rw [parseAttrs]
      simp only [hne, Bool.false_eq_true, ↓reduceIte, hstrip, hm, wplain, List.map_cons, List.foldl_cons]
      apply ih hr
      have hlen : (wattrsBody r).length < (wattrsBody (q :: r)).length := by
        have := matchAttr_consumes cls _ _ _ _ hm
        omega
      omega

/-- white space around the attribute text — the tail of the white space after the element name, and
    the white space before `>` / `/>` — is dropped by the first `strip` -/
theorem parseAttrs_padded {cls : Classes} (hs : Sane cls) (sw : Switches) (q : List Char × (List Char × List Char))
    (r : WAttrs) (w' gap : List Char) (hq : PlainAttr cls q.2) (hw' : ∀ c ∈ w', cls.isStrip c = true)
    (hg : ∀ c ∈ gap, cls.isStrip c = true) (fuel : Nat) (acc : Attrs) :
    parseAttrs cls sw (fuel + 1) (w' ++ wattrsBody (q :: r) ++ gap) acc =
      parseAttrs cls sw (fuel + 1) (wattrsBody (q :: r)) acc := by
  obtain ⟨c, x, hx, hw⟩ := wattrsBody_head (r := r) hq
  have he : EndsWith '"' (c :: x) := by rw [← hx]; exact wattrsBody_endsQuote q r
  have h1 : strip cls.isStrip (w' ++ wattrsBody (q :: r) ++ gap) = wattrsBody (q :: r) := by
    rw [hx]
    exact strip_padded cls.isStrip c '"' x w' gap hw' hg (hs.word_not_strip _ hw) hs.strip_quote he
  have h2 : strip cls.isStrip (wattrsBody (q :: r)) = wattrsBody (q :: r) := by
    rw [hx]
    exact strip_self cls.isStrip c '"' x (hs.word_not_strip _ hw) hs.strip_quote he
  have hne1 : (w' ++ wattrsBody (q :: r) ++ gap).isEmpty = false := by
    rw [hx]; cases w' <;> rfl
  have hne2 : (wattrsBody (q :: r)).isEmpty = false := by rw [hx]; rfl
  rw [parseAttrs, parseAttrs]
  simp only [hne1, hne2, h1, h2]

/-- what the expression captures as `attrs`: the white space after its first character, the attribute
    text, the white space before `>` -/
theorem wattrsGap_facts {cls : Classes} (hs : Sane cls) (q : List Char × (List Char × List Char)) (r : WAttrs)
    (c : Char) (w' gap : List Char) (ha : PlainWAttrs' cls (q :: r)) (hcw : q.1 = c :: w')
    (hg : Gap cls (wplain (q :: r)) gap) :
    w' ++ wattrsBody (q :: r) ++ gap ≠ [] ∧ (∀ y ∈ w' ++ wattrsBody (q :: r) ++ gap, y ≠ '>' ∧ y ≠ '\n') ∧
    (∃ r' x, w' ++ wattrsBody (q :: r) ++ gap = r' ++ [x] ∧ x ≠ '/') := by
  have hq := ha q (by simp)
  obtain ⟨b, x, hx, _⟩ := wattrsBody_head (r := r) hq.2
  refine ⟨by rw [hx]; simp, ?_, ?_⟩
  · intro y hy
    rcases List.mem_append.mp hy with hy | hy
    · rcases List.mem_append.mp hy with hy | hy
      · exact (hq.1.inner hs y (by rw [hcw]; exact List.mem_cons_of_mem _ hy)).2
      · exact (wattrsBody_inner hs _ ha y hy).2
    · exact (hg.inner hs y hy).2
  · rcases List.eq_nil_or_concat gap with hgn | ⟨g', y, hgy⟩
    · obtain ⟨r', hr'⟩ := wattrsBody_endsQuote q r
      exact ⟨w' ++ r', '"', by rw [hgn, List.append_nil, hr', List.append_assoc], by decide⟩
    · refine ⟨w' ++ wattrsBody (q :: r) ++ g', y, by rw [hgy]; simp, ?_⟩
      rintro rfl
      have := (hg.1 '/' (by rw [hgy]; simp)).1
      rw [hs.strip_slash] at this; cases this

theorem foldl_wplain (a : WAttrs) (acc : Attrs) :
    (wplain a).foldl (fun acc p => dictSet acc p.1 p.2) acc = a.foldl (fun acc q => dictSet acc q.2.1 q.2.2) acc := by
  simp [wplain, List.foldl_map]

/-- `_parse_tag` on a tag with attributes, closed by `>` (`sl = []`) or `/>` (`sl = ['/']`) -/
theorem parseTag_wattrs {cls : Classes} (hs : Sane cls) (sw : Switches) (n : List Char)
    (q : List Char × (List Char × List Char)) (r : WAttrs) (gap sl rest : List Char)
    (ht : PlainTag cls n (q :: r) gap) (hsl : sl = [] ∨ sl = ['/']) :
    parseTag cls sw ('<' :: (n ++ wattrsText (q :: r) ++ gap ++ sl ++ '>' :: rest)) =
      .ok (n, attrsOpt (wplain (q :: r)), ('<' :: (n ++ wattrsText (q :: r) ++ gap ++ sl ++ ['>'])).length) := by
  have hq := ht.attrs q (by simp)
  obtain ⟨c, w', hcw⟩ := hq.1.cons
  have hw := hq.1
  rw [hcw] at hw
  obtain ⟨h1, h2, h3⟩ := wattrsGap_facts hs q r c w' gap ht.attrs hcw ht.gap
  have hm := matchTag1_plain hs n c (w' ++ wattrsBody (q :: r) ++ gap) sl rest ht.name hw.1 h1 h2 h3 hsl
  have hxml : '<' :: (n ++ wattrsText (q :: r) ++ gap ++ sl ++ '>' :: rest) =
      '<' :: (n ++ c :: (w' ++ wattrsBody (q :: r) ++ gap ++ sl ++ '>' :: rest)) := by
    simp [wattrsText_cons, hcw, List.append_assoc]
  have hattrs : parseAttrs cls sw ((w' ++ wattrsBody (q :: r) ++ gap).length + 1) (w' ++ wattrsBody (q :: r) ++ gap) [] =
      .ok (attrsDict (wplain (q :: r))) := by
    rw [parseAttrs_padded hs sw q r w' gap hq.2 (fun y hy => (hw.2.2.2 y hy).2.1) (fun y hy => (ht.gap.1 y hy).1)]
    exact parseAttrs_plainW hs sw (q :: r) ht.attrs _ [] (by simp only [List.length_append]; omega)
  rw [hxml]
  unfold parseTag
  simp only [hm, hattrs]
  -- the index: the lengths of the groups matched, plus `<` and `>`, add up to the length of the tag
  simp [attrsOpt, wplain, wattrsText_cons, hcw]
  omega

/-- **`_parse_tag` reads a rendered start tag**: the name, the attributes (None when there are none),
    and the index right after the tag. -/
theorem parseTag_plainW {cls : Classes} (hs : Sane cls) (sw : Switches) (n : List Char) (a : WAttrs)
    (gap rest : List Char) (ht : PlainTag cls n a gap) :
    parseTag cls sw (wstartTag n a gap ++ rest) = .ok (n, attrsOpt (wplain a), (wstartTag n a gap).length) := by
  cases a with
  | nil =>
    have hgap : gap = [] := ht.gap.2 rfl
    subst hgap
    have hxml : wstartTag n [] [] ++ rest = '<' :: (n ++ '>' :: rest) := by simp [wstartTag, wstartBody, wattrsText]
    obtain ⟨h1, h2⟩ := matchTag_attrless hs n rest ht.name
    rw [hxml]
    unfold parseTag
    simp only [h1, h2]
    simp [attrsOpt, wplain, wstartTag, wstartBody, wattrsText]
  | cons q r =>
    have := parseTag_wattrs hs sw n q r gap [] rest ht (Or.inl rfl)
    simpa [wstartTag, wstartBody, List.append_assoc] using this

/-- … and a rendered self-closing tag -/
theorem parseTag_selfW {cls : Classes} (hs : Sane cls) (sw : Switches) (n : List Char)
    (q : List Char × (List Char × List Char)) (r : WAttrs) (gap rest : List Char) (ht : PlainTag cls n (q :: r) gap) :
    parseTag cls sw (wselfTag n (q :: r) gap ++ rest) =
      .ok (n, attrsOpt (wplain (q :: r)), (wselfTag n (q :: r) gap).length) := by
  have := parseTag_wattrs hs sw n q r gap ['/'] rest ht (Or.inr rfl)
  simpa [wselfTag, wselfBody, List.append_assoc] using this

theorem wstartTag_last2 {cls : Classes} (hs : Sane cls) (n : List Char) (a : WAttrs) (gap : List Char)
    (ht : PlainTag cls n a gap) : ∃ pre x, wstartTag n a gap = pre ++ [x, '>'] ∧ x ≠ '/' := by
  have : ∃ r x, n ++ wattrsText a ++ gap = r ++ [x] ∧ x ≠ '/' := by
    rcases List.eq_nil_or_concat gap with hgn | ⟨g', y, hgy⟩
    · subst hgn
      cases a with
      | nil =>
        obtain ⟨r, x, hrx⟩ : ∃ r x, n = r ++ [x] := by
          rcases List.eq_nil_or_concat n with h | ⟨r, x, h⟩
          · exact absurd h ht.name.1
          · exact ⟨r, x, by simpa using h⟩
        refine ⟨r, x, by simp [wattrsText, hrx], ?_⟩
        rintro rfl
        have := ht.name.2 '/' (by rw [hrx]; simp)
        rw [hs.word_slash] at this; cases this
      | cons p q =>
        obtain ⟨r, hr⟩ := (wattrsBody_endsQuote p q).append_left p.1
        exact ⟨n ++ r, '"', by rw [wattrsText_cons, hr]; simp, by decide⟩
    · refine ⟨n ++ wattrsText a ++ g', y, by rw [hgy]; simp, ?_⟩
      rintro rfl
      have := (ht.gap.1 '/' (by rw [hgy]; simp)).1
      rw [hs.strip_slash] at this; cases this
  obtain ⟨r, x, hrx, hx⟩ := this
  exact ⟨'<' :: r, x, by simp only [wstartTag, wstartBody, hrx]; simp, hx⟩

/-! ### `_find_end_of_element` on a rendered element -/

/-- the own start tag either IS the pattern's beginning (then `index` answers 0) or is passed over -/
theorem own_openW {cls : Classes} (hs : Sane cls) (n : List Char) (a : WAttrs) (gap : List Char)
    (ht : PlainTag cls n a gap) (t : Char) (htc : t = '>' ∨ t = ' ') :
    (∃ x, wstartTag n a gap = ('<' :: (n ++ [t])) ++ x) ∨ Skip ('<' :: (n ++ [t])) (wstartTag n a gap) := by
  obtain ⟨t', x, htw', hshape⟩ := wtagBody_shape hs n a gap ['>'] ht.attrs (ht.gap.close_gt hs)
  have htag : wstartTag n a gap = '<' :: (n ++ wattrsText a ++ gap ++ ['>']) := rfl
  by_cases htt : t = t'
  · left
    exact ⟨x, by rw [htag, hshape, htt]; simp⟩
  · right
    have htw : cls.isWord t = false := by
      rcases htc with rfl | rfl
      · exact hs.word_gt
      · exact hs.word_sp
    rw [htag]
    refine skip_tag _ _ (wtagBody_no_lt hs ht (by simp)) (fun tail => ?_)
    rw [hshape, List.append_assoc]
    exact open_not_at_other ht.name ht.name (fun h => htt h.2) htw htw'

theorem nested_check_plainW {cls : Classes} (hs : Sane cls) (n : List Char) (a : WAttrs) (gap B tail : List Char)
    (ht : PlainTag cls n a gap) (t : Char) (htc : t = '>' ∨ t = ' ') (hB : Skip ('<' :: (n ++ [t])) B) :
    nestedStep (wstartTag n a gap ++ B ++ endTag n ++ tail) (endTag n) ('<' :: (n ++ [t]))
      ((wstartTag n a gap).length + B.length) = (wstartTag n a gap).length + B.length := by
  apply nestedStep_eq
  rw [indexFrom_zero]
  rcases own_openW hs n a gap ht t htc with ⟨x, hx⟩ | hskip
  · right
    refine ⟨0, ?_, Or.inl rfl⟩
    rw [hx]
    simp only [List.append_assoc]
    exact findAux_hit _ _ 0 (by simp)
  · have h1 : findAux ('<' :: (n ++ [t])) (wstartTag n a gap ++ B ++ endTag n ++ tail) 0 =
        findAux ('<' :: (n ++ [t])) tail ((wstartTag n a gap).length + B.length + (endTag n).length) := by
      rw [List.append_assoc, List.append_assoc, hskip, hB, skip_own_endTag hs ht.name t]
      simp
    rw [h1]
    cases hf : findAux ('<' :: (n ++ [t])) tail ((wstartTag n a gap).length + B.length + (endTag n).length) with
    | none => exact Or.inl rfl
    | some i =>
      right
      obtain ⟨k, hk, _, _⟩ := findAux_spec hf
      exact ⟨i, rfl, Or.inr (by omega)⟩

/-- **`_find_end_of_element` finds the element's own end tag** when its body is passed over by the
    three patterns (no `<`-text, no element of the same name inside). -/
theorem findEnd_plainW {cls : Classes} (hs : Sane cls) (n : List Char) (a : WAttrs) (gap B tail : List Char)
    (ht : PlainTag cls n a gap) (hB : ∀ pat, IsPat n pat → Skip pat B) :
    findEndOfElement (wstartTag n a gap ++ B ++ endTag n ++ tail) (wstartTag n a gap).length n =
      some ((wstartTag n a gap).length + B.length, (wstartTag n a gap).length + B.length + (endTag n).length) := by
  have hidx : indexFrom (endTag n) (wstartTag n a gap ++ B ++ endTag n ++ tail) (wstartTag n a gap).length =
      some ((wstartTag n a gap).length + B.length) := by
    unfold indexFrom
    have hle : ¬ (wstartTag n a gap).length > (wstartTag n a gap ++ B ++ endTag n ++ tail).length := by
      simp only [List.length_append]; omega
    simp only [hle, ↓reduceIte]
    have hdrop : (wstartTag n a gap ++ B ++ endTag n ++ tail).drop (wstartTag n a gap).length = B ++ (endTag n ++ tail) := by
      rw [List.append_assoc, List.append_assoc, List.drop_left']
      rfl
    rw [hdrop, hB _ IsPat.close]
    exact findAux_hit _ _ _ (by simp [endTag])
  unfold findEndOfElement
  simp only [hidx]
  rw [nested_check_plainW hs n a gap B tail ht '>' (Or.inl rfl) (hB _ IsPat.openGt),
    nested_check_plainW hs n a gap B tail ht ' ' (Or.inr rfl) (hB _ IsPat.openSp)]

/-! ### `parse_first_element` on a rendered element -/

theorem parseFirstElement_plainW {cls : Classes} (hs : Sane cls) (sw : Switches) (n : List Char) (a : WAttrs)
    (gap B tail : List Char) (ht : PlainTag cls n a gap) (hB : ∀ pat, IsPat n pat → Skip pat B) :
    parseFirstElement cls sw (wstartTag n a gap ++ B ++ endTag n ++ tail) =
      .ok ({ name := n, attrs := attrsOpt (wplain a), value := strip cls.isStrip B },
           (wstartTag n a gap ++ B ++ endTag n).length) := by
  have htag : parseTag cls sw (wstartTag n a gap ++ B ++ endTag n ++ tail) =
      .ok (n, attrsOpt (wplain a), (wstartTag n a gap).length) := by
    have := parseTag_plainW hs sw n a gap (B ++ endTag n ++ tail) ht
    simpa [List.append_assoc] using this
  obtain ⟨pre, x, hpre, hx⟩ := wstartTag_last2 hs n a gap ht
  have hnot : ¬ slice (wstartTag n a gap ++ B ++ endTag n ++ tail) ((wstartTag n a gap).length - 2)
      (wstartTag n a gap).length = ['/', '>'] := by
    have := slice_last2 pre (B ++ endTag n ++ tail) x '>'
    rw [← hpre] at this
    have h2 : wstartTag n a gap ++ (B ++ endTag n ++ tail) = wstartTag n a gap ++ B ++ endTag n ++ tail := by
      simp [List.append_assoc]
    rw [h2] at this
    rw [this]
    intro h
    simp only [List.cons.injEq, and_true] at h
    exact hx h
  unfold parseFirstElement
  simp only [htag, hnot, ↓reduceIte, findEnd_plainW hs n a gap B tail ht hB]
  have hsl : slice (wstartTag n a gap ++ B ++ endTag n ++ tail) (wstartTag n a gap).length
      ((wstartTag n a gap).length + B.length) = B := by
    have := slice_mid (wstartTag n a gap) B (endTag n ++ tail)
    simpa [List.append_assoc] using this
  rw [hsl]
  simp [List.length_append, Nat.add_assoc]

theorem parseFirstElement_selfW {cls : Classes} (hs : Sane cls) (sw : Switches) (n : List Char)
    (q : List Char × (List Char × List Char)) (r : WAttrs) (gap tail : List Char) (ht : PlainTag cls n (q :: r) gap) :
    parseFirstElement cls sw (wselfTag n (q :: r) gap ++ tail) =
      .ok ({ name := n, attrs := attrsOpt (wplain (q :: r)), value := [] }, (wselfTag n (q :: r) gap).length) := by
  have htag := parseTag_selfW hs sw n q r gap tail ht
  have hshape : wselfTag n (q :: r) gap = ('<' :: (n ++ wattrsText (q :: r) ++ gap)) ++ ['/', '>'] := by
    simp [wselfTag, wselfBody, List.append_assoc]
  have hsl : slice (wselfTag n (q :: r) gap ++ tail) ((wselfTag n (q :: r) gap).length - 2)
      (wselfTag n (q :: r) gap).length = ['/', '>'] := by
    have := slice_last2 ('<' :: (n ++ wattrsText (q :: r) ++ gap)) tail '/' '>'
    rw [← hshape] at this
    exact this
  unfold parseFirstElement
  simp only [htag, hsl, ↓reduceIte]

/-! ### the element loop along a rendered tree -/

mutual
/-- one round: the loop reads the element `t`, stores its standard reading and goes on with what follows it; the
    children of a node are read by the recursive call, one level further down -/
theorem loop_tree {cls : Classes} (hs : Sane cls) (sw : Switches) : ∀ (t : WTree), PlainW' cls t → ∀ (d : Nat), heightW t ≤ d →
    ∀ (sep rest trail : List Char) (res : Dict) (fuel : Nat), Ws cls sep → Ws cls trail → (rest = [] ∨ EndsWith '>' rest) →
      parseLoop cls sw (innerAt cls sw d) (fuel + 1) (sep ++ renderW t ++ rest ++ trail) res =
        parseLoop cls sw (innerAt cls sw d) fuel rest (storeElement res (eraseT t).name (valT (eraseT t)))
  | .leaf n a gap text, ⟨ht, htext⟩, d, _, sep, rest, trail, res, fuel, hsep, htrail, hre => by
    have hpf := parseFirstElement_plainW hs sw n a gap text rest ht (fun _ hp => skip_text hp htext.1)
    rw [htext.2] at hpf
    exact parseLoop_round hs sw _ (e := renderW (.leaf n a gap text)) fuel res hsep htrail (renderW_shape _) hre hpf
      (elementContent_text _ htext.1)
  | .empty n a gap, ⟨ht, hne⟩, d, _, sep, rest, trail, res, fuel, hsep, htrail, hre => by
    obtain ⟨q, r, rfl⟩ := List.exists_cons_of_ne_nil hne
    exact parseLoop_round hs sw _ (e := renderW (.empty n (q :: r) gap)) fuel res hsep htrail (renderW_shape _) hre
      (parseFirstElement_selfW hs sw n q r gap rest ht) (elementContent_text _ (by simp))
  | .node n a gap pre first kids post, ⟨ht, hpre, hpost, hfst, hkids, hof, hok⟩, d, hd, sep, rest, trail, res, fuel,
      hsep, htrail, hre => by
    rw [heightW] at hd
    obtain ⟨d, rfl⟩ : ∃ k, d = k + 1 := ⟨d - 1, by omega⟩
    have hb : Markup (renderW first ++ renderWF kids) := (renderW_shape first).append (renderWF_ends kids)
    -- the recursive call on the text of the children: a round for `first`, then the loop over `kids`
    have hbody : parseRec cls sw d (renderW first ++ renderWF kids) =
        .ok (storeF (storeElement [] (eraseT first).name (valT (eraseT first))) (eraseF kids)) := by
      have := loop_tree hs sw first hfst d (by omega) [] (renderWF kids) [] [] (renderW first ++ renderWF kids).length
        (Ws.nil cls) (Ws.nil cls) (renderWF_ends kids)
      rw [List.nil_append, List.append_nil] at this
      rw [parseRec_eq, this]
      exact loop_forest hs sw kids hkids d (by omega) _ _
        (by have := (renderW_shape first).length_pos; simp only [List.length_append]; omega)
    -- `_find_end_of_element` passes over the children: `n` occurs in none of them
    have hpf := parseFirstElement_plainW hs sw n a gap (pre ++ (renderW first ++ renderWF kids) ++ post) rest ht
      (fun _ hp => ((skip_text hp (hpre.no_lt hs)).append ((skipW hs ht.name hp first hfst hof).append
        (skipWF hs ht.name hp kids hkids hok))).append (skip_text hp (hpost.no_lt hs)))
    rw [strip_markup hs hpre hpost hb] at hpf
    have hrender : renderW (.node n a gap pre first kids post) =
        wstartTag n a gap ++ (pre ++ (renderW first ++ renderWF kids) ++ post) ++ endTag n := by
      rw [renderW]; simp only [List.append_assoc]
    rw [← hrender] at hpf
    exact parseLoop_round hs sw _ fuel res hsep htrail (renderW_shape _) hre hpf (elementContent_markup hb hbody)
/-- the loop reads further siblings in document order -/
theorem loop_forest {cls : Classes} (hs : Sane cls) (sw : Switches) : ∀ (f : WForest), PlainWF' cls f → ∀ (d : Nat), heightWF f ≤ d →
    ∀ (res : Dict) (fuel : Nat), (renderWF f).length < fuel →
      parseLoop cls sw (innerAt cls sw d) fuel (renderWF f) res = .ok (storeF res (eraseF f))
  | .nil, _, _, _, res, fuel, _ => by rw [renderWF, parseLoop_nil, eraseF, storeF]
  | .cons sep t f, ⟨hsep, ht, hf⟩, d, hd, res, fuel, hfuel => by
    rw [heightWF] at hd
    rw [renderWF] at hfuel ⊢
    obtain ⟨fuel, rfl⟩ : ∃ k, fuel = k + 1 := ⟨fuel - 1, by omega⟩
    have := loop_tree hs sw t ht d (by omega) sep (renderWF f) [] res fuel hsep (Ws.nil cls) (renderWF_ends f)
    rw [List.append_nil] at this
    rw [this, eraseF, storeF]
    exact loop_forest hs sw f hf d (by omega) _ fuel
      (by have := (renderW_shape t).length_pos; simp only [List.length_append] at hfuel; omega)
end

/-- **The reader on a whole document**: one root element `w` of at most `d` levels with white space around it,
    read with `recurse = d`. -/
theorem parse_plainW' {cls : Classes} (hs : Sane cls) (sw : Switches) (d : Nat) (w : WTree) (hp : PlainW' cls w)
    (hh : heightW w ≤ d) (lead trail : List Char) (hl : Ws cls lead) (ht : Ws cls trail) :
    parse cls sw (lead ++ renderW w ++ trail) d = .ok (dictOf (eraseT w)) := by
  have := loop_tree hs sw w hp d hh lead [] trail [] (lead ++ renderW w ++ trail).length hl ht (Or.inl rfl)
  rw [List.append_nil] at this
  unfold parse
  rw [parseRec_eq, this, parseLoop_nil]
  rfl

/-- … and on the one-space rendering of a `PTree`, the instance `ofP` -/
theorem parse_plainT {cls : Classes} (hs : Sane cls) (sw : Switches) (d : Nat) (t : PTree) (hp : PlainT cls t)
    (hh : heightT t ≤ d) (lead trail : List Char) (hl : Ws cls lead) (ht : Ws cls trail) :
    parse cls sw (lead ++ renderT t ++ trail) d = .ok (dictOf t) := by
  have := parse_plainW' hs sw d (ofP t) (plainW'_ofP hs t hp) (by rw [heightW_ofP]; exact hh) lead trail hl ht
  rwa [renderW_ofP, eraseT_ofP] at this

end Kskm.Xml
