/-
  The specification side of C12: PlainXml trees (`PTree`, `PlainT`), their rendering as text under a LAYOUT, and the dict a
  standard reading yields (`valT` / `storeF`: element structure, repeated siblings collected in document
  order).  The trees and their rendering are written independently of the reader: nothing here mentions
  `parse*`, `match*` or `index` (of the model, the rendering uses `endTag` only).  The standard reading is
  stated in the reader's vocabulary and shares the model's dict operations `storeElement`, `elementValue`,
  `dictSet`: how repeated siblings and attributes are STORED is the target format, not the parsing.

  The layout is carried by the tree itself, as the pieces of insignificant white space a standard parser
  drops:  `sep` before every further sibling, `pre` / `post` inside a node around its children, and `gap`
  between the last attribute and the closing `>` / `/>` of a start tag.  The standard reading (`valT`)
  ignores all of them.  Fixed by THIS rendering: exactly one space before every attribute, attributes in
  the order given; an empty element with attributes is in self-closing form (`PTree.empty`) or an empty
  pair (`PTree.leaf` with empty text).  KskmProofs/Lemmas/XmlRenderW.lean varies the white space in front of
  the attributes (`WTree`, of which this is the instance "one space"), KskmProofs/Lemmas/XmlDictEq.lean the
  attribute order (`AttrPermT`).
-/
import Kskm.Xml
namespace Kskm.Xml

mutual
/-- an element: a text leaf `<n a="v">text</n>`, a self-closing empty element `<n a="v"/>`, or a node
    with at least one child element -/
inductive PTree where
  | leaf (name : List Char) (attrs : Attrs) (gap : List Char) (text : List Char)
  | empty (name : List Char) (attrs : Attrs) (gap : List Char)
  | node (name : List Char) (attrs : Attrs) (gap : List Char) (pre : List Char) (first : PTree)
      (rest : PForest) (post : List Char)
/-- further siblings, each preceded by white space `sep` -/
inductive PForest where
  | nil
  | cons (sep : List Char) (t : PTree) (f : PForest)
end

def PTree.name : PTree → List Char
  | .leaf n _ _ _ => n
  | .empty n _ _ => n
  | .node n _ _ _ _ _ _ => n

def PTree.attrs : PTree → Attrs
  | .leaf _ a _ _ => a
  | .empty _ a _ => a
  | .node _ a _ _ _ _ _ => a

/-- `k="v"` -/
def attrText (p : List Char × List Char) : List Char := p.1 ++ '=' :: '"' :: (p.2 ++ ['"'])

/-- the attributes, each preceded by one space -/
def attrsText : Attrs → List Char
  | [] => []
  | p :: r => ' ' :: (attrText p ++ attrsText r)

/-- the text of a start tag after its "<" -/
def startBody (n : List Char) (a : Attrs) (gap : List Char) : List Char := n ++ attrsText a ++ gap ++ ['>']
def startTag (n : List Char) (a : Attrs) (gap : List Char) : List Char := '<' :: startBody n a gap

/-- the text of a self-closing tag after its "<" -/
def selfBody (n : List Char) (a : Attrs) (gap : List Char) : List Char := n ++ attrsText a ++ gap ++ ['/', '>']
def selfTag (n : List Char) (a : Attrs) (gap : List Char) : List Char := '<' :: selfBody n a gap

mutual
def renderT : PTree → List Char
  | .leaf n a gap text => startTag n a gap ++ text ++ endTag n
  | .empty n a gap => selfTag n a gap
  | .node n a gap pre first rest post =>
    startTag n a gap ++ pre ++ renderT first ++ renderF rest ++ post ++ endTag n
def renderF : PForest → List Char
  | .nil => []
  | .cons sep t f => sep ++ renderT t ++ renderF f
end

/-! ### the standard reading -/

/-- attributes as a dict: a repeated name keeps its first position and its last value -/
def attrsDict (a : Attrs) : Attrs := a.foldl (fun acc p => dictSet acc p.1 p.2) []

def attrsOpt (a : Attrs) : Option Attrs := if a.isEmpty then none else some (attrsDict a)

mutual
/-- the value of an element in the tree a standard parser builds, in the reader's vocabulary:
    text ↦ `str`, children ↦ `dict` (same-named siblings collected), attributes ↦ `{attrs, value}` -/
def valT : PTree → XVal
  | .leaf _ a _ text => elementValue (attrsOpt a) (.str text)
  | .empty _ a _ => elementValue (attrsOpt a) (.str [])
  | .node _ a _ _ first rest _ =>
    elementValue (attrsOpt a) (.dict (storeF (storeElement [] first.name (valT first)) rest))
/-- the siblings of a forest stored one after the other, in document order -/
def storeF : Dict → PForest → Dict
  | res, .nil => res
  | res, .cons _ t f => storeF (storeElement res t.name (valT t)) f
end

/-- the dict of a whole document whose root element is `t` -/
def dictOf (t : PTree) : Dict := [(t.name, valT t)]

/-- element and attribute names: non-empty runs of word characters -/
def PlainName (cls : Classes) (n : List Char) : Prop := n ≠ [] ∧ ∀ c ∈ n, cls.isWord c = true

/-- attribute: a name and a non-empty value without `"`, newline, `<`, `>` -/
def PlainAttr (cls : Classes) (p : List Char × List Char) : Prop :=
  PlainName cls p.1 ∧ p.2 ≠ [] ∧ ∀ c ∈ p.2, c ≠ '"' ∧ c ≠ '\n' ∧ c ≠ '<' ∧ c ≠ '>'

/-- text: `<`-free and stripped (may be empty, may span lines) -/
def PlainText (cls : Classes) (s : List Char) : Prop := '<' ∉ s ∧ strip cls.isStrip s = s

/-- white space between elements: anything `str.strip()` removes (spaces, tabs, newlines, CR, …) -/
def Ws (cls : Classes) (s : List Char) : Prop := ∀ c ∈ s, cls.isStrip c = true

/-- white space inside a start tag before `>` / `/>`: as `Ws`, on one line; none in a tag that has
    no attributes (finding F17) -/
def Gap (cls : Classes) (a : Attrs) (s : List Char) : Prop :=
  (∀ c ∈ s, cls.isStrip c = true ∧ c ≠ '\n') ∧ (a = [] → s = [])

mutual
/-- `n` is the name of some element of the subtree -/
def occursT (n : List Char) : PTree → Prop
  | .leaf m _ _ _ => m = n
  | .empty m _ _ => m = n
  | .node m _ _ _ first rest _ => m = n ∨ occursT n first ∨ occursF n rest
def occursF (n : List Char) : PForest → Prop
  | .nil => False
  | .cons _ t f => occursT n t ∨ occursF n f
end

mutual
/-- **PlainXml**: plain names, attributes, texts and white space everywhere, and no element has a
    proper descendant of its own name -/
def PlainT (cls : Classes) : PTree → Prop
  | .leaf n a gap text => PlainName cls n ∧ (∀ p ∈ a, PlainAttr cls p) ∧ Gap cls a gap ∧ PlainText cls text
  | .empty n a gap => PlainName cls n ∧ (∀ p ∈ a, PlainAttr cls p) ∧ Gap cls a gap ∧ a ≠ []
  | .node n a gap pre first rest post =>
    PlainName cls n ∧ (∀ p ∈ a, PlainAttr cls p) ∧ Gap cls a gap ∧ Ws cls pre ∧ Ws cls post ∧
      PlainT cls first ∧ PlainF cls rest ∧ ¬ occursT n first ∧ ¬ occursF n rest
def PlainF (cls : Classes) : PForest → Prop
  | .nil => True
  | .cons sep t f => Ws cls sep ∧ PlainT cls t ∧ PlainF cls f
end

mutual
/-- number of element levels that have child elements -/
def heightT : PTree → Nat
  | .leaf _ _ _ _ => 0
  | .empty _ _ _ => 0
  | .node _ _ _ _ first rest _ => 1 + max (heightT first) (heightF rest)
def heightF : PForest → Nat
  | .nil => 0
  | .cons _ t f => max (heightT t) (heightF f)
end

/-- what the theorems need to know about the character classes (all true of Python's, see
    `pyClasses_sane` in KskmProofs/C12.lean) -/
structure Sane (cls : Classes) : Prop where
  word_not_space : ∀ c, cls.isWord c = true → cls.isSpace c = false
  word_not_strip : ∀ c, cls.isWord c = true → cls.isStrip c = false
  space_sp : cls.isSpace ' ' = true
  space_gt : cls.isSpace '>' = false
  strip_nl : cls.isStrip '\n' = true
  strip_lt : cls.isStrip '<' = false
  strip_gt : cls.isStrip '>' = false
  strip_quote : cls.isStrip '"' = false
  strip_slash : cls.isStrip '/' = false
  word_lt : cls.isWord '<' = false
  word_gt : cls.isWord '>' = false
  word_eq : cls.isWord '=' = false
  word_slash : cls.isWord '/' = false
  word_quote : cls.isWord '"' = false

theorem Sane.word_sp {cls : Classes} (h : Sane cls) : cls.isWord ' ' = false := by
  cases hw : cls.isWord ' ' with
  | false => rfl
  | true => have := h.word_not_space ' ' hw; rw [h.space_sp] at this; cases this

theorem Ws.nil (cls : Classes) : Ws cls [] := fun _ h => nomatch h

theorem Ws.no_lt {cls : Classes} (hs : Sane cls) {s : List Char} (h : Ws cls s) : '<' ∉ s := by
  intro hc
  have := h '<' hc
  rw [hs.strip_lt] at this; cases this

end Kskm.Xml
