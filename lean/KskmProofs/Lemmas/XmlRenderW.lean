/-
  The specification side of C12, generalised layout: `WTree` is a `PTree` (KskmProofs/Lemmas/XmlRender.lean)
  whose start tags also carry the white space written IN FRONT OF EVERY ATTRIBUTE (between the element name
  and the first attribute, and between two attributes).  `renderW` writes it as given; the standard reading
  ignores it: `eraseT` forgets it, and the dict of `renderW w` is `dictOf (eraseT w)`.

  As in XmlRender.lean, nothing here mentions `parse*`, `match*` or `index`.

  `PTree` / `renderT` is the special case "exactly one space before each attribute":
  `ofP : PTree → WTree`,  `renderW (ofP t) = renderT t`,  `eraseT (ofP t) = t`,  `PlainT t → PlainW (ofP t)`.

  What white space is admitted in front of an attribute (`AttrWs`) is what BOTH a standard parser and the
  reader accept there, on one line: a non-empty run of characters that `\s` matches and `str.strip()`
  removes (for the classes of the running Python the two coincide), none of them a line feed.  (Directly after
  the element name the reader would read a line feed too; `AttrWs` leaves it out.)  The
  reader does NOT accept a line feed between two attributes or before `>` (the start-tag expression
  `(.+?)` does not cross a line), nor white space around `=` — see `attr_ws_boundaries` in
  KskmProofs/C12.lean; the property is about start tags on one line.
-/
import KskmProofs.Lemmas.XmlRender
namespace Kskm.Xml

/-- attributes with their layout: `(white space before, (name, value))` -/
abbrev WAttrs := List (List Char × (List Char × List Char))

/-- the attributes without their layout -/
def wplain (a : WAttrs) : Attrs := a.map (·.2)

mutual
/-- a `PTree` whose attributes carry the white space written before them -/
inductive WTree where
  | leaf (name : List Char) (attrs : WAttrs) (gap : List Char) (text : List Char)
  | empty (name : List Char) (attrs : WAttrs) (gap : List Char)
  | node (name : List Char) (attrs : WAttrs) (gap : List Char) (pre : List Char) (first : WTree)
      (rest : WForest) (post : List Char)
inductive WForest where
  | nil
  | cons (sep : List Char) (t : WTree) (f : WForest)
end

def WTree.name : WTree → List Char
  | .leaf n _ _ _ => n
  | .empty n _ _ => n
  | .node n _ _ _ _ _ _ => n

def WTree.attrs : WTree → WAttrs
  | .leaf _ a _ _ => a
  | .empty _ a _ => a
  | .node _ a _ _ _ _ _ => a

/-- the attributes, each preceded by its own white space -/
def wattrsText : WAttrs → List Char
  | [] => []
  | q :: r => q.1 ++ (attrText q.2 ++ wattrsText r)

def wstartBody (n : List Char) (a : WAttrs) (gap : List Char) : List Char := n ++ wattrsText a ++ gap ++ ['>']
def wstartTag (n : List Char) (a : WAttrs) (gap : List Char) : List Char := '<' :: wstartBody n a gap
def wselfBody (n : List Char) (a : WAttrs) (gap : List Char) : List Char := n ++ wattrsText a ++ gap ++ ['/', '>']
def wselfTag (n : List Char) (a : WAttrs) (gap : List Char) : List Char := '<' :: wselfBody n a gap

mutual
def renderW : WTree → List Char
  | .leaf n a gap text => wstartTag n a gap ++ text ++ endTag n
  | .empty n a gap => wselfTag n a gap
  | .node n a gap pre first rest post =>
    wstartTag n a gap ++ pre ++ renderW first ++ renderWF rest ++ post ++ endTag n
def renderWF : WForest → List Char
  | .nil => []
  | .cons sep t f => sep ++ renderW t ++ renderWF f
end

/-! ### the standard reading: the white space inside tags is dropped -/

mutual
def eraseT : WTree → PTree
  | .leaf n a gap text => .leaf n (wplain a) gap text
  | .empty n a gap => .empty n (wplain a) gap
  | .node n a gap pre first rest post => .node n (wplain a) gap pre (eraseT first) (eraseF rest) post
def eraseF : WForest → PForest
  | .nil => .nil
  | .cons sep t f => .cons sep (eraseT t) (eraseF f)
end

theorem eraseT_name (w : WTree) : (eraseT w).name = w.name := by
  cases w <;> simp [eraseT, PTree.name, WTree.name]

theorem eraseT_attrs (w : WTree) : (eraseT w).attrs = wplain w.attrs := by
  cases w <;> simp [eraseT, PTree.attrs, WTree.attrs]

/-- white space in front of an attribute: non-empty, on one line, every character matched by `\s` and
    removed by `str.strip()` -/
def AttrWs (cls : Classes) (w : List Char) : Prop :=
  w ≠ [] ∧ ∀ x ∈ w, cls.isSpace x = true ∧ cls.isStrip x = true ∧ x ≠ '\n'

def PlainWAttrs (cls : Classes) (a : WAttrs) : Prop := ∀ q ∈ a, AttrWs cls q.1 ∧ PlainAttr cls q.2

mutual
def occursW (n : List Char) : WTree → Prop
  | .leaf m _ _ _ => m = n
  | .empty m _ _ => m = n
  | .node m _ _ _ first rest _ => m = n ∨ occursW n first ∨ occursWF n rest
def occursWF (n : List Char) : WForest → Prop
  | .nil => False
  | .cons _ t f => occursW n t ∨ occursWF n f
end

mutual
/-- `PlainT` plus plain white space in front of every attribute -/
def PlainW (cls : Classes) : WTree → Prop
  | .leaf n a gap text => PlainName cls n ∧ PlainWAttrs cls a ∧ Gap cls (wplain a) gap ∧ PlainText cls text
  | .empty n a gap => PlainName cls n ∧ PlainWAttrs cls a ∧ Gap cls (wplain a) gap ∧ a ≠ []
  | .node n a gap pre first rest post =>
    PlainName cls n ∧ PlainWAttrs cls a ∧ Gap cls (wplain a) gap ∧ Ws cls pre ∧ Ws cls post ∧
      PlainW cls first ∧ PlainWF cls rest ∧ ¬ occursW n first ∧ ¬ occursWF n rest
def PlainWF (cls : Classes) : WForest → Prop
  | .nil => True
  | .cons sep t f => Ws cls sep ∧ PlainW cls t ∧ PlainWF cls f
end

/-! ### what the reader itself needs of the attribute white space -/

/-- `(\s+?)` of the start-tag expression takes the FIRST character of the white space in front of the first
    attribute, so `\s` must match it but `str.strip()` need not remove it; only the rest goes through
    `attrs.strip()`.  A single space qualifies under `Sane` alone, which is what makes the one-space rendering
    `renderT` an instance of the reader theorems (`plainW'_ofP`). -/
def AttrWs' (cls : Classes) : List Char → Prop
  | [] => False
  | c :: r => cls.isSpace c = true ∧ c ≠ '\n' ∧ c ≠ '<' ∧
      ∀ x ∈ r, cls.isSpace x = true ∧ cls.isStrip x = true ∧ x ≠ '\n'

def PlainWAttrs' (cls : Classes) (a : WAttrs) : Prop := ∀ q ∈ a, AttrWs' cls q.1 ∧ PlainAttr cls q.2

/-- a start tag the reader reads: `<n`, the attributes `a` each behind its white space, `gap`, then `>` or `/>` -/
structure PlainTag (cls : Classes) (n : List Char) (a : WAttrs) (gap : List Char) : Prop where
  name : PlainName cls n
  attrs : PlainWAttrs' cls a
  gap : Gap cls (wplain a) gap

mutual
/-- `PlainW` with `AttrWs'` in place of `AttrWs` -/
def PlainW' (cls : Classes) : WTree → Prop
  | .leaf n a gap text => PlainTag cls n a gap ∧ PlainText cls text
  | .empty n a gap => PlainTag cls n a gap ∧ a ≠ []
  | .node n a gap pre first rest post =>
    PlainTag cls n a gap ∧ Ws cls pre ∧ Ws cls post ∧
      PlainW' cls first ∧ PlainWF' cls rest ∧ ¬ occursW n first ∧ ¬ occursWF n rest
def PlainWF' (cls : Classes) : WForest → Prop
  | .nil => True
  | .cons sep t f => Ws cls sep ∧ PlainW' cls t ∧ PlainWF' cls f
end

theorem AttrWs.lax {cls : Classes} (hs : Sane cls) {w : List Char} (h : AttrWs cls w) : AttrWs' cls w := by
  cases w with
  | nil => exact h.1 rfl
  | cons c r =>
    have hc := h.2 c (by simp)
    refine ⟨hc.1, hc.2.2, ?_, fun x hx => h.2 x (List.mem_cons_of_mem _ hx)⟩
    rintro rfl
    rw [hs.strip_lt] at hc; cases hc.2.1

theorem PlainWAttrs.lax {cls : Classes} (hs : Sane cls) {a : WAttrs} (h : PlainWAttrs cls a) : PlainWAttrs' cls a :=
  fun q hq => ⟨(h q hq).1.lax hs, (h q hq).2⟩

mutual
theorem PlainW.lax {cls : Classes} (hs : Sane cls) : ∀ (t : WTree), PlainW cls t → PlainW' cls t
  | .leaf _ _ _ _, h => ⟨⟨h.1, h.2.1.lax hs, h.2.2.1⟩, h.2.2.2⟩
  | .empty _ _ _, h => ⟨⟨h.1, h.2.1.lax hs, h.2.2.1⟩, h.2.2.2⟩
  | .node _ _ _ _ first rest _, ⟨hn, ha, hg, hpre, hpost, hf, hr, ho⟩ =>
    ⟨⟨hn, ha.lax hs, hg⟩, hpre, hpost, PlainW.lax hs first hf, PlainWF.lax hs rest hr, ho⟩
theorem PlainWF.lax {cls : Classes} (hs : Sane cls) : ∀ (f : WForest), PlainWF cls f → PlainWF' cls f
  | .nil, _ => trivial
  | .cons _ t f, h => ⟨h.1, PlainW.lax hs t h.2.1, PlainWF.lax hs f h.2.2⟩
end

mutual
def heightW : WTree → Nat
  | .leaf _ _ _ _ => 0
  | .empty _ _ _ => 0
  | .node _ _ _ _ first rest _ => 1 + max (heightW first) (heightWF rest)
def heightWF : WForest → Nat
  | .nil => 0
  | .cons _ t f => max (heightW t) (heightWF f)
end

/-! ### erasing the attribute white space keeps everything the standard reading looks at -/

theorem wplain_eq_nil {a : WAttrs} : wplain a = [] ↔ a = [] := by
  cases a <;> simp [wplain]

theorem plainAttrs_wplain {cls : Classes} {a : WAttrs} (h : PlainWAttrs cls a) : ∀ p ∈ wplain a, PlainAttr cls p := by
  intro p hp
  simp only [wplain, List.mem_map] at hp
  obtain ⟨q, hq, rfl⟩ := hp
  exact (h q hq).2

mutual
theorem occursT_erase (n : List Char) : ∀ (w : WTree), occursT n (eraseT w) ↔ occursW n w
  | .leaf m a gap text => by simp [eraseT, occursT, occursW]
  | .empty m a gap => by simp [eraseT, occursT, occursW]
  | .node m a gap pre first rest post => by
    simp only [eraseT, occursT, occursW]
    rw [occursT_erase n first, occursF_erase n rest]
theorem occursF_erase (n : List Char) : ∀ (f : WForest), occursF n (eraseF f) ↔ occursWF n f
  | .nil => by simp [eraseF, occursF, occursWF]
  | .cons sep t f => by
    simp only [eraseF, occursF, occursWF]
    rw [occursT_erase n t, occursF_erase n f]
end

mutual
/-- a plain `WTree` is a plain `PTree` once the attribute white space is forgotten -/
theorem plainT_erase {cls : Classes} : ∀ (w : WTree), PlainW cls w → PlainT cls (eraseT w)
  | .leaf n a gap text, h => by
    simp only [eraseT, PlainT]
    exact ⟨h.1, plainAttrs_wplain h.2.1, h.2.2.1, h.2.2.2⟩
  | .empty n a gap, h => by
    simp only [eraseT, PlainT]
    exact ⟨h.1, plainAttrs_wplain h.2.1, h.2.2.1, fun hc => h.2.2.2 (wplain_eq_nil.mp hc)⟩
  | .node n a gap pre first rest post, h => by
    obtain ⟨hn, ha, hg, hpre, hpost, hf, hr, hof, hor⟩ := h
    simp only [eraseT, PlainT]
    exact ⟨hn, plainAttrs_wplain ha, hg, hpre, hpost, plainT_erase first hf, plainF_erase rest hr,
      fun hc => hof ((occursT_erase n first).mp hc), fun hc => hor ((occursF_erase n rest).mp hc)⟩
theorem plainF_erase {cls : Classes} : ∀ (f : WForest), PlainWF cls f → PlainF cls (eraseF f)
  | .nil, _ => by simp only [eraseF, PlainF]
  | .cons sep t f, h => by
    simp only [eraseF, PlainF]
    exact ⟨h.1, plainT_erase t h.2.1, plainF_erase f h.2.2⟩
end

mutual
theorem heightT_erase : ∀ (w : WTree), heightT (eraseT w) = heightW w
  | .leaf _ _ _ _ => by simp [eraseT, heightT, heightW]
  | .empty _ _ _ => by simp [eraseT, heightT, heightW]
  | .node _ _ _ _ first rest _ => by
    simp only [eraseT, heightT, heightW]
    rw [heightT_erase first, heightF_erase rest]
theorem heightF_erase : ∀ (f : WForest), heightF (eraseF f) = heightWF f
  | .nil => by simp [eraseF, heightF, heightWF]
  | .cons _ t f => by
    simp only [eraseF, heightF, heightWF]
    rw [heightT_erase t, heightF_erase f]
end

/-! ### `PTree` is the special case "one space before each attribute" -/

def wone (a : Attrs) : WAttrs := a.map fun p => ([' '], p)

mutual
def ofP : PTree → WTree
  | .leaf n a gap text => .leaf n (wone a) gap text
  | .empty n a gap => .empty n (wone a) gap
  | .node n a gap pre first rest post => .node n (wone a) gap pre (ofP first) (ofPF rest) post
def ofPF : PForest → WForest
  | .nil => .nil
  | .cons sep t f => .cons sep (ofP t) (ofPF f)
end

theorem wplain_wone (a : Attrs) : wplain (wone a) = a := by
  simp [wplain, wone, Function.comp_def]

theorem wattrsText_wone : ∀ (a : Attrs), wattrsText (wone a) = attrsText a
  | [] => rfl
  | p :: r => by
    have ih := wattrsText_wone r
    simp only [wone, List.map_cons] at ih ⊢
    simp [wattrsText, attrsText, ih]

mutual
theorem renderW_ofP : ∀ (t : PTree), renderW (ofP t) = renderT t
  | .leaf n a gap text => by
    simp [ofP, renderW, renderT, wstartTag, wstartBody, startTag, startBody, wattrsText_wone]
  | .empty n a gap => by
    simp [ofP, renderW, renderT, wselfTag, wselfBody, selfTag, selfBody, wattrsText_wone]
  | .node n a gap pre first rest post => by
    simp only [ofP, renderW, renderT, wstartTag, wstartBody, startTag, startBody, wattrsText_wone]
    rw [renderW_ofP first, renderWF_ofPF rest]
theorem renderWF_ofPF : ∀ (f : PForest), renderWF (ofPF f) = renderF f
  | .nil => by simp [ofPF, renderWF, renderF]
  | .cons sep t f => by
    simp only [ofPF, renderWF, renderF]
    rw [renderW_ofP t, renderWF_ofPF f]
end

mutual
theorem eraseT_ofP : ∀ (t : PTree), eraseT (ofP t) = t
  | .leaf n a gap text => by simp [ofP, eraseT, wplain_wone]
  | .empty n a gap => by simp [ofP, eraseT, wplain_wone]
  | .node n a gap pre first rest post => by
    simp only [ofP, eraseT, wplain_wone]
    rw [eraseT_ofP first, eraseF_ofPF rest]
theorem eraseF_ofPF : ∀ (f : PForest), eraseF (ofPF f) = f
  | .nil => by simp [ofPF, eraseF]
  | .cons sep t f => by
    simp only [ofPF, eraseF]
    rw [eraseT_ofP t, eraseF_ofPF f]
end

theorem attrWs_one {cls : Classes} (hs : Sane cls) (hsp : cls.isStrip ' ' = true) : AttrWs cls [' '] :=
  ⟨by simp, by intro x hx; simp only [List.mem_singleton] at hx; subst hx; exact ⟨hs.space_sp, hsp, by decide⟩⟩

theorem plainWAttrs_wone {cls : Classes} (hs : Sane cls) (hsp : cls.isStrip ' ' = true) {a : Attrs} (h : ∀ p ∈ a, PlainAttr cls p) :
    PlainWAttrs cls (wone a) := by
  intro q hq
  simp only [wone, List.mem_map] at hq
  obtain ⟨p, hp, rfl⟩ := hq
  exact ⟨attrWs_one hs hsp, h p hp⟩

mutual
theorem occursW_ofP (n : List Char) : ∀ (t : PTree), occursW n (ofP t) ↔ occursT n t
  | .leaf m a gap text => by simp [ofP, occursT, occursW]
  | .empty m a gap => by simp [ofP, occursT, occursW]
  | .node m a gap pre first rest post => by
    simp only [ofP, occursT, occursW]
    rw [occursW_ofP n first, occursWF_ofPF n rest]
theorem occursWF_ofPF (n : List Char) : ∀ (f : PForest), occursWF n (ofPF f) ↔ occursF n f
  | .nil => by simp [ofPF, occursF, occursWF]
  | .cons sep t f => by
    simp only [ofPF, occursF, occursWF]
    rw [occursW_ofP n t, occursWF_ofPF n f]
end

mutual
theorem plainW_ofP {cls : Classes} (hs : Sane cls) (hsp : cls.isStrip ' ' = true) : ∀ (t : PTree), PlainT cls t → PlainW cls (ofP t)
  | .leaf n a gap text, h => by
    simp only [ofP, PlainW, wplain_wone]
    exact ⟨h.1, plainWAttrs_wone hs hsp h.2.1, h.2.2.1, h.2.2.2⟩
  | .empty n a gap, h => by
    simp only [ofP, PlainW, wplain_wone]
    refine ⟨h.1, plainWAttrs_wone hs hsp h.2.1, h.2.2.1, ?_⟩
    intro hc
    apply h.2.2.2
    cases a with
    | nil => rfl
    | cons _ _ => simp [wone] at hc
  | .node n a gap pre first rest post, h => by
    obtain ⟨hn, ha, hg, hpre, hpost, hf, hr, hof, hor⟩ := h
    simp only [ofP, PlainW, wplain_wone]
    exact ⟨hn, plainWAttrs_wone hs hsp ha, hg, hpre, hpost, plainW_ofP hs hsp first hf, plainWF_ofPF hs hsp rest hr,
      fun hc => hof ((occursW_ofP n first).mp hc), fun hc => hor ((occursWF_ofPF n rest).mp hc)⟩
theorem plainWF_ofPF {cls : Classes} (hs : Sane cls) (hsp : cls.isStrip ' ' = true) : ∀ (f : PForest), PlainF cls f → PlainWF cls (ofPF f)
  | .nil, _ => by simp only [ofPF, PlainWF]
  | .cons sep t f, h => by
    simp only [ofPF, PlainWF]
    exact ⟨h.1, plainW_ofP hs hsp t h.2.1, plainWF_ofPF hs hsp f h.2.2⟩
end

theorem plainWAttrs'_wone {cls : Classes} (hs : Sane cls) {a : Attrs} (h : ∀ p ∈ a, PlainAttr cls p) :
    PlainWAttrs' cls (wone a) := by
  intro q hq
  simp only [wone, List.mem_map] at hq
  obtain ⟨p, hp, rfl⟩ := hq
  exact ⟨⟨hs.space_sp, by decide, by decide, by simp⟩, h p hp⟩

theorem plainTag_wone {cls : Classes} (hs : Sane cls) {n : List Char} {a : Attrs} {gap : List Char} (hn : PlainName cls n)
    (ha : ∀ p ∈ a, PlainAttr cls p) (hg : Gap cls a gap) : PlainTag cls n (wone a) gap :=
  ⟨hn, plainWAttrs'_wone hs ha, by rwa [wplain_wone]⟩

mutual
/-- a plain `PTree`, rendered with one space before each attribute, is within what the reader needs -/
theorem plainW'_ofP {cls : Classes} (hs : Sane cls) : ∀ (t : PTree), PlainT cls t → PlainW' cls (ofP t)
  | .leaf n a gap text, h => ⟨plainTag_wone hs h.1 h.2.1 h.2.2.1, h.2.2.2⟩
  | .empty n a gap, h => ⟨plainTag_wone hs h.1 h.2.1 h.2.2.1, fun hc => h.2.2.2 (by rw [← wplain_wone a, hc]; rfl)⟩
  | .node n a gap pre first rest post, ⟨hn, ha, hg, hpre, hpost, hf, hr, hof, hor⟩ =>
    ⟨plainTag_wone hs hn ha hg, hpre, hpost, plainW'_ofP hs first hf, plainWF'_ofPF hs rest hr,
      fun hc => hof ((occursW_ofP n first).mp hc), fun hc => hor ((occursWF_ofPF n rest).mp hc)⟩
theorem plainWF'_ofPF {cls : Classes} (hs : Sane cls) : ∀ (f : PForest), PlainF cls f → PlainWF' cls (ofPF f)
  | .nil, _ => by simp only [ofPF, PlainWF']
  | .cons sep t f, h => by
    simp only [ofPF, PlainWF']
    exact ⟨h.1, plainW'_ofP hs t h.2.1, plainWF'_ofPF hs f h.2.2⟩
end

mutual
theorem heightW_ofP : ∀ (t : PTree), heightW (ofP t) = heightT t
  | .leaf _ _ _ _ => by simp [ofP, heightT, heightW]
  | .empty _ _ _ => by simp [ofP, heightT, heightW]
  | .node _ _ _ _ first rest _ => by
    simp only [ofP, heightT, heightW]
    rw [heightW_ofP first, heightWF_ofPF rest]
theorem heightWF_ofPF : ∀ (f : PForest), heightWF (ofPF f) = heightF f
  | .nil => by simp [ofPF, heightF, heightWF]
  | .cons _ t f => by
    simp only [ofPF, heightF, heightWF]
    rw [heightW_ofP t, heightWF_ofPF f]
end

end Kskm.Xml
