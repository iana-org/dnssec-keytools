/-
  Token alignment for C12: a pattern that starts with "<" can only occur where a tag starts, so
  `str.index` passes over texts and over tags of other names.  (`Skip pat s`: scanning for `pat`
  through `s` never stops inside `s`, whatever follows.)  Read the other way round, no occurrence of `pat` begins
  inside a text that is passed over (`Skip.first_occ`): a prefix of `body ++ pat ++ tail` in which `pat` occurs
  reaches to the end of that `pat` (`prefix_reaches_pat`, C11's truncation clause).
-/
import KskmProofs.Lemmas.XmlRender
import KskmProofs.Lemmas.XmlTag
namespace Kskm.Xml

/-- scanning for `pat` passes over `s`, whatever follows it -/
def Skip (pat s : List Char) : Prop :=
  ∀ (tail : List Char) (i : Nat), findAux pat (s ++ tail) i = findAux pat tail (i + s.length)

theorem Skip.nil (pat : List Char) : Skip pat [] := by
  intro tail i; simp

theorem Skip.append {pat a b : List Char} (ha : Skip pat a) (hb : Skip pat b) : Skip pat (a ++ b) := by
  intro tail i
  rw [List.append_assoc, ha, hb, List.length_append, Nat.add_assoc]

theorem Skip.cons_append {pat b : List Char} {c : Char} (ha : Skip pat [c]) (hb : Skip pat b) :
    Skip pat (c :: b) := by
  have := Skip.append ha hb
  simpa using this

theorem skip_of_no_lt (p : List Char) : ∀ (s : List Char), '<' ∉ s → Skip ('<' :: p) s := by
  intro s
  induction s with
  | nil => intro _; exact Skip.nil _
  | cons c r ih =>
    intro hs tail i
    have hc : c ≠ '<' := fun h => hs (by simp [h])
    have hr : '<' ∉ r := fun h => hs (List.mem_cons_of_mem _ h)
    have hpre : ('<' :: p).isPrefixOf (c :: (r ++ tail)) = false := by
      simp [List.isPrefixOf, Ne.symm hc]
    simp only [List.cons_append, findAux, hpre, Bool.false_eq_true, ↓reduceIte]
    rw [ih hr tail (i + 1)]
    simp [Nat.add_assoc, Nat.add_comm 1]

theorem skip_tag (p body : List Char) (hb : '<' ∉ body)
    (hnp : ∀ tail, ¬ ('<' :: p) <+: ('<' :: (body ++ tail))) : Skip ('<' :: p) ('<' :: body) := by
  intro tail i
  have hpre : ('<' :: p).isPrefixOf ('<' :: (body ++ tail)) = false := by
    cases h : ('<' :: p).isPrefixOf ('<' :: (body ++ tail)) with
    | false => rfl
    | true => exact absurd (List.isPrefixOf_iff_prefix.mp h) (hnp tail)
  simp only [List.cons_append, findAux, hpre, Bool.false_eq_true, ↓reduceIte]
  rw [skip_of_no_lt p body hb tail (i + 1)]
  simp [Nat.add_assoc, Nat.add_comm 1]

theorem findAux_hit (pat tail : List Char) (i : Nat) (hne : pat ≠ []) :
    findAux pat (pat ++ tail) i = some i := by
  cases pat with
  | nil => exact absurd rfl hne
  | cons c p =>
    have : (c :: p).isPrefixOf (c :: (p ++ tail)) = true :=
      List.isPrefixOf_iff_prefix.mpr ⟨tail, by simp⟩
    simp [findAux, this]

/-- two runs of word characters, each followed by a non-word character: if one (with its terminator)
    is a prefix of the other (with its terminator and more), they are the same run and terminator -/
theorem word_run_prefix (isWord : Char → Bool) : ∀ (n m : List Char) (t1 t2 : Char) (x : List Char),
    (∀ c ∈ n, isWord c = true) → (∀ c ∈ m, isWord c = true) → isWord t1 = false → isWord t2 = false →
    (n ++ [t1]) <+: (m ++ t2 :: x) → n = m ∧ t1 = t2 := by
  intro n
  induction n with
  | nil =>
    intro m t1 t2 x _ hm h1 _ h
    cases m with
    | nil =>
      simp only [List.nil_append] at h
      exact ⟨rfl, (List.cons_prefix_cons.mp h).1⟩
    | cons c m' =>
      simp only [List.nil_append, List.cons_append] at h
      have := (List.cons_prefix_cons.mp h).1
      have hc := hm c (by simp)
      rw [← this, h1] at hc
      cases hc
  | cons a n' ih =>
    intro m t1 t2 x hn hm h1 h2 h
    cases m with
    | nil =>
      simp only [List.nil_append, List.cons_append] at h
      have := (List.cons_prefix_cons.mp h).1
      have ha := hn a (by simp)
      rw [this, h2] at ha
      cases ha
    | cons c m' =>
      simp only [List.cons_append] at h
      obtain ⟨hac, hrest⟩ := List.cons_prefix_cons.mp h
      obtain ⟨h3, h4⟩ := ih m' t1 t2 x (fun c hc => hn c (List.mem_cons_of_mem _ hc))
        (fun c hc => hm c (List.mem_cons_of_mem _ hc)) h1 h2 hrest
      exact ⟨by rw [hac, h3], h4⟩

theorem name_no_lt {cls : Classes} (hs : Sane cls) {n : List Char} (hn : PlainName cls n) : '<' ∉ n := by
  intro h
  have := hn.2 '<' h
  rw [hs.word_lt] at this
  cases this

theorem endTag_eq (n : List Char) : endTag n = '<' :: ('/' :: (n ++ ['>'])) := rfl

theorem endBody_no_lt {cls : Classes} (hs : Sane cls) {n : List Char} (hn : PlainName cls n) :
    '<' ∉ '/' :: (n ++ ['>']) := by
  simp only [List.mem_cons, List.mem_append, not_or]
  exact ⟨by decide, name_no_lt hs hn, by simp⟩

/-- the three patterns `_find_end_of_element` looks for, for an element named `n` -/
inductive IsPat (n : List Char) : List Char → Prop
  | close : IsPat n (endTag n)
  | openGt : IsPat n ('<' :: (n ++ ['>']))
  | openSp : IsPat n ('<' :: (n ++ [' ']))

theorem head_word {cls : Classes} {n : List Char} (hn : PlainName cls n) :
    ∃ c r, n = c :: r ∧ cls.isWord c = true := by
  cases n with
  | nil => exact absurd rfl hn.1
  | cons c r => exact ⟨c, r, rfl, hn.2 c (by simp)⟩

/-- an open pattern `<n` + `t` does not begin at `</`: `/` is no word character -/
theorem open_not_at_close {cls : Classes} (hs : Sane cls) {n : List Char} (hn : PlainName cls n) (t : Char)
    (y : List Char) : ¬ ('<' :: (n ++ [t])) <+: ('<' :: '/' :: y) := by
  intro h
  obtain ⟨c, r, hc, hw⟩ := head_word hn
  rw [hc] at h
  have := (List.cons_prefix_cons.mp (List.cons_prefix_cons.mp h).2).1
  rw [this, hs.word_slash] at hw
  cases hw

/-- an open pattern `<n` + `t₁` does not begin at a tag `<m` + `t` + … with another name or another character
    after the name (`t₁`, `t` no word characters) -/
theorem open_not_at_other {cls : Classes} {n m x : List Char} {t₁ t : Char} (hn : PlainName cls n)
    (hm : PlainName cls m) (hne : ¬ (n = m ∧ t₁ = t)) (h₁ : cls.isWord t₁ = false) (ht : cls.isWord t = false) :
    ¬ ('<' :: (n ++ [t₁])) <+: ('<' :: (m ++ t :: x)) := fun h =>
  hne (word_run_prefix cls.isWord n m t₁ t x hn.2 hm.2 h₁ ht (List.cons_prefix_cons.mp h).2)

theorem skip_endTag {cls : Classes} (hs : Sane cls) {n m pat : List Char} (hn : PlainName cls n)
    (hm : PlainName cls m) (hne : m ≠ n) (hp : IsPat n pat) : Skip pat (endTag m) := by
  rw [endTag_eq]
  cases hp with
  | close =>
    rw [endTag_eq]
    refine skip_tag _ _ (endBody_no_lt hs hm) (fun tail h => ?_)
    have h2 : n ++ ['>'] <+: m ++ '>' :: tail := by
      simpa using (List.cons_prefix_cons.mp (List.cons_prefix_cons.mp h).2).2
    exact hne (word_run_prefix cls.isWord n m '>' '>' tail hn.2 hm.2 hs.word_gt hs.word_gt h2).1.symm
  | openGt => exact skip_tag _ _ (endBody_no_lt hs hm) (fun _ => open_not_at_close hs hn '>' _)
  | openSp => exact skip_tag _ _ (endBody_no_lt hs hm) (fun _ => open_not_at_close hs hn ' ' _)

theorem skip_own_endTag {cls : Classes} (hs : Sane cls) {n : List Char} (hn : PlainName cls n) (t : Char) :
    Skip ('<' :: (n ++ [t])) (endTag n) := by
  rw [endTag_eq]
  exact skip_tag _ _ (endBody_no_lt hs hn) (fun _ => open_not_at_close hs hn t _)

/-- `</n>` does not begin at a start tag: `/` is no word character -/
theorem skip_close_at_open {cls : Classes} (hs : Sane cls) {m body : List Char} (n : List Char) (hm : PlainName cls m)
    (hb : '<' ∉ m ++ body) : Skip (endTag n) ('<' :: (m ++ body)) := by
  rw [endTag_eq]
  refine skip_tag _ _ hb (fun tail h => ?_)
  obtain ⟨c, r, hc, hw⟩ := head_word hm
  rw [hc] at h
  have := (List.cons_prefix_cons.mp (List.cons_prefix_cons.mp h).2).1
  rw [← this, hs.word_slash] at hw
  cases hw

/-- scanning for a pattern of `n` passes over a tag `<m…` of another name whose name is followed by
    a non-word character and whose text is `<`-free -/
theorem skip_openTag {cls : Classes} (hs : Sane cls) {n m pat body x : List Char} {t : Char}
    (hn : PlainName cls n) (hm : PlainName cls m) (hne : m ≠ n) (hp : IsPat n pat)
    (hshape : body = m ++ t :: x) (htw : cls.isWord t = false) (hb : '<' ∉ body) : Skip pat ('<' :: body) := by
  have hopen : ∀ t₁, cls.isWord t₁ = false → Skip ('<' :: (n ++ [t₁])) ('<' :: body) := fun t₁ h₁ =>
    skip_tag _ _ hb (fun tail => by
      rw [hshape, List.append_assoc]
      exact open_not_at_other hn hm (fun h => hne h.1.symm) h₁ htw)
  cases hp with
  | close => subst hshape; exact skip_close_at_open hs n hm hb
  | openGt => exact hopen '>' hs.word_gt
  | openSp => exact hopen ' ' hs.word_sp

theorem skip_text {n pat s : List Char} (hp : IsPat n pat) (hs : '<' ∉ s) : Skip pat s := by
  cases hp <;> exact skip_of_no_lt _ s hs

/-- `str.index` answers the first occurrence -/
theorem findAux_first {pat : List Char} (hne : pat ≠ []) (pre post : List Char) (i : Nat) :
    ∃ j, findAux pat (pre ++ pat ++ post) i = some j ∧ j ≤ i + pre.length := by
  induction pre generalizing i with
  | nil => exact ⟨i, by simpa using findAux_hit pat post i hne, by simp⟩
  | cons c pre ih =>
    simp only [List.cons_append, findAux]
    split
    · exact ⟨i, rfl, by omega⟩
    · obtain ⟨j, hj, hle⟩ := ih (i + 1)
      exact ⟨j, hj, by simp only [List.length_cons]; omega⟩

/-- what `Skip` means for occurrences: none begins inside the part passed over -/
theorem Skip.first_occ {pat body : List Char} (hne : pat ≠ []) (h : Skip pat body) {tail pre post : List Char}
    (e : body ++ tail = pre ++ pat ++ post) : body.length ≤ pre.length := by
  obtain ⟨j, hj, hle⟩ := findAux_first hne pre post 0
  rw [← e, h tail 0] at hj
  obtain ⟨k, hk, -⟩ := findAux_spec hj
  omega

/-- **Truncation, for any text.**  In `body ++ pat ++ tail`, a scan for `pat` passing over `body`: a prefix in which
    `pat` occurs reaches to the end of that `pat`. -/
theorem prefix_reaches_pat {pat body tail p : List Char} (hne : pat ≠ []) (h : Skip pat body)
    (hp : p <+: body ++ pat ++ tail) (hocc : pat <:+: p) : body ++ pat <+: p := by
  obtain ⟨pre, post, e⟩ := hocc
  obtain ⟨rest, er⟩ := hp
  have hlen := h.first_occ hne (tail := pat ++ tail) (pre := pre) (post := post ++ rest)
    (by rw [← List.append_assoc, ← er, ← e]; simp)
  refine List.prefix_of_prefix_length_le ⟨tail, rfl⟩ ⟨rest, er⟩ ?_
  rw [← e]; simp only [List.length_append]; omega

end Kskm.Xml
