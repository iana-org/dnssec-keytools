/-
  What the reader's dicts and the glue (Kskm/Xml.lean, Kskm/XmlGlue.lean) compute, before any two documents are
  compared: insertion-ordered dicts (`dictSet`, `List.lookup`), `_store_element` under repetition (`storedVal`,
  `storeAll`), the glue's `dedup` (a Python `set`), a request without bundles, a loader built from `parse_ksr`.
-/
import Kskm.XmlGlue
import KskmProofs.Lemmas.XmlBasic
import KskmProofs.Lemmas.Res
namespace Kskm.Xml

theorem lookup_dictSet_self {β} (d : List (List Char × β)) (k : List Char) (v : β) :
    (dictSet d k v).lookup k = some v := by
  unfold dictSet
  split
  · rename_i h
    induction d with
    | nil => simp at h
    | cons p r ih =>
      obtain ⟨pk, pv⟩ := p
      by_cases hk : pk = k
      · subst hk; simp
      · have hr : r.any (fun p => decide (p.1 = k)) = true := by
          simp only [List.any_cons, Bool.or_eq_true, decide_eq_true_eq] at h
          rcases h with h | h
          · exact absurd h hk
          · exact h
        have hne : (k == pk) = false := by
          simp only [beq_eq_false_iff_ne, ne_eq]; exact fun h => hk h.symm
        simp only [List.map_cons, hk, ↓reduceIte, List.lookup, hne]
        exact ih hr
  · rename_i h
    induction d with
    | nil => simp
    | cons p r ih =>
      obtain ⟨pk, pv⟩ := p
      have hk : pk ≠ k := by
        intro hk; apply h; simp [hk]
      have hne : (k == pk) = false := by
        simp only [beq_eq_false_iff_ne, ne_eq]; exact fun h => hk h.symm
      have hr : ¬ r.any (fun p => decide (p.1 = k)) = true := by
        intro hr; apply h; simp only [List.any_cons, Bool.or_eq_true]; exact Or.inr hr
      simp only [List.cons_append, List.lookup, hne]
      exact ih hr

theorem lookup_map_other {β} (d : List (List Char × β)) (k k' : List Char) (v : β) (hne : k' ≠ k) :
    (d.map (fun p => if p.1 = k then (k, v) else p)).lookup k' = d.lookup k' := by
  induction d with
  | nil => simp
  | cons p r ih =>
    obtain ⟨pk, pv⟩ := p
    by_cases hk : pk = k
    · subst hk
      have : (k' == pk) = false := by simpa using hne
      simp only [List.map_cons, ↓reduceIte, List.lookup, this]
      exact ih
    · simp only [List.map_cons, hk, ↓reduceIte, List.lookup]
      cases hb : (k' == pk) with
      | true => rfl
      | false => exact ih

theorem lookup_dictSet_other {β} {d : List (List Char × β)} {k k' : List Char} {v : β} (hne : k' ≠ k) :
    (dictSet d k v).lookup k' = d.lookup k' := by
  unfold dictSet
  split
  · exact lookup_map_other d k k' v hne
  · exact lookup_append_other hne

theorem storeElement_other {res : Dict} {name k : List Char} {v : XVal} (hne : k ≠ name) :
    (storeElement res name v).lookup k = res.lookup k := by
  unfold storeElement
  split
  · exact lookup_dictSet_other hne
  · exact lookup_dictSet_other hne
  · exact lookup_append_other hne

/-- the two-entry dict `{"attrs": A, "value": v}` of an element with attributes, key by key -/
theorem lookup_attrs_value (A v : XVal) (k : List Char) :
    List.lookup k [(kAttrs, A), (kValue, v)] = if k = kAttrs then some A else if k = kValue then some v else none := by
  by_cases h1 : k = kAttrs
  · subst h1; simp [List.lookup]
  · by_cases h2 : k = kValue
    · subst h2; simp [List.lookup, kValue_ne_kAttrs, h1]
    · have e1 : (k == kAttrs) = false := by simpa using h1
      have e2 : (k == kValue) = false := by simpa using h2
      simp [List.lookup, e1, e2, h1, h2]

/-- the value `_store_element` leaves under `name`, from what was there before -/
def storedVal (old : Option XVal) (v : XVal) : XVal :=
  match old with
  | some (.list l) => .list (l ++ [v])
  | some o => .list [o, v]
  | none => v

theorem storeElement_self (res : Dict) (name : List Char) (v : XVal) :
    (storeElement res name v).lookup name = some (storedVal (res.lookup name) v) := by
  unfold storeElement storedVal
  cases h : res.lookup name with
  | none => exact lookup_append_fresh _ _ _ h
  | some o => cases o <;> exact lookup_dictSet_self _ _ _

/-- `_store_element` for every value of a repeated element, in document order -/
def storeAll (res : Dict) (name : List Char) (vs : List XVal) : Dict :=
  vs.foldl (fun r v => storeElement r name v) res

def XVal.isList : XVal → Bool
  | .list _ => true
  | _ => false

theorem storeAll_list (name : List Char) : ∀ (vs : List XVal) (res : Dict) (l : List XVal),
    res.lookup name = some (.list l) → (storeAll res name vs).lookup name = some (.list (l ++ vs)) := by
  intro vs
  induction vs with
  | nil => intro res l h; simpa [storeAll] using h
  | cons v r ih =>
    intro res l h
    have h1 : (storeElement res name v).lookup name = some (.list (l ++ [v])) := by
      rw [storeElement_self, h]; rfl
    have := ih (storeElement res name v) (l ++ [v]) h1
    simpa [storeAll, List.append_assoc] using this

theorem storeAll_other (name k : List Char) (hk : k ≠ name) : ∀ (vs : List XVal) (res : Dict),
    (storeAll res name vs).lookup k = res.lookup k := by
  intro vs
  induction vs with
  | nil => intro res; rfl
  | cons v r ih =>
    intro res
    simp only [storeAll, List.foldl] at ih ⊢
    rw [ih]
    exact storeElement_other hk

theorem storeElement_fresh (res : Dict) (name : List Char) (v : XVal) (h : res.lookup name = none) :
    (storeElement res name v).lookup name = some v := by
  rw [storeElement_self, h]; rfl

theorem storeElement_second (res : Dict) (name : List Char) (old v : XVal) (h : res.lookup name = some old)
    (hold : old.isList = false) : (storeElement res name v).lookup name = some (.list [old, v]) := by
  rw [storeElement_self, h]
  cases old with
  | list l => simp [XVal.isList] at hold
  | str s => rfl
  | dict d => rfl

/-! ### `dedup`: a Python `set` as the duplicate-free list of first occurrences -/

theorem mem_dedup' {α} [DecidableEq α] (x : α) : ∀ (l : List α), x ∈ dedup l ↔ x ∈ l
  | [] => by simp [dedup]
  | a :: t => by
    by_cases hx : x = a
    · subst hx; simp [dedup]
    · simp [dedup, mem_dedup' x t, hx]

theorem nodup_dedup' {α} [DecidableEq α] : ∀ (l : List α), (dedup l).Nodup
  | [] => by simp [dedup]
  | a :: t => by
    rw [dedup, List.nodup_cons]
    exact ⟨by simp, (nodup_dedup' t).sublist List.filter_sublist⟩

/-- the set built from the occurrences does not depend on their order -/
theorem dedup_perm {α} [DecidableEq α] {l l' : List α} (h : l.Perm l') : (dedup l).Perm (dedup l') := by
  rw [List.perm_ext_iff_of_nodup (nodup_dedup' l) (nodup_dedup' l')]
  intro x
  rw [mem_dedup', mem_dedup', h.mem_iff]

theorem dedup_ne_nil {α} [DecidableEq α] {l : List α} (h : l ≠ []) : dedup l ≠ [] := by
  cases l with
  | nil => exact absurd rfl h
  | cons a t => simp [dedup]

theorem dedup_eq_self {α} [DecidableEq α] : ∀ (l : List α), l.Nodup → dedup l = l
  | [], _ => rfl
  | a :: t, h => by
    rw [List.nodup_cons] at h
    rw [dedup, dedup_eq_self t h.2, List.filter_eq_self.mpr]
    intro x hx
    simp only [ne_eq, decide_not, Bool.not_eq_eq_eq_not, Bool.not_true, decide_eq_false_iff_not]
    intro e; subst e; exact h.1 hx

/-! ### a request without bundles -/

theorem requestBundlesOf_nil (gs : GlueSwitches) : requestBundlesOf gs [] = .ok [] := by
  simp only [requestBundlesOf, List.mapM_nil, pure_bind, sortByKey, sortByExpiration, List.mergeSort_nil, ite_self]
  rfl

/-- the switches govern how bundles (and the signers inside them) are read and sorted: where the glue finds no
    `RequestBundle`, they are not consulted -/
theorem requestFromDict_no_bundles (gs gs' : GlueSwitches) {data : XVal}
    (h : (do (← (← (← data.getItem "KSR").getItem "value").getItem "Request").get? "RequestBundle") = .ok none) :
    requestFromDict gs data = requestFromDict gs' data := by
  obtain ⟨ksr, h1, h⟩ := Res.bind_ok h
  obtain ⟨v, h2, h⟩ := Res.bind_ok h
  obtain ⟨r, h3, h4⟩ := Res.bind_ok h
  unfold requestFromDict
  simp only [h1, h2, h3, h4, Res.ok_bind, Option.getD, XVal.asList, requestBundlesOf_nil]

/-- what a loader built from `parse_ksr` returns: the glue's answer on the parsed dict -/
theorem fromXmlWith_ok_iff {α} {cls : Classes} {sw : Switches} {glue : XVal → Res α} {x : List Char} {r : α} :
    fromXmlWith cls sw glue x = .done (.ok r) ↔ ∃ d, parseKsr cls sw x = .ok d ∧ glue (.dict d) = .ok r := by
  unfold fromXmlWith
  cases parseKsr cls sw x with
  | ok d => simp
  | err k => simp [err]
  | outOfFuel => simp

end Kskm.Xml
