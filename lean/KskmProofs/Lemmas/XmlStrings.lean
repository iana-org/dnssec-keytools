/-
  The string layer of the reader proof: what the reader's operations do on text of a known shape, no tree in sight.
  `takeWhile` / `dropWhile` on a run, `str.strip` on text that starts and ends with non-white-space (`strip_padded`;
  `Markup`: from a `<` to a `>`), the start-tag expressions on `<name>` and on `<name attrs(/*)>`, slices, the
  nested-tag test of `_find_end_of_element`, and one round of the element loop on "white space, an element, the rest"
  (`parseLoop_round`).  KskmProofs/Lemmas/XmlReaderW.lean puts them together along a rendered tree.
-/
import KskmProofs.Lemmas.XmlScan
import KskmProofs.Lemmas.XmlFuel
namespace Kskm.Xml

theorem takeWhile_run {α} (p : α → Bool) (k : List α) (t : α) (x : List α) (hk : ∀ c ∈ k, p c = true)
    (ht : p t = false) : (k ++ t :: x).takeWhile p = k ∧ (k ++ t :: x).dropWhile p = t :: x :=
  takeWhile_append_stop p k (t :: x) hk (fun c hc => by cases hc; exact ht)

/-! ### `str.strip` on strings that start and end with non-whitespace -/

def EndsWith (d : Char) (s : List Char) : Prop := ∃ r, s = r ++ [d]

theorem EndsWith.append_left {d : Char} {s : List Char} (x : List Char) (h : EndsWith d s) : EndsWith d (x ++ s) := by
  obtain ⟨r, rfl⟩ := h
  exact ⟨x ++ r, by simp⟩

theorem EndsWith.append_right {d : Char} {x y : List Char} (hx : EndsWith d x) (hy : y = [] ∨ EndsWith d y) :
    EndsWith d (x ++ y) := by
  rcases hy with rfl | hy
  · rwa [List.append_nil]
  · exact hy.append_left x

theorem rstrip_endsWith (p : Char → Bool) (d : Char) (s : List Char) (hd : p d = false) (h : EndsWith d s) :
    rstrip p s = s := by
  obtain ⟨r, rfl⟩ := h
  simp [rstrip, hd]

theorem lstrip_cons (p : Char → Bool) (c : Char) (s : List Char) (hc : p c = false) : lstrip p (c :: s) = c :: s := by
  simp [lstrip, List.dropWhile, hc]

theorem strip_self (p : Char → Bool) (c d : Char) (s : List Char) (hc : p c = false) (hd : p d = false)
    (h : EndsWith d (c :: s)) : strip p (c :: s) = c :: s := by
  unfold strip
  rw [lstrip_cons p c s hc, rstrip_endsWith p d _ hd h]

/-- a leading newline and a trailing newline are stripped, nothing else -/
theorem strip_nl_wrapped (p : Char → Bool) (c d : Char) (s : List Char) (hnl : p '\n' = true) (hc : p c = false)
    (hd : p d = false) (h : EndsWith d (c :: s)) : strip p ('\n' :: (c :: s ++ ['\n'])) = c :: s := by
  obtain ⟨r, hr⟩ := h
  unfold strip
  have h1 : lstrip p ('\n' :: (c :: s ++ ['\n'])) = c :: s ++ ['\n'] := by
    simp [lstrip, List.dropWhile, hnl, hc]
  rw [h1, hr]
  simp [rstrip, List.dropWhile, hnl, hd]

theorem strip_nl_leading (p : Char → Bool) (c d : Char) (s : List Char) (hnl : p '\n' = true) (hc : p c = false)
    (hd : p d = false) (h : EndsWith d (c :: s)) : strip p ('\n' :: (c :: s)) = c :: s := by
  unfold strip
  have h1 : lstrip p ('\n' :: (c :: s)) = c :: s := by simp [lstrip, List.dropWhile, hnl, hc]
  rw [h1, rstrip_endsWith p d _ hd h]

theorem lstrip_ws (p : Char → Bool) : ∀ (pre x : List Char), (∀ c ∈ pre, p c = true) → lstrip p (pre ++ x) = lstrip p x := by
  intro pre
  induction pre with
  | nil => intro x _; rfl
  | cons c r ih =>
    intro x h
    have hc := h c (by simp)
    have := ih x (fun c hc => h c (List.mem_cons_of_mem _ hc))
    simp only [lstrip, List.cons_append, List.dropWhile, hc] at this ⊢
    exact this

theorem rstrip_ws (p : Char → Bool) (x post : List Char) (h : ∀ c ∈ post, p c = true) :
    rstrip p (x ++ post) = rstrip p x := by
  unfold rstrip
  rw [List.reverse_append]
  have := lstrip_ws p post.reverse x.reverse (fun c hc => h c (List.mem_reverse.mp hc))
  simp only [lstrip] at this
  rw [this]

/-- white space around a string that starts and ends with non-whitespace is stripped, nothing else -/
theorem strip_padded (p : Char → Bool) (c d : Char) (s pre post : List Char) (hpre : ∀ x ∈ pre, p x = true)
    (hpost : ∀ x ∈ post, p x = true) (hc : p c = false) (hd : p d = false) (h : EndsWith d (c :: s)) :
    strip p (pre ++ (c :: s) ++ post) = c :: s := by
  unfold strip
  rw [List.append_assoc, lstrip_ws p pre _ hpre, List.cons_append, lstrip_cons p c _ hc]
  have : c :: (s ++ post) = (c :: s) ++ post := rfl
  rw [this, rstrip_ws p _ post hpost, rstrip_endsWith p d _ hd h]

theorem endTag_endsGt (n : List Char) : EndsWith '>' (endTag n) := ⟨'<' :: '/' :: n, by simp [endTag]⟩

/-- a text that starts with `<` and ends with `>`: an element, or several with anything between them -/
def Markup (x : List Char) : Prop := ∃ r, x = '<' :: r ∧ EndsWith '>' x

theorem Markup.append {x y : List Char} (hx : Markup x) (hy : y = [] ∨ EndsWith '>' y) : Markup (x ++ y) := by
  obtain ⟨r, hr, he⟩ := hx
  exact ⟨r ++ y, by rw [hr]; rfl, he.append_right hy⟩

theorem Markup.length_pos {x : List Char} (hx : Markup x) : 0 < x.length := by
  obtain ⟨r, rfl, -⟩ := hx
  simp

theorem strip_markup {cls : Classes} (hs : Sane cls) {pre x post : List Char} (hpre : Ws cls pre) (hpost : Ws cls post)
    (hx : Markup x) : strip cls.isStrip (pre ++ x ++ post) = x := by
  obtain ⟨r, rfl, he⟩ := hx
  exact strip_padded cls.isStrip '<' '>' r pre post hpre hpost hs.strip_lt hs.strip_gt he

/-- the attribute text without its leading space: what the start-tag expression captures as `attrs` -/
def attrsBody : Attrs → List Char
  | [] => []
  | p :: r => attrText p ++ attrsText r

theorem attrsText_eq (a : Attrs) : attrsText a = if a.isEmpty then [] else ' ' :: attrsBody a := by
  cases a <;> rfl

/-- `(.+?)(/*)>` on text that ends with a non-slash character, then at most one slash, then `>` -/
theorem matchAttrsSlash_plain (A sl rest : List Char) (hne : A ≠ []) (hclean : ∀ c ∈ A, c ≠ '>' ∧ c ≠ '\n')
    (hq : ∃ r x, A = r ++ [x] ∧ x ≠ '/') (hsl : sl = [] ∨ sl = ['/']) :
    matchAttrsSlash (A ++ sl ++ '>' :: rest) = some (A, sl) := by
  cases A with
  | nil => exact absurd rfl hne
  | cons c r =>
    have hc : c ≠ '\n' := (hclean c (by simp)).2
    have hstop : ∀ x ∈ r ++ sl, (fun x => decide (x ≠ '>') && decide (x ≠ '\n')) x = true := by
      intro x hx
      rcases List.mem_append.mp hx with hx | hx
      · have := hclean x (List.mem_cons_of_mem _ hx)
        simp [this.1, this.2]
      · rcases hsl with rfl | rfl
        · simp at hx
        · simp only [List.mem_singleton] at hx; subst hx; decide
    obtain ⟨ht, hd⟩ := takeWhile_run (fun x => decide (x ≠ '>') && decide (x ≠ '\n')) (r ++ sl) '>' rest hstop (by simp)
    obtain ⟨r', x, hr', hx⟩ := hq
    have hcount : ((c :: (r ++ sl)).reverse.takeWhile (fun x => decide (x = '/'))).length = sl.length := by
      have : c :: (r ++ sl) = (c :: r) ++ sl := rfl
      rw [this, hr']
      rcases hsl with rfl | rfl
      · simp [hx]
      · simp [List.takeWhile, hx]
    have hxml : (c :: r) ++ sl ++ '>' :: rest = c :: ((r ++ sl) ++ '>' :: rest) := by simp
    rw [hxml]
    unfold matchAttrsSlash
    simp only [hc, ↓reduceIte, hd, ht, hcount]
    have hlen : (c :: (r ++ sl)).length - sl.length = (c :: r).length := by
      simp only [List.length_cons, List.length_append]; omega
    have hmax : max 1 ((c :: r).length) = (c :: r).length := by simp
    rw [hlen, hmax]
    have : c :: (r ++ sl) = (c :: r) ++ sl := rfl
    rw [this]
    simp

theorem matchTag_attrless {cls : Classes} (hs : Sane cls) (n rest : List Char) (hn : PlainName cls n) :
    matchTag1 cls ('<' :: (n ++ '>' :: rest)) = none ∧ matchTag2 cls ('<' :: (n ++ '>' :: rest)) = some n := by
  obtain ⟨ht, hd⟩ := takeWhile_run cls.isWord n '>' rest hn.2 hs.word_gt
  have hne : n.isEmpty = false := by
    cases n with
    | nil => exact absurd rfl hn.1
    | cons _ _ => rfl
  constructor
  · unfold matchTag1
    simp only [ht, hd, hne, Bool.false_eq_true, ↓reduceIte]
    unfold findWs
    simp [hs.space_gt]
  · unfold matchTag2
    simp [ht, hd, hne]

/-- the start-tag expression on `<name`, one white-space character, `attrs`, `(/*)`, `>`: `(\s+?)` takes that one
    character, the shortest prefix after which the rest of the line matches -/
theorem matchTag1_plain {cls : Classes} (hs : Sane cls) (n : List Char) (c : Char) (A sl rest : List Char)
    (hn : PlainName cls n) (hc : cls.isSpace c = true) (hne : A ≠ []) (hclean : ∀ y ∈ A, y ≠ '>' ∧ y ≠ '\n')
    (hq : ∃ r x, A = r ++ [x] ∧ x ≠ '/') (hsl : sl = [] ∨ sl = ['/']) :
    matchTag1 cls ('<' :: (n ++ c :: (A ++ sl ++ '>' :: rest))) = some (n, [c], A, sl) := by
  have hcw : cls.isWord c = false := by
    cases hw : cls.isWord c with
    | false => rfl
    | true => rw [hs.word_not_space c hw] at hc; cases hc
  obtain ⟨ht, hd⟩ := takeWhile_run cls.isWord n c (A ++ sl ++ '>' :: rest) hn.2 hcw
  have hne' : n.isEmpty = false := by
    cases n with
    | nil => exact absurd rfl hn.1
    | cons _ _ => rfl
  unfold matchTag1
  simp only [ht, hd, hne', Bool.false_eq_true, ↓reduceIte]
  unfold findWs
  simp only [hc, ↓reduceIte, matchAttrsSlash_plain A sl rest hne hclean hq hsl, List.nil_append]

theorem slice_last2 (pre rest : List Char) (x y : Char) :
    slice (pre ++ [x, y] ++ rest) ((pre ++ [x, y]).length - 2) (pre ++ [x, y]).length = [x, y] := by
  have h1 : (pre ++ [x, y]).length - 2 = pre.length := by simp
  rw [h1]
  unfold slice
  rw [List.take_left']
  · simp
  · rfl

theorem slice_mid (s b tail : List Char) : slice (s ++ b ++ tail) s.length (s.length + b.length) = b := by
  unfold slice
  have : (s ++ b ++ tail).take (s.length + b.length) = s ++ b := by
    rw [← List.length_append]; exact List.take_left' rfl
  rw [this]
  simp

/-! ### `_find_end_of_element` -/

theorem nestedStep_eq (xml et pat : List Char) (e : Nat)
    (h : indexFrom pat xml 0 = none ∨ ∃ i, indexFrom pat xml 0 = some i ∧ (i = 0 ∨ e ≤ i)) :
    nestedStep xml et pat e = e := by
  unfold nestedStep
  rcases h with h | ⟨i, h, hi⟩
  · rw [h]
  · rw [h]
    simp only
    rcases hi with rfl | hi
    · simp
    · have : ¬ i < e := by omega
      simp [this]

theorem indexFrom_zero (pat xml : List Char) : indexFrom pat xml 0 = findAux pat xml 0 := by
  unfold indexFrom; simp

/-! ### one round of the element loop -/

theorem elementContent_text (inner : List Char → Out Dict) {s : List Char} (h : '<' ∉ s) :
    elementContent inner s = .ok (.str s) := by
  unfold elementContent
  split
  · exact absurd (by simp) h
  · rfl

theorem elementContent_markup {inner : List Char → Out Dict} {x : List Char} {d : Dict} (hx : Markup x)
    (hi : inner x = .ok d) : elementContent inner x = .ok (.dict d) := by
  obtain ⟨r, rfl, -⟩ := hx
  simp only [elementContent, hi]

/-- **One round of the element loop**: white space `sep`, a piece `e` that `parse_first_element` reads as an element
    whose content `elementContent` turns into `v`, the `rest` of the level, white space `trail`.  The element is stored
    and the loop goes on with `rest`; `trail` went with the `strip` of this round. -/
theorem parseLoop_round {cls : Classes} (hs : Sane cls) (sw : Switches) (inner : List Char → Out Dict)
    {sep e rest trail : List Char} {el : Element} {v : XVal} (fuel : Nat) (res : Dict)
    (hsep : Ws cls sep) (htrail : Ws cls trail) (he : Markup e) (hre : rest = [] ∨ EndsWith '>' rest)
    (hpf : parseFirstElement cls sw (e ++ rest) = .ok (el, e.length))
    (hec : elementContent inner el.value = .ok v) :
    parseLoop cls sw inner (fuel + 1) (sep ++ e ++ rest ++ trail) res =
      parseLoop cls sw inner fuel rest (storeElement res el.name (elementValue el.attrs v)) := by
  have hstrip : strip cls.isStrip (sep ++ e ++ rest ++ trail) = e ++ rest := by
    rw [List.append_assoc sep]
    exact strip_markup hs hsep htrail (he.append hre)
  obtain ⟨r, rfl, -⟩ := he
  have hne : (sep ++ '<' :: r ++ rest ++ trail).isEmpty = false := by cases sep <;> rfl
  rw [parseLoop]
  simp only [hne, Bool.false_eq_true, ↓reduceIte, parseStep, hstrip, List.cons_append, ne_eq, not_true_eq_false]
  rw [← List.cons_append, hpf]
  simp only [hec, List.drop_left']

end Kskm.Xml
