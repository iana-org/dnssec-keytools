/-
  What the two behaviour switches of the reader can change.  `Switches` is consulted in one place only, the
  no-match branch of the attribute loop, and there a switch that is on turns "go round again" into a ValueError.
  So with more switches on (`Switches.le`) every reader function returns what it returned before, or a ValueError
  in its place (`Sooner`): an outcome other than ValueError with both switches on is the outcome under every
  setting, and a ValueError with both off is one under every setting (`parseRec_of_strict`, `parseRec_of_lax`).
  A statement about all four settings then needs the reader run once.  The one outcome that does depend on the
  setting is that of a tag whose attribute text the expression does not match (`parseRec_attrs_unmatched`,
  finding F1).
-/
import KskmProofs.Lemmas.XmlTag
namespace Kskm.Xml

/-- `sw'` raises wherever `sw` does -/
def Switches.le (sw sw' : Switches) : Prop :=
  (sw.attrsLoopFailsOnNoMatch = true → sw'.attrsLoopFailsOnNoMatch = true) ∧
  (sw.attrsBlankFails = true → sw'.attrsBlankFails = true)

theorem Switches.le_strict (sw : Switches) : sw.le ⟨true, true⟩ := ⟨fun _ => rfl, fun _ => rfl⟩

theorem Switches.lax_le (sw : Switches) : Switches.le ⟨false, false⟩ sw := ⟨nofun, nofun⟩

/-- the same outcome, or a ValueError in its place -/
def Sooner {α} (r r' : Out α) : Prop := r' = r ∨ r' = .err .value

theorem Sooner.refl {α} (r : Out α) : Sooner r r := Or.inl rfl

theorem Sooner.of_strict {α} {r r' x : Out α} (h : Sooner r r') (hx : r' = x) (hne : x ≠ .err .value) : r = x := by
  rcases h with h | h
  · rw [← h, hx]
  · exact absurd (hx ▸ h) hne

theorem Sooner.of_lax {α} {r r' : Out α} (h : Sooner r r') (hr : r = .err .value) : r' = .err .value :=
  h.elim (fun h => h.trans hr) id

theorem parseAttrs_stricter (cls : Classes) {sw sw' : Switches} (h : sw.le sw') : ∀ (fuel : Nat) (a : List Char) (acc : Attrs),
    Sooner (parseAttrs cls sw fuel a acc) (parseAttrs cls sw' fuel a acc) := by
  intro fuel
  induction fuel with
  | zero => intro a acc; rw [parseAttrs, parseAttrs]; exact .refl _
  | succ f ih =>
    intro a acc
    rw [parseAttrs, parseAttrs]
    split
    · exact .refl _
    · dsimp only
      split
      · exact ih ..
      -- no match: each loop either raises or goes round again, and `sw'` raises if `sw` does
      · split
        · cases hb : sw.attrsBlankFails <;> cases hb' : sw'.attrsBlankFails
          · exact ih ..
          · exact Or.inr rfl
          · exact absurd (h.2 hb) (by simp [hb'])
          · exact .refl _
        · cases ha : sw.attrsLoopFailsOnNoMatch <;> cases ha' : sw'.attrsLoopFailsOnNoMatch
          · exact ih ..
          · exact Or.inr rfl
          · exact absurd (h.1 ha) (by simp [ha'])
          · exact .refl _

theorem parseTag_stricter (cls : Classes) {sw sw' : Switches} (h : sw.le sw') (xml : List Char) :
    Sooner (parseTag cls sw xml) (parseTag cls sw' xml) := by
  unfold parseTag
  split
  · rename_i name ws attrs slash _
    rcases parseAttrs_stricter cls h (attrs.length + 1) attrs [] with h1 | h1 <;> rw [h1]
    · exact .refl _
    · exact Or.inr rfl
  · exact .refl _

theorem parseFirstElement_stricter (cls : Classes) {sw sw' : Switches} (h : sw.le sw') (xml : List Char) :
    Sooner (parseFirstElement cls sw xml) (parseFirstElement cls sw' xml) := by
  unfold parseFirstElement
  rcases parseTag_stricter cls h xml with h1 | h1 <;> rw [h1]
  · exact .refl _
  · exact Or.inr rfl

theorem elementContent_stricter {inner inner' : List Char → Out Dict} (hi : ∀ v, Sooner (inner v) (inner' v))
    (value : List Char) : Sooner (elementContent inner value) (elementContent inner' value) := by
  unfold elementContent
  split
  · rename_i tl
    rcases hi ('<' :: tl) with h1 | h1 <;> rw [h1]
    · exact .refl _
    · exact Or.inr rfl
  · exact .refl _

/-- one iteration: the same step, or the loop ends with a ValueError -/
theorem parseStep_stricter (cls : Classes) {sw sw' : Switches} (h : sw.le sw') {inner inner' : List Char → Out Dict}
    (hi : ∀ v, Sooner (inner v) (inner' v)) (xml : List Char) (res : Dict) :
    parseStep cls sw' inner' xml res = parseStep cls sw inner xml res ∨
      parseStep cls sw' inner' xml res = .done (.err .value) := by
  unfold parseStep
  split
  · exact Or.inl rfl
  · rename_i c t _
    split
    · exact Or.inl rfl
    · rcases parseFirstElement_stricter cls h (c :: t) with h1 | h1 <;> rw [h1]
      · split
        · exact Or.inl rfl
        · exact Or.inl rfl
        · rename_i el endIdx _
          rcases elementContent_stricter hi el.value with h2 | h2 <;> rw [h2]
          · exact Or.inl rfl
          · exact Or.inr rfl
      · exact Or.inr rfl

theorem parseLoop_stricter (cls : Classes) {sw sw' : Switches} (h : sw.le sw') {inner inner' : List Char → Out Dict}
    (hi : ∀ v, Sooner (inner v) (inner' v)) : ∀ (fuel : Nat) (xml : List Char) (res : Dict),
    Sooner (parseLoop cls sw inner fuel xml res) (parseLoop cls sw' inner' fuel xml res) := by
  intro fuel
  induction fuel with
  | zero => intro xml res; rw [parseLoop, parseLoop]; exact .refl _
  | succ f ih =>
    intro xml res
    rw [parseLoop, parseLoop]
    split
    · exact .refl _
    · rcases parseStep_stricter cls h hi xml res with h1 | h1 <;> rw [h1]
      · split
        · exact .refl _
        · exact ih ..
      · exact Or.inr rfl

/-- **A stricter attribute loop changes the outcome of the reader only into a ValueError.** -/
theorem parseRec_stricter (cls : Classes) {sw sw' : Switches} (h : sw.le sw') : ∀ (d : Nat) (xml : List Char),
    Sooner (parseRec cls sw d xml) (parseRec cls sw' d xml) := by
  intro d
  induction d with
  | zero => intro xml; exact parseLoop_stricter cls h (fun _ => .refl _) ..
  | succ d ih => intro xml; exact parseLoop_stricter cls h ih ..

theorem parseKsr_stricter (cls : Classes) {sw sw' : Switches} (h : sw.le sw') (xml : List Char) :
    Sooner (parseKsr cls sw xml) (parseKsr cls sw' xml) := by
  unfold parseKsr
  split
  · exact .refl _
  · exact parseRec_stricter cls h ..

/-- an outcome other than ValueError of the repaired loop is the outcome of either loop … -/
theorem parseRec_of_strict (cls : Classes) (sw : Switches) {d : Nat} {xml : List Char} {r : Out Dict}
    (h : parseRec cls ⟨true, true⟩ d xml = r) (hr : r ≠ .err .value) : parseRec cls sw d xml = r :=
  (parseRec_stricter cls sw.le_strict d xml).of_strict h hr

theorem parseKsr_of_strict (cls : Classes) (sw : Switches) {xml : List Char} {r : Out Dict}
    (h : parseKsr cls ⟨true, true⟩ xml = r) (hr : r ≠ .err .value) : parseKsr cls sw xml = r :=
  (parseKsr_stricter cls sw.le_strict xml).of_strict h hr

/-- … and a ValueError of the pinned loop is one of either -/
theorem parseRec_of_lax (cls : Classes) (sw : Switches) {d : Nat} {xml : List Char}
    (h : parseRec cls ⟨false, false⟩ d xml = .err .value) : parseRec cls sw d xml = .err .value :=
  (parseRec_stricter cls sw.lax_le d xml).of_lax h

/-! ### the outcome that depends on the switch -/

/-- a non-empty string that `strip` leaves alone and the expression does not match: the repaired loop raises,
    the pinned loop looks at it again and again, whatever the fuel -/
theorem parseAttrs_unmatched (cls : Classes) (sw : Switches) {a : List Char} (ha : a ≠ [])
    (hstrip : strip cls.isStrip a = a) (hm : matchAttr cls a = none) (fuel : Nat) (acc : Attrs) :
    parseAttrs cls sw (fuel + 1) a acc = if sw.attrsLoopFailsOnNoMatch then .err .value else .outOfFuel := by
  have hne : a.isEmpty = false := by cases a <;> simp_all
  cases hsw : sw.attrsLoopFailsOnNoMatch with
  | true => rw [parseAttrs]; simp [hne, hstrip, hm, hsw]
  | false =>
    induction fuel with
    | zero => rw [parseAttrs]; simp [hne, hstrip, hm, hsw, parseAttrs]
    | succ f ih => rw [parseAttrs]; simpa [hne, hstrip, hm, hsw] using ih

/-- finding F1 for a whole document: the attribute text of the first tag is not matched -/
theorem parseRec_attrs_unmatched (cls : Classes) (sw : Switches) (d : Nat) (xml n ws A sl : List Char)
    (hm : matchTag1 cls (strip cls.isStrip xml) = some (n, ws, A, sl)) (hA : strip cls.isStrip A = A)
    (hno : matchAttr cls A = none) :
    parseRec cls sw d xml = if sw.attrsLoopFailsOnNoMatch then .err .value else .outOfFuel := by
  obtain ⟨rest, hx, -, -, hne, -⟩ := matchTag1_decomp cls _ n ws A sl hm
  rw [hx] at hm
  have hxne : xml.isEmpty = false := by
    cases xml with
    | nil => simp [strip, lstrip, rstrip] at hx
    | cons _ _ => rfl
  have hloop : ∀ inner, parseLoop cls sw inner (xml.length + 1) xml [] =
      if sw.attrsLoopFailsOnNoMatch then .err .value else .outOfFuel := by
    intro inner
    rw [parseLoop]
    simp only [hxne, parseStep, hx, parseFirstElement, parseTag, hm, parseAttrs_unmatched cls sw hne hA hno]
    cases sw.attrsLoopFailsOnNoMatch <;> simp
  cases d <;> exact hloop _

end Kskm.Xml
