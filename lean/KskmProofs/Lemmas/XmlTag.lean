/-
  Helper lemmas: what the two start-tag expressions consume (a decomposition of the input), and where
  `str.index` can point.
-/
import KskmProofs.Lemmas.XmlBasic
namespace Kskm.Xml

/-! ### `(.+?)(/*)>` -/

theorem matchAttrsSlash_decomp (q a s : List Char) (h : matchAttrsSlash q = some (a, s)) :
    ∃ rest, q = a ++ s ++ '>' :: rest ∧ a ≠ [] := by
  unfold matchAttrsSlash at h
  split at h
  · simp at h
  · rename_i c r
    split at h
    · simp at h
    · simp only at h
      split at h
      · rename_i rest hq
        simp only [Option.some.injEq, Prod.mk.injEq] at h
        obtain ⟨ha, hs⟩ := h
        refine ⟨rest, ?_, ?_⟩
        · rw [← ha, ← hs, List.take_append_drop]
          have := List.takeWhile_append_dropWhile (p := fun x => x ≠ '>' && x ≠ '\n') (l := r)
          rw [hq] at this
          simp only [List.cons_append]
          rw [this]
        · rw [← ha]
          intro hnil
          have := congrArg List.length hnil
          simp only [List.length_take, List.length_cons, List.length_nil] at this
          omega
      · simp at h

/-! ### `(\s+?)(.+?)(/*)>` -/

theorem findWs_decomp (cls : Classes) : ∀ (l acc ws a s : List Char),
    findWs cls acc l = some (ws, a, s) →
    ∃ w rest, ws = acc ++ w ∧ w ≠ [] ∧ l = w ++ a ++ s ++ '>' :: rest ∧ a ≠ [] ∧ (∀ c ∈ w, cls.isSpace c = true) := by
  intro l
  induction l with
  | nil => intro acc ws a s h; simp [findWs] at h
  | cons c q ih =>
    intro acc ws a s h
    unfold findWs at h
    split at h
    · rename_i hc
      split at h
      · rename_i a' s' hm
        simp only [Option.some.injEq, Prod.mk.injEq] at h
        obtain ⟨hws, ha, hs⟩ := h
        subst ha hs
        obtain ⟨rest, hq, hne⟩ := matchAttrsSlash_decomp q a' s' hm
        exact ⟨[c], rest, hws.symm, by simp, by simp [hq], hne, by simpa using hc⟩
      · obtain ⟨w, rest, hws, _, hq, hne, hsp⟩ := ih (acc ++ [c]) ws a s h
        refine ⟨c :: w, rest, by simp [hws], by simp, by simp [hq], hne, ?_⟩
        intro x hx
        rcases List.mem_cons.mp hx with rfl | hx
        · exact hc
        · exact hsp x hx
    · simp at h

theorem matchTag1_decomp (cls : Classes) (xml n ws a s : List Char)
    (h : matchTag1 cls xml = some (n, ws, a, s)) :
    ∃ rest, xml = '<' :: (n ++ ws ++ a ++ s ++ '>' :: rest) ∧ n ≠ [] ∧ ws ≠ [] ∧ a ≠ [] ∧
      (∀ c ∈ n, cls.isWord c = true) ∧ (∀ c ∈ ws, cls.isSpace c = true) := by
  unfold matchTag1 at h
  split at h
  · rename_i r
    simp only at h
    split at h
    · simp at h
    · rename_i hname
      split at h
      · rename_i ws' a' s' hf
        simp only [Option.some.injEq, Prod.mk.injEq] at h
        obtain ⟨hn, hws, ha, hs⟩ := h
        subst hws ha hs
        obtain ⟨w, rest, hw, hwne, hl, hane, hsp⟩ := findWs_decomp cls _ [] ws' a' s' hf
        simp only [List.nil_append] at hw
        subst hw
        refine ⟨rest, ?_, ?_, hwne, hane, ?_, hsp⟩
        · have := List.takeWhile_append_dropWhile (p := cls.isWord) (l := r)
          rw [hl, hn] at this
          rw [← this]
          simp [List.append_assoc]
        · rw [← hn]; intro hnil; simp [hnil] at hname
        · intro c hc
          rw [← hn] at hc
          exact (mem_takeWhile_imp hc)
      · simp at h
  · simp at h

theorem matchTag2_decomp (cls : Classes) (xml n : List Char) (h : matchTag2 cls xml = some n) :
    ∃ rest, xml = '<' :: (n ++ '>' :: rest) ∧ n ≠ [] ∧ (∀ c ∈ n, cls.isWord c = true) := by
  unfold matchTag2 at h
  split at h
  · rename_i r
    simp only at h
    split at h
    · simp at h
    · rename_i hname
      split at h
      · rename_i rest hd
        simp only [Option.some.injEq] at h
        refine ⟨rest, ?_, ?_, ?_⟩
        · have := List.takeWhile_append_dropWhile (p := cls.isWord) (l := r)
          rw [hd, h] at this
          rw [← this]
        · rw [← h]; intro hnil; simp [hnil] at hname
        · intro c hc
          rw [← h] at hc
          exact (mem_takeWhile_imp hc)
      · simp at h
  · simp at h

/-! ### `str.index` -/

theorem findAux_spec {pat : List Char} : ∀ {l : List Char} {i j : Nat}, findAux pat l i = some j →
    ∃ k, j = i + k ∧ pat <+: l.drop k ∧ k + pat.length ≤ l.length := by
  intro l
  induction l with
  | nil =>
    intro i j h
    unfold findAux at h
    split at h
    · rename_i hp
      simp only [Option.some.injEq] at h
      have : pat = [] := by simpa using hp
      exact ⟨0, by omega, by simp [this], by simp [this]⟩
    · simp at h
  | cons c r ih =>
    intro i j h
    unfold findAux at h
    split at h
    · rename_i hp
      simp only [Option.some.injEq] at h
      have hpre : pat <+: c :: r := List.isPrefixOf_iff_prefix.mp hp
      exact ⟨0, by omega, by simpa using hpre, by simpa using hpre.length_le⟩
    · obtain ⟨k, hk, hpre, hlen⟩ := ih h
      exact ⟨k + 1, by omega, by simpa using hpre, by simp; omega⟩

/-- an index returned by `hay.index(pat, start)` is at or after `start`, `pat` occurs there, and the
    occurrence lies inside `hay` -/
theorem indexFrom_spec {pat hay : List Char} {start i : Nat} (h : indexFrom pat hay start = some i) :
    start ≤ i ∧ pat <+: hay.drop i ∧ i + pat.length ≤ hay.length := by
  unfold indexFrom at h
  split at h
  · simp at h
  · rename_i hs
    obtain ⟨k, hk, hpre, hlen⟩ := findAux_spec h
    subst hk
    refine ⟨by omega, ?_, ?_⟩
    · rw [← List.drop_drop]; exact hpre
    · simp only [List.length_drop] at hlen; omega

theorem parseKsr_of_index {cls : Classes} {sw : Switches} {xml : List Char} {i : Nat}
    (h : indexFrom kKSRopen xml 0 = some i) : parseKsr cls sw xml = parseRec cls sw 5 (xml.drop i) := by
  unfold parseKsr
  rw [h]
  rfl

end Kskm.Xml
