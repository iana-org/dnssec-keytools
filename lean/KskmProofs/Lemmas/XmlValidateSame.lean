/-
  The verdict of validation on `SameRequest` / `SameResponsePerm` objects (C12, sibling order).

  Two requests that are the same Python object up to the list representation of their `set` fields are
  accepted or rejected together by `validate_request`; likewise two responses by `validate_response` and the
  gate of `load_skr`.  Rule by rule, from the characterisations proved for C05 (timing rules: functions of
  the bundle list's ids / inceptions / expirations), C06 (key, algorithm and header rules: stated by
  membership in the declared algorithms and over the multiset of all keys) and C07 (`validate_signatures` /
  proof of possession: `C07_order_invariant`, `validateSignatures_perm` — the keys up to order, the signatures as a set).

  WHICH rule rejects may depend on the order in which a set is visited when several are violated (the first
  offending element raises); what is invariant — and stated — is acceptance.  The ECDSA / EdDSA parameter
  search of `check_keys_match_zsk_policy` is order dependent for a declared entry whose algorithm number is
  not of its own family (`C06.ecdsa_declared_order_witness`); no such entry can come out of the loader
  (`C06.declaredWellFormed_of_parsed`), so the hypothesis `DeclaredWellFormed` is discharged for loaded requests.
-/
import KskmProofs.Lemmas.XmlGlueSame
import KskmProofs.C05
import KskmProofs.C06
import KskmProofs.C07
import KskmProofs.C08
import KskmProofs.C13
namespace Kskm.Xml
open Kskm.C05 Kskm.C06 Kskm.C07

theorem SameRequest.get_left {a b : Request} (h : SameRequest a b) {i : Nat} {x : Bundle} (hx : a.bundles[i]? = some x) :
    ∃ y, b.bundles[i]? = some y ∧ SameBundle x y := by
  have hi : i < a.bundles.length := (List.getElem?_eq_some_iff.mp hx).1
  have hi' : i < b.bundles.length := h.length ▸ hi
  exact ⟨b.bundles[i], List.getElem?_eq_getElem hi', h.bundles i x _ hx (List.getElem?_eq_getElem hi')⟩

theorem SameRequest.mem_left {a b : Request} (h : SameRequest a b) {x : Bundle} (hx : x ∈ a.bundles) :
    ∃ y ∈ b.bundles, SameBundle x y := by
  obtain ⟨i, hi⟩ := List.mem_iff_getElem?.mp hx
  obtain ⟨y, hy, hs⟩ := h.get_left hi
  exact ⟨y, List.mem_of_getElem? hy, hs⟩

theorem SameRequest.allKeys_perm {a b : Request} (h : SameRequest a b) : (allKeys a).Perm (allKeys b) :=
  allKeys_perm_of_bundles _ _ h.length (fun i x y hx hy => (h.bundles i x y hx hy).keys)

theorem SameRequest.wellFormed {a b : Request} (h : SameRequest a b) (hw : DeclaredWellFormed a) : DeclaredWellFormed b :=
  fun x hx => hw x (h.zskPolicy.algorithms.mem_iff.mpr hx)

/-! ### the rules, one by one: each accepts `a` iff it accepts `b` (→; ← by symmetry) -/

theorem keyClause_same {a b : Request} (h : SameRequest a b) (pol : RequestPolicy) (k : Key)
    (hk : KeyClause a pol k) : KeyClause b pol k := by
  have hm : ∀ x, x ∈ a.zskPolicy.algorithms → x ∈ b.zskPolicy.algorithms :=
    fun x hx => h.zskPolicy.algorithms.mem_iff.mp hx
  obtain ⟨hf, hc⟩ := hk
  refine ⟨hf, ?_⟩
  rcases hc with ⟨ha, pk, pub, h1, h2, x, hx, h3⟩ | ⟨ha, pk, h1, x, hx, h3⟩ | ⟨ha, pk, h1, x, hx, h3⟩
  · exact Or.inl ⟨ha, pk, pub, h1, h2, x, hm x hx, h3⟩
  · exact Or.inr (Or.inl ⟨ha, pk, h1, x, hm x hx, h3⟩)
  · exact Or.inr (Or.inr ⟨ha, pk, h1, x, hm x hx, h3⟩)

theorem keysMatch_same {a b : Request} (h : SameRequest a b) (hw : DeclaredWellFormed a) (pol : RequestPolicy)
    (hok : checkKeysMatchZskPolicy a pol = .ok ()) : checkKeysMatchZskPolicy b pol = .ok () := by
  cases hf : pol.keysMatchZskPolicy
  · simp [checkKeysMatchZskPolicy, hf]
  · rw [keysMatch_iff a pol hf] at hok
    rw [keysMatch_iff b pol hf]
    have hp := h.allKeys_perm
    refine ⟨fun k hk => ?_, ?_⟩
    · rw [checkNewKey_iff_partial b pol k (h.wellFormed hw)]
      exact keyClause_same h pol k ((checkNewKey_iff_partial a pol k hw).mp (hok.1 k (hp.mem_iff.mpr hk)))
    · intro k₁ h1 k₂ h2
      exact hok.2 k₁ (hp.mem_iff.mpr h1) k₂ (hp.mem_iff.mpr h2)

theorem uniqueIds_same {a b : Request} (h : SameRequest a b) : checkUniqueIds a = checkUniqueIds b := by
  have e : hasDupBundleIds a.bundles = hasDupBundleIds b.bundles := by
    have := h.all₂
    generalize a.bundles = l, b.bundles = l' at this
    induction this with
    | nil => rfl
    | @cons x y l l' h1 t ih =>
      simp only [hasDupBundleIds, ih, h1.id]
      congr 1
      clear ih
      induction t with
      | nil => rfl
      | cons h2 _ ih2 => simp only [List.any_cons, ih2, h2.id]
  unfold checkUniqueIds
  rw [e]

theorem cycleClause_same {a b : Request} (h : SameRequest a b) (pol : RequestPolicy) (hc : CycleClause a pol) :
    CycleClause b pol := by
  intro f l hf hl
  rw [List.head?_eq_getElem?] at hf
  rw [List.getLast?_eq_getElem?] at hl
  obtain ⟨f', hf', sf⟩ := h.symm.get_left hf
  obtain ⟨l', hl', sl⟩ := h.symm.get_left hl
  have := hc f' l' (by rw [List.head?_eq_getElem?]; exact hf')
    (by rw [List.getLast?_eq_getElem?, h.length]; exact hl')
  rw [sf.inception, sl.inception]
  exact this

theorem overlapClause_same {a b : Request} (h : SameRequest a b) (hc : OverlapClause a) : OverlapClause b := by
  intro i p t hp ht
  obtain ⟨p', hp', sp⟩ := h.symm.get_left hp
  obtain ⟨t', ht', st⟩ := h.symm.get_left ht
  have := hc i p' t' hp' ht'
  rw [sp.expiration, st.inception, ← h.zskPolicy.minValidityOverlap, ← h.zskPolicy.maxValidityOverlap]
  exact this

theorem intervalClause_same {a b : Request} (h : SameRequest a b) (pol : RequestPolicy) (hc : IntervalClause a pol) :
    IntervalClause b pol := by
  intro i p t hp ht
  obtain ⟨p', hp', sp⟩ := h.symm.get_left hp
  obtain ⟨t', ht', st⟩ := h.symm.get_left ht
  have := hc i p' t' hp' ht'
  rw [sp.inception, st.inception]
  exact this

theorem validityClause_same {a b : Request} (h : SameRequest a b) (hc : ValidityClause a) : ValidityClause b := by
  intro x hx
  obtain ⟨y, hy, s⟩ := h.symm.mem_left hx
  have := hc y hy
  rw [s.expiration, s.inception, ← h.zskPolicy.minSignatureValidity, ← h.zskPolicy.maxSignatureValidity]
  exact this

theorem horizon_same {a b : Request} (h : SameRequest a b) (now : Int) (pol : RequestPolicy)
    (hok : checkSignatureHorizon now a pol = .ok ()) : checkSignatureHorizon now b pol = .ok () := by
  unfold checkSignatureHorizon at hok ⊢
  split
  · rfl
  · rename_i hf
    rw [if_neg hf, forEach_ok_iff] at hok
    rw [forEach_ok_iff]
    intro x hx
    obtain ⟨y, hy, s⟩ := h.symm.mem_left hx
    have := hok y hy
    unfold checkHorizonOne at this ⊢
    rw [s.expiration]
    exact this

theorem keyCounts_same {a b : Request} (h : SameRequest a b) (pol : RequestPolicy) (hc : KeyCountsClause a pol) :
    KeyCountsClause b pol := by
  obtain ⟨h1, h2, h3⟩ := hc
  refine ⟨h.length ▸ h1, ?_, ?_⟩
  · intro i x n hx hn
    obtain ⟨y, hy, s⟩ := h.symm.get_left hx
    rw [s.keys.length_eq]
    exact h2 i y n hy hn
  · rw [← h3]
    congr 1
    symm
    obtain ⟨d, hd, hm, hl⟩ := distinctKeyCount_spec a
    rw [← hl]
    apply distinctKeyCount_unique b d hd
    intro x
    rw [hm]
    have hp := h.allKeys_perm
    exact ⟨fun ⟨k, hk, e⟩ => ⟨k, hp.mem_iff.mp hk, e⟩, fun ⟨k, hk, e⟩ => ⟨k, hp.mem_iff.mpr hk, e⟩⟩

theorem algorithmClause_same {a b : Request} (h : SameRequest a b) (pol : RequestPolicy) (hc : AlgorithmClause a pol) :
    AlgorithmClause b pol := by
  have hm : ∀ x, x ∈ b.zskPolicy.algorithms → x ∈ a.zskPolicy.algorithms :=
    fun x hx => h.zskPolicy.algorithms.mem_iff.mpr hx
  exact ⟨fun x hx => hc.1 x (hm x hx), fun hf => ⟨(hc.2 hf).1, fun x hx => (hc.2 hf).2 x (hm x hx)⟩⟩

theorem validateRequest_same_mp (verify : Verifier) (now : Int) (pol : RequestPolicy) {a b : Request}
    (h : SameRequest a b) (hw : DeclaredWellFormed a) (hok : validateRequest verify now a pol = .ok ()) :
    validateRequest verify now b pol = .ok () := by
  rw [validateRequest_ok_iff] at hok ⊢
  obtain ⟨h1, h2, h3, h4, h5, h6, h7, h8, h9, h10, h11, h12⟩ := hok
  refine ⟨?_, ?_, keysMatch_same h hw pol h3, ?_, ?_, ?_, ?_, ?_, ?_, ?_, horizon_same h now pol h11, ?_⟩
  · unfold checkDomain at h1 ⊢; rw [← h.domain]; exact h1
  · rw [← uniqueIds_same h]; exact h2
  · exact (C07_order_invariant verify a b pol h.length
      (fun i x y hx hy => ⟨(h.bundles i x y hx hy).keys, (h.bundles i x y hx hy).signatures⟩)).mp h4
  · unfold checkBundleCount at h5 ⊢; rw [← h.length]; exact h5
  · rw [cycle_iff] at h6 ⊢; exact fun hf => cycleClause_same h pol (h6 hf)
  · rw [keysInBundles_iff] at h7 ⊢; exact fun hf => keyCounts_same h pol (h7 hf)
  · rw [zskPolicyAlgorithm_iff] at h8 ⊢; exact algorithmClause_same h pol h8
  · rw [overlap_iff] at h9 ⊢; exact fun hf => overlapClause_same h (h9 hf)
  · rw [validity_iff] at h10 ⊢; exact fun hf => validityClause_same h (h10 hf)
  · rw [interval_iff] at h12 ⊢; exact fun hf => intervalClause_same h pol (h12 hf)

/-- **The verdict of `validate_request` does not depend on the order in which the `set` fields were
    filled**: `SameRequest` objects are accepted together or rejected together — for every verifier, clock
    value and policy (every flag assignment). -/
theorem validateRequest_same (verify : Verifier) (now : Int) (pol : RequestPolicy) {a b : Request}
    (h : SameRequest a b) (hw : DeclaredWellFormed a) :
    validateRequest verify now a pol = .ok () ↔ validateRequest verify now b pol = .ok () :=
  ⟨validateRequest_same_mp verify now pol h hw, validateRequest_same_mp verify now pol h.symm (h.wellFormed hw)⟩

/-- an accepted request has pairwise distinct bundle ids (`check_unique_ids` is not behind a flag) -/
theorem validateRequest_ids (verify : Verifier) (now : Int) (r : Request) (pol : RequestPolicy)
    (h : validateRequest verify now r pol = .ok ()) : r.bundles.Pairwise (fun a b => a.id ≠ b.id) := by
  rw [validateRequest_ok_iff] at h
  rw [pairwise_ids_iff]
  exact (uniqueIds_iff r).mp h.2.1

/-- **`RequestSame` requests under the full sort key are accepted together, and an accepted pair is `SameRequest`**:
    an accepted request has pairwise distinct ids, so the bundle lists agree position by position -/
theorem validateRequest_requestSame {r r' : Request} (h : RequestSame true r r') (hwf : DeclaredWellFormed r)
    (verify : Verifier) (now : Int) (pol : RequestPolicy) :
    (validateRequest verify now r pol = .ok () ↔ validateRequest verify now r' pol = .ok ()) ∧
    (validateRequest verify now r pol = .ok () → SameRequest r r') := by
  have hl : validateRequest verify now r pol = .ok () → SameRequest r r' :=
    fun hv => h.same (Or.inl (validateRequest_ids verify now r pol hv))
  refine ⟨⟨fun hv => (validateRequest_same verify now pol (hl hv) hwf).mp hv, fun hv => ?_⟩, hl⟩
  exact (validateRequest_same verify now pol (h.same (Or.inr (validateRequest_ids verify now r' pol hv))) hwf).mpr hv

theorem All₂.mem_right {α β} {R : α → β → Prop} : ∀ {l : List α} {l' : List β}, All₂ R l l' → ∀ y ∈ l', ∃ x ∈ l, R x y
  | _, _, .nil, y, hy => by simp at hy
  | _, _, .cons (a := a) h t, y, hy => by
    rcases List.mem_cons.mp hy with rfl | hy
    · exact ⟨a, List.mem_cons_self, h⟩
    · obtain ⟨x, hx, hr⟩ := All₂.mem_right t y hy
      exact ⟨x, List.mem_cons_of_mem _ hx, hr⟩

theorem All₂.flip {α β} {R : α → β → Prop} : ∀ {l : List α} {l' : List β}, All₂ R l l' → All₂ (fun b a => R a b) l' l
  | _, _, .nil => .nil
  | _, _, .cons h t => .cons h (All₂.flip t)

theorem PermRel.mem_right {α} {R : α → α → Prop} {l l' : List α} (h : PermRel R l l') : ∀ y ∈ l', ∃ x ∈ l, R x y := by
  obtain ⟨m, hp, ha⟩ := h
  intro y hy
  obtain ⟨x, hx, hr⟩ := ha.mem_right y hy
  exact ⟨x, hp.mem_iff.mpr hx, hr⟩

theorem PermRel.symm {α} {R : α → α → Prop} (hs : ∀ a b, R a b → R b a) {l l' : List α} (h : PermRel R l l') :
    PermRel R l' l := by
  obtain ⟨m, hp, ha⟩ := h
  obtain ⟨m', hp', ha'⟩ := All₂.perm_comm hp.symm ha.flip
  exact ⟨m', hp', ha'.imp (fun _ _ h => hs _ _ h)⟩

theorem validateResponse_of_bundles (verify : Verifier) (pol : ResponsePolicy) {a b : Response}
    (hl : a.bundles.length = b.bundles.length) (hm : ∀ y ∈ b.bundles, ∃ x ∈ a.bundles, SameBundle x y)
    (hok : validateResponse verify a pol = .ok ()) : validateResponse verify b pol = .ok () := by
  rw [C08.validateResponse_ok_iff_perBundle] at hok ⊢
  refine ⟨hl ▸ hok.1, fun y hy => ?_⟩
  obtain ⟨x, hx, s⟩ := hm y hy
  have := hok.2 x hx
  rw [C08.checkValidSignatures_ok_iff] at this ⊢
  exact this.imp_right (validateSignatures_perm verify s.keys fun _ => s.signatures.mem_iff).mp

/-- **The verdict of `validate_response`** is the same on responses whose bundle lists hold the same bundles
    (up to `set` fields) in ANY order — it checks the count and every bundle on its own -/
theorem validateResponse_same (verify : Verifier) (pol : ResponsePolicy) {a b : Response}
    (h : PermRel SameBundle a.bundles b.bundles) :
    validateResponse verify a pol = .ok () ↔ validateResponse verify b pol = .ok () :=
  have h' := h.symm (fun _ _ s => s.symm)
  ⟨validateResponse_of_bundles verify pol h.length_eq h.mem_right,
   validateResponse_of_bundles verify pol h'.length_eq h'.mem_right⟩

/-- … and so is the gate of `load_skr` -/
theorem loadSkrGate_same (verify : Verifier) (pol : ResponsePolicy) {a b : Response}
    (h : PermRel SameBundle a.bundles b.bundles) :
    loadSkrGate verify a pol = .ok () ↔ loadSkrGate verify b pol = .ok () := by
  rw [C13.loadSkrGate_ok_iff, C13.loadSkrGate_ok_iff]
  exact validateResponse_same verify pol h

/-! ### `load_ksr` / `load_skr` return an object exactly when the text loads and validates -/

theorem loadKsr_ok_iff (cls : Classes) (sw : Switches) (gs : GlueSwitches) (verify : Verifier) (now : Int)
    (f : FileOracle) (pol : RequestPolicy) (ro : Bool) (hsz : f.statSize ≤ KskmGen.maxKsrSize) (xml : List Char)
    (hd : f.decode (f.read KskmGen.maxKsrSize) = some xml) (r : Request) :
    (loadKsr cls sw gs verify now f pol ro).result = .done (.ok r) ↔
      requestFromXmlL cls sw gs xml = .done (.ok r) ∧ validateRequest verify now r pol = .ok () := by
  rw [C13.loadKsr_result_ok_iff]
  constructor
  · rintro ⟨_, xml', hd', h⟩
    rw [hd] at hd'; cases hd'; exact h
  · exact fun h => ⟨hsz, xml, hd, h⟩

theorem loadSkr_ok_iff (cls : Classes) (sw : Switches) (gs : GlueSwitches) (verify : Verifier)
    (f : FileOracle) (pol : ResponsePolicy) (hsz : f.statSize ≤ KskmGen.maxSkrSize) (xml : List Char)
    (hd : f.decode (f.read KskmGen.maxSkrSize) = some xml) (r : Response) :
    (loadSkr cls sw gs verify f pol).result = .done (.ok r) ↔
      responseFromXmlL cls sw gs xml = .done (.ok r) ∧ loadSkrGate verify r pol = .ok () := by
  rw [C13.loadSkr_result_ok_iff]
  constructor
  · rintro ⟨_, xml', hd', h⟩
    rw [hd] at hd'; cases hd'; exact h
  · exact fun h => ⟨hsz, xml, hd, h⟩

end Kskm.Xml
